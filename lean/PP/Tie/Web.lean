import PP.Extracted
import PP.Model.Web
/-
Pins of the web model (PP/Model/Web.lean) against stack/webstack/webstack.go:
the constants, the similarity switch, and the ORDER of the handler's checks
(method, maxmem, augment, snapshot, similarity) and of snapshot's loop.
-/
namespace PP.Tie
open PP

theorem pin_web_method : Extracted.webMethod = methodGET := rfl
theorem pin_web_default_maxmem : (Extracted.webDefaultMaxmem : Int) = defaultMaxmem := rfl
theorem pin_web_min_buf : Extracted.webMinBuf = minBuf := rfl
theorem pin_web_grow_factor : Extracted.webGrowFactor = 2 := rfl

def lvlName : Lvl → String
  | .exactFlags => "ExactFlags" | .exactLines => "ExactLines"
  | .anyPointer => "AnyPointer" | .anyValue => "AnyValue"

/-- every label of the switch maps to the level the code assigns … -/
theorem pin_web_similarity_cases :
    ∀ c ∈ Extracted.webSimilarityCases, ∀ s ∈ c.1, (parseSimilarity s).map lvlName = some c.2 := by
  decide +kernel

/-- … and the labels are exactly the accepted spellings -/
theorem pin_web_similarity_labels :
    Extracted.webSimilarityCases.flatMap (·.1) =
      [b!"exactflags", b!"exactlines", b!"anypointer", b!"", b!"anyvalue"] := rfl

/-- the order of the handler: method → 405; maxmem (Atoi) → 400; augment (Atoi,
`v < 0 || v > 1`) → 400, `v == 0` clears AnalyzeSources; snapshot → 500; only
then similarity → 400 (default case). -/
theorem pin_web_handler_order :
    Extracted.webHandlerEvents =
      ["cmp:Method!=GET", "error:StatusMethodNotAllowed",
       "form:maxmem", "call:Atoi", "error:StatusBadRequest",
       "call:DefaultOpts",
       "form:augment", "call:Atoi", "cmp:v<0", "cmp:v>1", "error:StatusBadRequest",
       "cmp:v==0", "set:AnalyzeSources=false",
       "call:snapshot", "error:StatusInternalServerError",
       "form:similarity", "default", "error:StatusBadRequest",
       "call:ToHTML", "call:Aggregate"] := rfl

/-- snapshot: clamp (`maxmem < len(buf)`), then per iteration `n < len(buf)` →
break, `len(buf) >= maxmem` → break, `l > maxmem` clamp; ScanSnapshot after the loop. -/
theorem pin_web_snapshot_order :
    Extracted.webSnapshotEvents =
      ["cmp:<:maxmem len", "call:Stack", "cmp:<:n len", "break", "cmp:>=:len maxmem", "break",
       "cmp:>:l maxmem", "call:ScanSnapshot"] := rfl

end PP.Tie
