import PP.TranslatedAug
import PP.Model.Augment
import PP.Lemmas.AugmentLemmas
/-
Agreement theorems for group Aug (tie A of DESIGN.md): `augmentCall` (stack/source.go) and
`(*Args).walk` (stack/stack.go), translated from the Go source on every run (`PP/TranslatedAug.lean`) and proved equal to the
hand-written model `PP/Model/Augment.lean` (`flatL`, `pop`, `popFmt`, `popName`, `popNames`,
`render`, `augmentLoop`, `augmentCall`) the theorems of C19 are about.

Every theorem is for EVERY oracle of the environment: the result `eat` of
`extractArgumentsType` (type names + ellipsis flag, any function of the declaration), the
float formatting `ff`, and the loop fuel.
-/
namespace PP.TrAu
open PP PP.Go PP.Bytes PP.Aug PP.Spec

/-! ### the model side, phrased on the Go data -/

mutual
/-- the `*Arg` `walk` calls its visitor on, in order (as values) -/
def scal1 : Arg → List Arg
  | .scalar n v p o i => [.scalar n v p o i]
  | .agg fs _ => scalL fs
def scalL : List Arg → List Arg
  | [] => []
  | a :: as => scal1 a ++ scalL as
end

/-- what `augmentCall` reads through a `*Arg` -/
def toFlat (a : Arg) : Flat := ⟨(ofArg a).name, (ofArg a).value, (ofArg a).isOffsetTooLarge⟩

mutual
theorem map_scal1 : ∀ a : Arg, (scal1 a).map toFlat = flat1 a
  | .scalar n v p o i => by simp [scal1, flat1, toFlat]
  | .agg fs e => by simp only [scal1, flat1]; exact map_scalL fs
theorem map_scalL : ∀ l : List Arg, (scalL l).map toFlat = flatL l
  | [] => by simp [scalL, flatL]
  | a :: as => by simp only [scalL, flatL, List.map_append, map_scal1 a, map_scalL as]
end

theorem scalL_length (l : List Arg) : (scalL l).length = (flatL l).length := by
  rw [← map_scalL, List.length_map]

/-- `f.Recv != nil && len(f.Recv.List) != 1` -/
def recvBad (f : TN.GoFuncDecl) : Bool :=
  match f.recv with
  | some l => l.length != 1
  | none => false

/-- the call after the strings `ps` have been appended to `Processed`: nothing else changes -/
def addProcessed (c : Call) (ps : List Bytes) : Call :=
  { c with args := { c.args with processed := c.args.processed ++ ps } }

/-- the model's loop with `fuel` iterations at most, as the translated code sees it: `none` is
the Go panic (`types[len(types)-1]` on an empty list) or the fuel running out -/
def liftLoop (c : Call) : Except AugErr (List Bytes) → Option Call
  | .ok ps => some (addProcessed c ps)
  | .error _ => none

def augModel (ff : FloatFmt) (fuel : Nat) (c : Call) (types : List Bytes) (extra : Bool) : Option Call :=
  liftLoop c (augmentLoop ff types.getLast? extra fuel types c.args.values (flatL c.args.values))

def modelEnv (eat : TN.GoFuncDecl → List Bytes × Bool) (ff : FloatFmt) (fuel : Nat) : Env where
  walk a := some (scalL a.values)
  augmentCall c f := if recvBad f then some c else augModel ff fuel c (eat f).1 (eat f).2
  extractArgumentsType := eat
  formatFloat32 := ff.f32
  formatFloat64 := ff.f64
  fuel := fuel

variable (eat : TN.GoFuncDecl → List Bytes × Bool) (ff : FloatFmt) (fuel : Nat)

@[simp] theorem mE_walk (a : Args) : (modelEnv eat ff fuel).walk a = some (scalL a.values) := rfl
@[simp] theorem mE_augmentCall (c : Call) (f : TN.GoFuncDecl) :
    (modelEnv eat ff fuel).augmentCall c f = if recvBad f then some c else augModel ff fuel c (eat f).1 (eat f).2 := rfl
@[simp] theorem mE_eat (f : TN.GoFuncDecl) : (modelEnv eat ff fuel).extractArgumentsType f = eat f := rfl
@[simp] theorem mE_f32 (b : Nat) : (modelEnv eat ff fuel).formatFloat32 b = ff.f32 b := rfl
@[simp] theorem mE_f64 (b : Nat) : (modelEnv eat ff fuel).formatFloat64 b = ff.f64 b := rfl
@[simp] theorem mE_fuel : (modelEnv eat ff fuel).fuel = fuel := rfl

theorem walk_loop (a : Args) : ∀ (xs pre acc : List Arg), a.values = pre ++ xs →
    forIdx (fun i _x => walk_loop1 (modelEnv eat ff fuel) a i _x) xs pre.length acc = some (acc ++ scalL xs)
  | [], _, acc, _ => by simp [scalL]
  | x :: xs, pre, acc, h => by
    rw [forIdx_cons]
    have hx : a.values[pre.length]? = some x := by rw [h]; simp
    have ih := walk_loop a xs (pre ++ [x])
    simp only [List.length_append, List.length_cons, List.length_nil, Nat.zero_add] at ih
    cases x with
    | scalar n v p o i =>
      simp only [walk_loop1, hx, ofArg_scalar, Bool.false_eq_true, if_false]
      rw [ih _ (by simp [h])]
      simp [scalL, scal1]
    | agg fs e =>
      simp only [walk_loop1, hx, ofArg_agg, if_true, mE_walk]
      rw [ih _ (by simp [h])]
      simp [scalL, scal1]

theorem tie_walk (a : Args) : walk (modelEnv eat ff fuel) a = (modelEnv eat ff fuel).walk a := by
  have h := walk_loop eat ff fuel a a.values [] [] (by simp)
  simp only [List.length_nil] at h
  simp only [walk, h, mE_walk, List.nil_append]

theorem pop_eq (E : Env) (fl : List Arg) : augmentCall_pop E fl = some (fl.tail, fl.head?) := by
  cases fl with
  | nil => simp [augmentCall_pop]
  | cons x t => simp [augmentCall_pop, goSlice]

theorem popFmt_eq (E : Env) (fl : List Arg) (g : Nat → Bytes) :
    augmentCall_popFmt E fl (fun v => some (g v)) = some (fl.tail, (Aug.popFmt g (fl.map toFlat)).1) := by
  cases fl with
  | nil => simp [augmentCall_popFmt, pop_eq, Aug.popFmt, Aug.pop]
  | cons x t =>
    simp only [augmentCall_popFmt, pop_eq, List.head?_cons, List.tail_cons, Option.isNone_some, Bool.false_eq_true,
      if_false, Aug.popFmt, Aug.pop, List.map_cons, toFlat]
    split <;> rfl

theorem popName_eq (E : Env) (fl : List Arg) :
    augmentCall_popName E fl = some (fl.tail, (Aug.popName (fl.map toFlat)).1) := by
  cases fl with
  | nil => simp [augmentCall_popName, pop_eq, Aug.popName, Aug.pop]
  | cons x t =>
    simp only [augmentCall_popName, pop_eq, List.head?_cons, List.tail_cons, Option.isNone_some, Bool.false_eq_true,
      if_false, Aug.popName, Aug.pop, List.map_cons, toFlat, goHex]
    split
    · rfl
    · split <;> rfl

theorem popFmt_bool (E : Env) (fl : List Arg) :
    augmentCall_popFmt E fl (fun v => if v == 0 then some b!"false" else some b!"true") =
      some (fl.tail, (Aug.popFmt fmtBool (fl.map toFlat)).1) := by
  have h : (fun v : Nat => if v == 0 then some b!"false" else some b!"true") = fun v => some (fmtBool v) := by
    funext v
    cases v <;> rfl
  rw [h, popFmt_eq]

theorem popNames_succ (n : Nat) (flat : List Flat) :
    popNames (n + 1) flat = ((Aug.popName flat).1 :: (popNames n (Aug.popName flat).2).1, (popNames n (Aug.popName flat).2).2) := rfl

/-- the visitor of the aggregate case: one `popName()` per visited scalar -/
theorem loop3_eq (call : Call) (f : TN.GoFuncDecl) (types : List Bytes) (extra : Bool) (i : Nat) (t str : Bytes) (v : Args) :
    ∀ (xs : List Arg) (k : Nat) (fl : List Arg) (fields : List Bytes),
    forIdx (fun _i arg => augmentCall_loop3 (modelEnv eat ff fuel) call f types extra i t str v arg _i) xs k (fl, fields)
      = some (fl.drop xs.length, fields ++ (popNames xs.length (fl.map toFlat)).1)
  | [], k, fl, fields => by simp [popNames]
  | x :: xs, k, fl, fields => by
    rw [forIdx_cons]
    simp only [augmentCall_loop3, popName_eq]
    rw [loop3_eq call f types extra i t str v xs (k + 1) fl.tail (fields ++ [(Aug.popName (fl.map toFlat)).1])]
    simp only [List.length_cons, popNames_succ, popName_tail, List.map_tail]
    cases fl <;> simp

/-! ### one iteration once `t` is known: the `switch t` -/

/-- a branch per case of `switch t`, in the order of the source -/
def pick {α : Type} (a1 a2 a3 a4 a5 a6 a7 a8 a9 a10 d1 d2 d3 d4 : α) : Kind → α
  | .float32 => a1 | .float64 => a2 | .int => a3 | .int8 => a4 | .int16 => a5 | .int32 => a6 | .int64 => a7
  | .uint => a8 | .bool => a9 | .string => a10 | .star => d1 | .single => d2 | .slice => d3 | .other => d4

/-- the `switch t` of `augmentCall`, as translated, takes the branch `classify t` names -/
theorem switch_classify {α : Type} (t : Bytes) (a1 a2 a3 a4 a5 a6 a7 a8 a9 a10 d1 d2 d3 d4 : α) :
    (if (t == b!"float32") then a1
     else if (t == b!"float64") then a2
     else if (t == b!"int") then a3
     else if (t == b!"int8") then a4
     else if (t == b!"int16") then a5
     else if (t == b!"int32") || (t == b!"rune") then a6
     else if (t == b!"int64") then a7
     else if (t == b!"uint") || (t == b!"uint8") || (t == b!"uint16") || (t == b!"uint32") || (t == b!"uint64")
        || (t == b!"uintptr") || (t == b!"byte") then a8
     else if (t == b!"bool") then a9
     else if (t == b!"string") then a10
     else if (hasPrefix t b!"*") then d1
     else if (((hasPrefix t b!"map[") || (hasPrefix t b!"chan ")) || (t == b!"func")) then d2
     else if (hasPrefix t b!"[]") then d3
     else d4) =
    pick a1 a2 a3 a4 a5 a6 a7 a8 a9 a10 d1 d2 d3 d4 (classify t) := by
  simp only [classify, apply_ite (pick a1 a2 a3 a4 a5 a6 a7 a8 a9 a10 d1 d2 d3 d4), beq_iff_eq, Bool.or_eq_true,
    decide_eq_true_eq, or_assoc]
  rfl

theorem goFormatUint_eq : goFormatUint = formatUint := rfl
theorem goFormatInt_eq : goFormatInt = formatInt := rfl
theorem goTrunc_eq : goTrunc = toSigned := rfl
theorem goHex_eq : goHex = natToHex := rfl

theorem join1_eq (call : Call) (f : TN.GoFuncDecl) (fl : List Arg) (types : List Bytes) (extra : Bool) (i : Nat) (t : Bytes) :
    augmentCall_join1 (modelEnv eat ff fuel) call f fl types extra i t =
      some (addProcessed call [(render ff t (call.args.values.drop i) (fl.map toFlat)).1],
        fl.drop (consumed t (call.args.values.drop i)), i + 1) := by
  unfold augmentCall_join1 render consumed
  dsimp only
  rw [switch_classify]
  generalize classify t = k
  cases k with
  | other =>
    simp only [pick, popName_eq, pop_eq, loop3_eq, mE_walk, ← List.head?_drop]
    cases hd : call.args.values.drop i with
    | nil =>
      have hi : ¬ i < call.args.values.length := Nat.not_lt.mpr (List.drop_eq_nil_iff.mp hd)
      simp only [List.head?_nil, hi, decide_false, Bool.false_eq_true, if_false, addProcessed,
        ← List.drop_one, List.drop_drop]
    | cons v vs =>
      have hi : i < call.args.values.length :=
        Nat.lt_of_not_le fun h => by rw [List.drop_eq_nil_iff.mpr h] at hd; cases hd
      cases v with
      | scalar n w p o ia =>
        simp only [List.head?_cons, hi, decide_true, if_true, ofArg_scalar, Bool.false_eq_true, if_false, addProcessed,
          ← List.drop_one, List.drop_drop]
      | agg fs e =>
        cases e <;> simp only [List.head?_cons, hi, decide_true, if_true, ofArg_agg, scalL_length, addProcessed,
          Bool.false_eq_true, if_false, List.nil_append]
  | _ =>
    simp only [pick, popFmt_eq, popName_eq, popFmt_bool, mE_f32, mE_f64, goFormatInt_eq, goTrunc_eq, goFormatUint_eq, goU32,
      popFmt_tail, popName_tail, List.map_drop, addProcessed, ← List.drop_one, List.drop_drop, Nat.reduceAdd]

/-! ### the loop `for i := 0; len(flatArgs) != 0; i++` -/

theorem addProcessed_nil (c : Call) : addProcessed c [] = c := by
  simp [addProcessed]

theorem addProcessed_values (c : Call) (ps : List Bytes) : (addProcessed c ps).args.values = c.args.values := rfl

theorem liftLoop_consOk (c : Call) (s : Bytes) (x : Except AugErr (List Bytes)) :
    liftLoop c (consOk s x) = liftLoop (addProcessed c [s]) x := by
  cases x <;> simp [liftLoop, consOk, addProcessed]

theorem loop2_eq (f : TN.GoFuncDecl) (types : List Bytes) (extra : Bool) (call : Call) (fl : List Arg) (i : Nat) :
    augmentCall_loop2 (modelEnv eat ff fuel) f types extra (call, fl, i) =
      (iter ff types.getLast? extra (types.drop i) (call.args.values.drop i) (fl.map toFlat)).map
        fun r => (addProcessed call [r.1], fl.drop r.2, i + 1) := by
  unfold augmentCall_loop2 iter
  cases hd : types.drop i with
  | nil =>
    have hi : types.length ≤ i := List.drop_eq_nil_iff.mp hd
    cases extra with
    | false =>
      simp only [ge_iff_le, hi, decide_true, if_true, Bool.not_false, popName_eq, Bool.false_eq_true, if_false,
        Option.map_some, addProcessed, List.drop_one]
    | true =>
      simp only [ge_iff_le, hi, decide_true, if_true, Bool.not_true, Bool.false_eq_true, if_false]
      cases hl : types.getLast? with
      | none =>
        cases List.getLast?_eq_none_iff.mp hl
        rfl
      | some t =>
        have hpos : 1 ≤ types.length := by
          cases types with
          | nil => cases hl
          | cons => exact Nat.succ_le_succ (Nat.zero_le _)
        rw [List.getLast?_eq_getElem?] at hl
        simp only [goSub_of_le hpos, hl, join1_eq, Option.map_some]
  | cons t tys =>
    have hg : types[i]? = some t := by rw [← List.head?_drop, hd]; rfl
    have hi : ¬ types.length ≤ i := fun h => by rw [List.drop_eq_nil_iff.mpr h] at hd; cases hd
    simp only [ge_iff_le, hi, decide_false, Bool.false_eq_true, if_false, hg, join1_eq, Option.map_some]

theorem loop_eq (fuel₀ : Nat) (f : TN.GoFuncDecl) (types : List Bytes) (extra : Bool) :
    ∀ (fuel : Nat) (call : Call) (fl : List Arg) (i : Nat),
    (whileFuel (fun _st => match _st with | (_, flatArgs, _) => (flatArgs.length != 0))
        (augmentCall_loop2 (modelEnv eat ff fuel₀) f types extra) fuel (call, fl, i)).map (·.1)
      = liftLoop call (augmentLoop ff types.getLast? extra fuel (types.drop i) (call.args.values.drop i) (fl.map toFlat))
  | 0, call, [], i => by simp [whileFuel_zero, augmentLoop, liftLoop, addProcessed_nil]
  | 0, call, a :: rest, i => by simp [whileFuel_zero, augmentLoop, liftLoop]
  | fuel + 1, call, [], i => by simp [whileFuel_succ, augmentLoop, liftLoop, addProcessed_nil]
  | fuel + 1, call, a :: rest, i => by
    rw [whileFuel_succ, List.map_cons, augmentLoop_succ, ← List.map_cons, loop2_eq]
    cases iter ff types.getLast? extra (types.drop i) (call.args.values.drop i) ((a :: rest).map toFlat) with
    | none => rfl
    | some r =>
      simp only [List.length_cons, bne_iff_ne, ne_eq, Nat.add_one_ne_zero, not_false_eq_true, if_true, Option.map_some]
      rw [loop_eq fuel₀ f types extra fuel, liftLoop_consOk, addProcessed_values, List.tail_drop, List.tail_drop,
        List.map_drop]

theorem loop1_eq (E : Env) (call : Call) (f : TN.GoFuncDecl) : ∀ (xs : List Arg) (k : Nat) (fl : List Arg),
    forIdx (fun _i arg => augmentCall_loop1 E call f arg _i) xs k fl = some (fl ++ xs)
  | [], k, fl => by simp
  | x :: xs, k, fl => by
    rw [forIdx_cons]
    simp only [augmentCall_loop1]
    rw [loop1_eq E call f xs (k + 1) (fl ++ [x])]
    simp

/-- the translated `augmentCall` is the model, for every call, every declaration, every result of
`extractArgumentsType`, every float formatting and every fuel (where the fuel does not suffice both are
`none`; `tie_augmentCall_enough` says when it does) -/
theorem tie_augmentCall (c : Call) (f : TN.GoFuncDecl) :
    augmentCall (modelEnv eat ff fuel) c f = (modelEnv eat ff fuel).augmentCall c f := by
  have hl := loop_eq eat ff fuel f (eat f).1 (eat f).2 fuel c (scalL c.args.values) 0
  simp only [List.drop_zero, map_scalL] at hl
  simp only [augmentCall, mE_walk, loop1_eq, List.nil_append, mE_eat, mE_fuel, mE_augmentCall, recvBad, augModel, ← hl]
  cases f.recv with
  | none => cases whileFuel _ _ fuel (c, scalL c.args.values, 0) <;> rfl
  | some l =>
    cases hb : l.length != 1 with
    | true => simp only [Option.isSome_some, if_true, hb]
    | false =>
      simp only [Option.isSome_some, if_true, hb, Bool.false_eq_true, if_false]
      cases whileFuel _ _ fuel (c, scalL c.args.values, 0) <;> rfl

/-! ### what the agreement says in terms of `Aug.augmentCall` -/

/-- the model's `augmentCall` followed by the append to `Processed` (`AugGlue.applyAugment`), `none` = the Go panic -/
def applyModel (ff : FloatFmt) (c : Call) (types : List Bytes) (extra : Bool) : Option Call :=
  liftLoop c (Aug.augmentCall ff types extra c.args)

/-- with at least as much fuel as the call has scalars and top-level values, the translated function is the model's
`augmentCall` (the strings it yields appended to `Processed`; `none` exactly where Go panics: an empty type list
with the ellipsis flag), and a malformed receiver list leaves the call as it is -/
theorem tie_augmentCall_enough (c : Call) (f : TN.GoFuncDecl)
    (h : (flatL c.args.values).length + c.args.values.length ≤ fuel) :
    augmentCall (modelEnv eat ff fuel) c f =
      if recvBad f then some c else applyModel ff c (eat f).1 (eat f).2 := by
  rw [tie_augmentCall, mE_augmentCall]
  cases recvBad f with
  | true => rfl
  | false => exact congrArg (liftLoop c) (augmentLoop_enough ff _ _ _ _ _ _ _ h (Nat.le_succ _))

/-- C19, frames and raw values are never changed: whatever the translated `augmentCall` returns differs from the
call it was given in `Args.Processed` only, and there only by appended strings -/
theorem augmentCall_only_appends (c c' : Call) (f : TN.GoFuncDecl)
    (h : augmentCall (modelEnv eat ff fuel) c f = some c') :
    ∃ ps : List Bytes, c' = addProcessed c ps := by
  rw [tie_augmentCall, mE_augmentCall] at h
  generalize recvBad f = b at h
  cases b with
  | true => cases h; exact ⟨[], (addProcessed_nil c).symm⟩
  | false =>
    simp only [Bool.false_eq_true, if_false, augModel] at h
    cases hr : augmentLoop ff (eat f).1.getLast? (eat f).2 fuel (eat f).1 c.args.values (flatL c.args.values) with
    | error e => rw [hr] at h; cases h
    | ok ps => rw [hr] at h; cases h; exact ⟨ps, rfl⟩

/-- spelled out: every field of the call but `Args.Processed` is the same, and `Processed` only grows at its end -/
theorem augmentCall_unchanged (c c' : Call) (f : TN.GoFuncDecl)
    (h : augmentCall (modelEnv eat ff fuel) c f = some c') :
    c'.fn = c.fn ∧ c'.args.values = c.args.values ∧ c'.args.elided = c.args.elided ∧
    c'.remoteSrcPath = c.remoteSrcPath ∧ c'.line = c.line ∧ c'.srcName = c.srcName ∧ c'.dirSrc = c.dirSrc ∧
    c'.localSrcPath = c.localSrcPath ∧ c'.relSrcPath = c.relSrcPath ∧ c'.importPath = c.importPath ∧
    c'.location = c.location ∧ ∃ ps, c'.args.processed = c.args.processed ++ ps := by
  obtain ⟨ps, rfl⟩ := augmentCall_only_appends eat ff fuel c c' f h
  exact ⟨rfl, rfl, rfl, rfl, rfl, rfl, rfl, rfl, rfl, rfl, rfl, ps, rfl⟩

/-! ### non-vacuity: the translated function evaluated on a call -/

/-- `f(a int8, s string)` on the words `0xff, 0x10, 5`: `-1` and `string(0x10, len=5)` -/
example :
    (augmentCall (modelEnv (fun _ => ([b!"int8", b!"string"], false)) ⟨fun _ => [], fun _ => []⟩ 10)
      { args := { values := [.scalar [] 255 false false false, .scalar [] 16 false false false, .scalar [] 5 false false false] } }
      ⟨none, []⟩).map (·.args.processed) = some [b!"-1", b!"string(0x10, len=5)"] := by
  rw [tie_augmentCall]; rfl

/-- an empty type list with the ellipsis flag: Go panics (`types[len(types)-1]`), the translation is `none` -/
example :
    augmentCall (modelEnv (fun _ => ([], true)) ⟨fun _ => [], fun _ => []⟩ 10)
      { args := { values := [.scalar [] 1 false false false] } } ⟨none, []⟩ = none := by
  rw [tie_augmentCall]; rfl

/-- a receiver list that does not have exactly one entry: the call is returned as it is -/
example (c : Call) : augmentCall (modelEnv eat ff fuel) c ⟨some [], []⟩ = some c := by
  rw [tie_augmentCall]; rfl

#print axioms tie_walk
#print axioms tie_augmentCall
#print axioms tie_augmentCall_enough
#print axioms augmentCall_only_appends
#print axioms augmentCall_unchanged

end PP.TrAu
