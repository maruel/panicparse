import PP.TranslatedWeb
import PP.Props.C20
/-
Agreement theorems for group Web (tie A of DESIGN.md): the web handler
stack/webstack/webstack.go, `SnapshotHandler` and `snapshot`, and
`stack.DefaultOpts`, translated from the Go source on every run
(`PP/TranslatedWeb.lean`, run-time support `PP/Go/PreludeWeb.lean`) and proved equal
to the hand-written model `PP/Model/Web.lean` (`handlerPlan`, `parseMaxmem`,
`parseAugment`, `parseSimilarity`, `atoi`, `clampMaxmem`, `growLoop` — the functions
the decision table of C20 is about).

The translated functions thread the `World` (the effect trace); the outside
(`runtime.Stack`, `stack.ScanSnapshot`, `Aggregate`, `ToHTML`, the environment
`stack.DefaultOpts` reads, the `int` `strconv.Atoi` returns along with an error, the
fuel of the unbounded loop) are oracles of the generated `Env`.  The statements below
are for EVERY environment (only its oracle fields matter), every world, every request;
those about `snapshot` ask that the fuel covers the iterations of the model's `growLoop`
(`tie_snapshot`; 44 is enough for every request: `tie_closed`, `translated_status`,
`translated_panics_iff`).

What the model does not have is added HERE, and the model's functions are shown to be
its projections (section "projections"): the messages of `http.Error`, the
`Content-Type` header, the trace, and `snapshot` / `SnapshotHandler` as functions of
the world (`snapshotSpec`, `handlerSpec`, built from the model's functions).
-/
namespace PP.TrW
open PP PP.Go

/-! ## 1. snapshot -/

theorem lenI_eq {α : Type} (l : List α) : lenI l = (l.length : Int) := rfl

theorem makeBytes_ofNat (n : Nat) : makeBytes (n : Int) = some (zeros n) := by
  simp [makeBytes]

/-- the world after one `runtime.Stack` on a buffer of `n` bytes -/
def stackWorld (w : World) (n : Nat) : World :=
  { nStack := w.nStack + 1, trace := w.trace ++ [.stack n true] }

theorem runtimeStack_fits (dump : Nat → Bytes) (w : World) (buf : Bytes)
    (h : (dump w.nStack).length < buf.length) :
    World.runtimeStack dump w buf true =
      (stackWorld w buf.length, dump w.nStack ++ buf.drop (dump w.nStack).length,
       ((dump w.nStack).length : Int)) := by
  unfold World.runtimeStack
  rw [List.take_of_length_le (Nat.le_of_lt h)]
  rfl

theorem runtimeStack_full (dump : Nat → Bytes) (w : World) (buf : Bytes)
    (h : ¬ (dump w.nStack).length < buf.length) :
    World.runtimeStack dump w buf true =
      (stackWorld w buf.length, (dump w.nStack).take buf.length, (buf.length : Int)) := by
  unfold World.runtimeStack
  have e : ((dump w.nStack).take buf.length).length = buf.length := by
    rw [List.length_take]; omega
  simp only [e, List.drop_length, List.append_nil]
  rfl

theorem goSliceI_prefix (d r : Bytes) :
    goSliceI (d ++ r) 0 (d.length : Int) = some d := by
  unfold goSliceI
  have hl : ((d.length : Int) ≤ ((d ++ r).length : Int)) := by
    simp only [List.length_append]; omega
  rw [if_pos ⟨Int.le_refl 0, by omega, hl⟩]
  simp

/-- the size of the text `runtime.Stack` wants to write at its `i`-th call: the `need` of the
model's `growLoop` -/
def needOf (O : Env) (i : Nat) : Nat := (O.stackDump i).length

/-- one iteration of the loop of `snapshot` (the translated body, in any environment) on a buffer
of `len(buf)` bytes and the clamped `maxmem = mm`: the three ways it goes on are the three
branches of the model's `growLoop` -/
theorem body_snapshot (O : Env) (mm : Nat) (opts : Cli.Opts) (w : World) (buf : Bytes) (i : Int) :
    snapshot_loop1 O (mm : Int) opts (w, buf, i) =
      if needOf O w.nStack < buf.length then
        some (.brk (stackWorld w buf.length, O.stackDump w.nStack, i))
      else if mm ≤ buf.length then
        some (.brk (stackWorld w buf.length, (O.stackDump w.nStack).take buf.length, i))
      else
        some (.cont (stackWorld w buf.length,
          zeros (if mm < buf.length * 2 then mm else buf.length * 2), i + 1)) := by
  unfold snapshot_loop1 needOf
  by_cases hfit : (O.stackDump w.nStack).length < buf.length
  · rw [if_pos hfit]
    dsimp only
    rw [runtimeStack_fits _ _ _ hfit]
    dsimp only
    have hl : lenI (O.stackDump w.nStack ++ buf.drop (O.stackDump w.nStack).length) = (buf.length : Int) := by
      rw [lenI_eq, List.length_append, List.length_drop]; omega
    rw [hl, decide_eq_true (show ((O.stackDump w.nStack).length : Int) < (buf.length : Int) by omega)]
    rw [if_pos rfl, goSliceI_prefix]
    rfl
  · rw [if_neg hfit]
    dsimp only
    rw [runtimeStack_full _ _ _ hfit]
    dsimp only
    have hl : lenI ((O.stackDump w.nStack).take buf.length) = (buf.length : Int) := by
      rw [lenI_eq, List.length_take]; omega
    rw [hl, decide_eq_false (show ¬ ((buf.length : Int) < (buf.length : Int)) by omega)]
    rw [if_neg (by simp)]
    by_cases hmm : mm ≤ buf.length
    · rw [if_pos hmm, decide_eq_true (show ((buf.length : Int) ≥ (mm : Int)) by omega), if_pos rfl]
    · rw [if_neg hmm, decide_eq_false (show ¬ ((buf.length : Int) ≥ (mm : Int)) by omega), if_neg (by simp)]
      have hl2 : (if decide ((buf.length : Int) * 2 > (mm : Int)) = true then (mm : Int) else (buf.length : Int) * 2)
          = ((if mm < buf.length * 2 then mm else buf.length * 2 : Nat) : Int) := by
        by_cases h2 : mm < buf.length * 2
        · rw [if_pos h2, decide_eq_true (by omega), if_pos rfl]
        · rw [if_neg h2, decide_eq_false (by omega), if_neg (by simp)]; omega
      rw [hl2, makeBytes_ofNat]
      rfl

/-- the world after `runtime.Stack` was called once per size -/
def loopWorld (w : World) (sizes : List Nat) : World :=
  { nStack := w.nStack + sizes.length, trace := w.trace ++ sizes.map (fun n => Event.stack n true) }

theorem loopWorld_one (w : World) (n : Nat) : loopWorld w [n] = stackWorld w n := rfl

theorem loopWorld_cons (w : World) (n : Nat) (sizes : List Nat) :
    loopWorld w (n :: sizes) = loopWorld (stackWorld w n) sizes := by
  simp only [loopWorld, stackWorld, List.length_cons, List.map_cons, List.append_assoc, List.singleton_append]
  congr 1; omega

/-- the loop of `snapshot`, from any buffer size on, with enough fuel: it calls `runtime.Stack`
once per element of the model's `growLoop` and ends with the text of the last call, cut to the
last buffer (whole when it fits) -/
theorem loop_snapshot (O : Env) (mm : Nat) (opts : Cli.Opts) :
    ∀ (fuel k len : Nat) (h : 0 < len) (w : World) (buf : Bytes) (i : Int),
      w.nStack = k → buf.length = len → (growLoop mm (needOf O) k len h).length ≤ fuel →
      forFuel (snapshot_loop1 O (mm : Int) opts) fuel (w, buf, i) =
        some (.cont
          (loopWorld w (growLoop mm (needOf O) k len h),
           (O.stackDump (k + (growLoop mm (needOf O) k len h).length - 1)).take
             ((growLoop mm (needOf O) k len h).getLast?.getD len),
           i + ((growLoop mm (needOf O) k len h).length : Int) - 1))
  | 0, k, len, h, _, _, _, _, _, hf =>
    absurd (List.eq_nil_of_length_eq_zero (Nat.le_zero.1 hf)) (growLoop_ne_nil _ _ _ _ _)
  | f + 1, _, _, h, w, buf, i, hk, hb, hf => by
    subst hk hb
    -- one iteration of the translated body against one unfolding of `growLoop`
    rw [forFuel_succ, body_snapshot]
    rw [growLoop] at hf ⊢
    have e : w.nStack + 1 - 1 = w.nStack := rfl
    by_cases hfit : needOf O w.nStack < buf.length
    · rw [if_pos hfit, if_pos hfit]
      simp only [loopWorld_one, List.length_singleton, List.getLast?_singleton, Option.getD_some]
      rw [e, List.take_of_length_le (Nat.le_of_lt hfit)]
      congr 4
      omega
    · rw [if_neg hfit, if_neg hfit]
      by_cases hmm : mm ≤ buf.length
      · rw [dif_pos hmm, if_pos hmm]
        simp only [loopWorld_one, List.length_singleton, List.getLast?_singleton, Option.getD_some]
        rw [e]
        congr 4
        omega
      · rw [if_neg hfit, dif_neg hmm] at hf
        rw [dif_neg hmm, if_neg hmm]
        dsimp only
        have hpos := growNext_pos h hmm
        rw [loop_snapshot O mm opts f (w.nStack + 1) _ hpos _ _ (i + 1) rfl (length_zeros _) (Nat.le_of_succ_le_succ hf),
          loopWorld_cons, List.getLast?_cons_of_ne_nil (growLoop_ne_nil _ _ _ _ _)]
        obtain ⟨lst, hlst, _⟩ := growLoop_last mm (needOf O) (w.nStack + 1) _ hpos
        simp only [hlst, Option.getD_some, List.length_cons]
        congr 4
        · congr 2; omega
        · push_cast; omega

/-! the model of `snapshot`, as a function of the world -/

/-- the buffer sizes `snapshot(maxmem, _)` tries in world `w` -/
def snapSizes (O : Env) (w : World) (maxmem : Int) : List Nat :=
  growLoop (clampMaxmem maxmem) (needOf O) w.nStack minBuf (by decide)

/-- the bytes `snapshot` hands to `ScanSnapshot`: the text of the last call of `runtime.Stack`,
cut to the last buffer -/
def snapInput (O : Env) (w : World) (maxmem : Int) : Bytes :=
  (O.stackDump (w.nStack + (snapSizes O w maxmem).length - 1)).take
    ((snapSizes O w maxmem).getLast?.getD minBuf)

/-- the world after `snapshot`: one `runtime.Stack` per buffer size, then `ScanSnapshot` -/
def snapWorld (O : Env) (w : World) (maxmem : Int) (opts : Cli.Opts) : World :=
  (loopWorld w (snapSizes O w maxmem)).emit (.scanSnapshot (snapInput O w maxmem) opts)

/-- `if err == io.EOF { err = nil }` -/
def eofIsNil (e : GoErr) : GoErr := if e == .eof then .nil else e

/-- `snapshot(maxmem, opts)`: the world afterwards, the snapshot and the error it returns -/
def snapshotSpec (O : Env) (w : World) (maxmem : Int) (opts : Cli.Opts) : World × (SnapRef × GoErr) :=
  (snapWorld O w maxmem opts,
   ((O.scanSnapshot (snapInput O w maxmem) opts).1, eofIsNil (O.scanSnapshot (snapInput O w maxmem) opts).2.2))

theorem makeBytes_minBuf : makeBytes (1048576 : Int) = some (zeros 1048576) := by
  simp [makeBytes]

theorem clamp_cast (maxmem : Int) :
    (if decide (maxmem < lenI (zeros 1048576)) = true then lenI (zeros 1048576) else maxmem) =
      ((clampMaxmem maxmem : Nat) : Int) := by
  rw [lenI_eq, length_zeros]
  unfold clampMaxmem minBuf
  by_cases h : maxmem < ((1048576 : Nat) : Int)
  · rw [decide_eq_true h, if_pos rfl]; omega
  · rw [decide_eq_false h, if_neg (by simp)]; omega

/-- `snapshot` is the model, in EVERY environment (it calls no function of the group), given
fuel for as many iterations as the model's `growLoop` makes (`snapSizes_length`: 44 suffice) -/
theorem tie_snapshot (E : Env) (w : World) (maxmem : Int) (opts : Cli.Opts)
    (hfuel : (snapSizes E w maxmem).length ≤ E.fuel) :
    TrW.snapshot E w maxmem opts = some (snapshotSpec E w maxmem opts) := by
  unfold TrW.snapshot
  rw [makeBytes_minBuf, Option.bind_some]
  dsimp only
  rw [clamp_cast, loop_snapshot E (clampMaxmem maxmem) opts E.fuel w.nStack minBuf (by decide) w (zeros 1048576) 0
    rfl ((length_zeros _).trans (by decide)) hfuel, after_cont]
  rfl

/-! ## 2. DefaultOpts, SnapshotHandler -/

/-- `stack.DefaultOpts()` is the model's `Cli.defaultOpts` of the two oracles (`runtime.GOROOT()`,
`getGOPATHs()`), in any environment; the world is untouched -/
theorem tie_DefaultOpts (E : Env) (w : World) :
    TrW.DefaultOpts E w = some (w, Cli.defaultOpts E.goroot E.gopaths) := rfl

/-! the messages of `http.Error` and the header (not in the model) -/
def msgMethod : Bytes := b!"invalid method"
def msgMaxmem : Bytes := b!"invalid maxmem value"
def msgAugment : Bytes := b!"invalid augment value"
def msgSnapshot : Bytes := b!"failed to process the snapshot, try a larger maxmem value"
def msgSimilarity : Bytes := b!"invalid similarity value"
def hdrContentType : Bytes := b!"Content-Type"
def valContentType : Bytes := b!"text/html; charset=utf-8"

/-- the message that goes with an early status of `handlerPlan` -/
def earlyMsg (method maxmem : Bytes) : Bytes :=
  if method != methodGET then msgMethod
  else if (parseMaxmem maxmem).isNone then msgMaxmem
  else msgAugment

/-- the options `snapshot` is called with for a plan: `stack.DefaultOpts()` with the plan's
`AnalyzeSources` -/
def planOpts (O : Env) (p : WebPlan) : Cli.Opts :=
  { Cli.defaultOpts O.goroot O.gopaths with analyzeSources := p.analyzeSources }

/-- `SnapshotHandler(w, req)`: the world afterwards, from the model's `handlerPlan` and
`parseSimilarity` (`none`: `Aggregate` panicked) -/
def handlerSpec (O : Env) (w : World) (rw : ResponseWriter) (req : Request) : Option World :=
  match handlerPlan req.method (req.form b!"maxmem") (req.form b!"augment") with
  | .error st => some (w.httpError rw (earlyMsg req.method (req.form b!"maxmem")) st)
  | .ok p =>
    let r := snapshotSpec O w p.maxmem (planOpts O p)
    if r.2.2 != .nil then some (r.1.httpError rw msgSnapshot 500)
    else match parseSimilarity (req.form b!"similarity") with
      | none => some (r.1.httpError rw msgSimilarity 400)
      | some l =>
        (O.aggregate r.2.1 l).map fun a =>
          (((r.1.setHeader rw hdrContentType valContentType).emit (.aggregate r.2.1 l)).emit
            (.toHTML a rw []))

/-- the environment in which the three functions are the model; the oracles are `O`'s -/
def modelEnv (O : Env) : Env :=
  { O with
    DefaultOpts := fun w => some (w, Cli.defaultOpts O.goroot O.gopaths)
    SnapshotHandler := fun w rw req => (handlerSpec O w rw req).map fun w' => (w', ())
    snapshot := fun w maxmem opts => some (snapshotSpec O w maxmem opts) }

variable (O : Env)

@[simp] theorem mE_fuel : (modelEnv O).fuel = O.fuel := rfl
@[simp] theorem mE_stackDump : (modelEnv O).stackDump = O.stackDump := rfl
@[simp] theorem mE_atoiErrVal : (modelEnv O).atoiErrVal = O.atoiErrVal := rfl
@[simp] theorem mE_goroot : (modelEnv O).goroot = O.goroot := rfl
@[simp] theorem mE_gopaths : (modelEnv O).gopaths = O.gopaths := rfl
@[simp] theorem mE_scanSnapshot : (modelEnv O).scanSnapshot = O.scanSnapshot := rfl
@[simp] theorem mE_aggregate : (modelEnv O).aggregate = O.aggregate := rfl
@[simp] theorem mE_toHTML : (modelEnv O).toHTML = O.toHTML := rfl
@[simp] theorem mE_DefaultOpts (w : World) :
    (modelEnv O).DefaultOpts w = some (w, Cli.defaultOpts O.goroot O.gopaths) := rfl
@[simp] theorem mE_snapshot (w : World) (maxmem : Int) (opts : Cli.Opts) :
    (modelEnv O).snapshot w maxmem opts = some (snapshotSpec O w maxmem opts) := rfl
@[simp] theorem mE_SnapshotHandler (w : World) (rw : ResponseWriter) (req : Request) :
    (modelEnv O).SnapshotHandler w rw req = (handlerSpec O w rw req).map fun w' => (w', ()) := rfl

/-- the model's functions only read the oracles -/
theorem snapshotSpec_modelEnv (w : World) (maxmem : Int) (opts : Cli.Opts) :
    snapshotSpec (modelEnv O) w maxmem opts = snapshotSpec O w maxmem opts := rfl
theorem handlerSpec_modelEnv (w : World) (rw : ResponseWriter) (req : Request) :
    handlerSpec (modelEnv O) w rw req = handlerSpec O w rw req := rfl

omit O in
theorem formValue_eq (req : Request) (k : Bytes) : Request.formValue req k = req.form k := rfl

omit O in
theorem strconvAtoi_some {ev : Bytes → Int} {s : Bytes} {v : Int} (h : atoi s = some v) :
    strconvAtoi ev s = (v, .nil) := by simp [strconvAtoi, h]
omit O in
theorem strconvAtoi_none {ev : Bytes → Int} {s : Bytes} (h : atoi s = none) :
    strconvAtoi ev s = (ev s, .other 0) := by simp [strconvAtoi, h]

/-- the `maxmem` block of the handler is `parseMaxmem` -/
theorem stage_maxmem {ρ : Type} (ev : Bytes → Int) (w : World) (mm : Bytes)
    (k : World × Int → Option ρ) (r : ρ) :
    after (if (mm != []) = true then
        if ((strconvAtoi ev mm).snd != GoErr.nil) = true then some (Step.ret r)
        else some (Step.cont (w, (strconvAtoi ev mm).fst))
      else some (Step.cont (w, 67108864))) k =
    match parseMaxmem mm with
    | none => some r
    | some m => k (w, m) := by
  unfold parseMaxmem strconvAtoi bne
  cases mm == []
  · cases atoi mm <;> rfl
  · rfl

/-- the `augment` block of the handler is `parseAugment` -/
theorem stage_augment {ρ : Type} (ev : Bytes → Int) (w : World) (au : Bytes) (o : Cli.Opts)
    (k : World × Cli.Opts → Option ρ) (r : ρ) :
    after (if (au != []) = true then
        if ((strconvAtoi ev au).snd != GoErr.nil || decide ((strconvAtoi ev au).fst < 0) ||
            decide ((strconvAtoi ev au).fst > 1)) = true then some (Step.ret r)
        else
          (if ((strconvAtoi ev au).fst == 0) = true then some { o with analyzeSources := false }
           else some o).bind fun opts => some (Step.cont (w, opts))
      else some (Step.cont (w, o))) k =
    match parseAugment au with
    | none => some r
    | some a => k (w, if a then o else { o with analyzeSources := false }) := by
  unfold parseAugment strconvAtoi bne
  cases au == []
  · cases atoi au with
    | none => rfl
    | some v =>
      dsimp only
      cases decide (v < 0)
      · cases decide (v > 1)
        · cases v == 0 <;> rfl
        · rfl
      · rfl
  · rfl

/-- the `similarity` switch of the handler is `parseSimilarity` -/
theorem stage_similarity {ρ : Type} (w : World) (si : Bytes) (k : World × Lvl → Option ρ) (r : ρ) :
    after (if (si == b!"exactflags") = true then some (Step.cont (w, Lvl.exactFlags))
      else after (if (si == b!"exactlines") = true then some (Step.cont (w, Lvl.exactLines))
        else after (if (si == b!"anypointer" || si == []) = true then some (Step.cont (w, Lvl.anyPointer))
          else if (si == b!"anyvalue") = true then some (Step.cont (w, Lvl.anyValue))
          else some (Step.ret (Step.ret (Step.ret r))))
          fun st => some (Step.cont (st.fst, st.snd)))
        fun st => some (Step.cont (st.fst, st.snd))) k =
    match parseSimilarity si with
    | none => some r
    | some l => k (w, l) := by
  unfold parseSimilarity
  cases si == b!"exactflags"
  · cases si == b!"exactlines"
    · cases (si == b!"anypointer" || si == [])
      · cases si == b!"anyvalue" <;> rfl
      · rfl
    · rfl
  · rfl

/-- `SnapshotHandler` in any environment whose `snapshot` is the model's on the arguments the
handler calls it with -/
theorem tie_SnapshotHandler_gen (E : Env) (w : World) (rw : ResponseWriter) (req : Request)
    (hd : ∀ w, E.DefaultOpts w = some (w, Cli.defaultOpts E.goroot E.gopaths))
    (hs : ∀ m a, parseMaxmem (req.form b!"maxmem") = some m →
      E.snapshot w m (planOpts E { maxmem := m, analyzeSources := a }) =
        some (snapshotSpec E w m (planOpts E { maxmem := m, analyzeSources := a }))) :
    TrW.SnapshotHandler E w rw req = (handlerSpec E w rw req).map fun w' => (w', ()) := by
  unfold TrW.SnapshotHandler Request.formValue handlerSpec handlerPlan earlyMsg methodGET
  cases req.method != b!"GET"
  · refine (stage_maxmem _ _ _ _ _).trans ?_
    cases hmm : parseMaxmem (req.form b!"maxmem") with
    | none => rfl
    | some m =>
      refine (congrArg (Option.bind · _) (hd w)).trans ((stage_augment _ _ _ _ _ _).trans ?_)
      cases parseAugment (req.form b!"augment") with
      | none => rfl
      | some a =>
        simp only [Bool.false_eq_true, if_false]
        have ho : (if a = true then Cli.defaultOpts E.goroot E.gopaths
            else { Cli.defaultOpts E.goroot E.gopaths with analyzeSources := false }) =
            planOpts E { maxmem := m, analyzeSources := a } := by
          cases a <;> rfl
        refine (congrArg (Option.bind · _) ((congrArg _ ho).trans (hs m a hmm))).trans ?_
        generalize snapshotSpec E w m (planOpts E { maxmem := m, analyzeSources := a }) = r
        show (if (r.2.2 != GoErr.nil) = true then _ else _) = Option.map _ (if (r.2.2 != GoErr.nil) = true then _ else _)
        cases r.2.2 != GoErr.nil
        · refine (stage_similarity _ _ _ _).trans ?_
          cases parseSimilarity (req.form b!"similarity") with
          | none => rfl
          | some l => cases hag : E.aggregate r.2.1 l <;> simp only [World.aggregate, hag] <;> rfl
        · rfl
  · rfl

/-- the model is a fixed point of the translated equation of `SnapshotHandler`: for every
environment (its oracles), world, writer and request -/
theorem tie_SnapshotHandler (O : Env) (w : World) (rw : ResponseWriter) (req : Request) :
    TrW.SnapshotHandler (modelEnv O) w rw req = (modelEnv O).SnapshotHandler w rw req :=
  tie_SnapshotHandler_gen (modelEnv O) w rw req (fun _ => rfl) (fun _ _ _ => rfl)

/-! ## 3. the three functions composed -/

/-- `tie_DefaultOpts`, `tie_snapshot` as equations `TrW.f (modelEnv O) = (modelEnv O).f`: the model is
a fixed point -/
theorem tie_DefaultOpts_modelEnv (O : Env) (w : World) :
    TrW.DefaultOpts (modelEnv O) w = (modelEnv O).DefaultOpts w := rfl

theorem tie_snapshot_modelEnv (O : Env) (w : World) (maxmem : Int) (opts : Cli.Opts)
    (hfuel : (snapSizes O w maxmem).length ≤ O.fuel) :
    TrW.snapshot (modelEnv O) w maxmem opts = (modelEnv O).snapshot w maxmem opts :=
  tie_snapshot (modelEnv O) w maxmem opts hfuel

/-- the environment in which `snapshot` is the translated `snapshot` (and nothing is the model) -/
def closedEnv (O : Env) : Env := { O with snapshot := TrW.snapshot O, DefaultOpts := TrW.DefaultOpts O }

/-! ### the sizes, against `growStepsVar` / `growSteps` / `snapshotInput`; fuel -/

theorem growLoop_shift (mm : Nat) (need : Nat → Nat) (k : Nat) :
    ∀ (i len : Nat) (h : 0 < len),
      growLoop mm need (k + i) len h = growLoop mm (fun j => need (k + j)) i len h := by
  intro i len h
  fun_induction growLoop mm (fun j => need (k + j)) i len h with
  | case1 i len h hfit => rw [growLoop, if_pos hfit]
  | case2 i len h hfit hmm => rw [growLoop, if_neg hfit, dif_pos hmm]
  | case3 i len h hfit hmm l ih =>
    rw [growLoop, if_neg hfit, dif_neg hmm]
    exact congrArg _ ih

theorem snapSizes_eq (O : Env) (w : World) (maxmem : Int) :
    snapSizes O w maxmem = growStepsVar maxmem (fun j => needOf O (w.nStack + j)) := by
  unfold snapSizes growStepsVar
  exact growLoop_shift _ _ w.nStack 0 minBuf (by decide)

/-- from a fresh world the sizes are the model's `growStepsVar` -/
theorem snapSizes_fresh (O : Env) (w : World) (maxmem : Int) (h0 : w.nStack = 0) :
    snapSizes O w maxmem = growStepsVar maxmem (needOf O) := by
  rw [snapSizes_eq, h0]
  simp only [Nat.zero_add]

/-- a dump that does not change while `snapshot` runs: the model's `growSteps` and `snapshotInput` -/
theorem snapSizes_const (O : Env) (w : World) (maxmem : Int) (dump : Bytes) (hd : ∀ i, O.stackDump i = dump) :
    snapSizes O w maxmem = growSteps maxmem dump.length := by
  rw [snapSizes_eq]
  unfold growSteps needOf
  simp only [hd]

theorem snapInput_const (O : Env) (w : World) (maxmem : Int) (dump : Bytes) (hd : ∀ i, O.stackDump i = dump) :
    snapInput O w maxmem = snapshotInput maxmem dump := by
  unfold snapInput snapshotInput
  rw [snapSizes_const O w maxmem dump hd, hd]

/-- the `runtime.Stack` events of `snapshot` are the buffer sizes, the last event is the scan -/
theorem snapshot_trace (O : Env) (w : World) (maxmem : Int) (opts : Cli.Opts) :
    (snapshotSpec O w maxmem opts).1.trace =
      w.trace ++ (snapSizes O w maxmem).map (fun n => Event.stack n true) ++
        [.scanSnapshot (snapInput O w maxmem) opts] := rfl

theorem snapshot_nStack (O : Env) (w : World) (maxmem : Int) (opts : Cli.Opts) :
    (snapshotSpec O w maxmem opts).1.nStack = w.nStack + (snapSizes O w maxmem).length := rfl

/-- for a 64-bit `maxmem` the loop runs at most 44 times, whatever the dumps -/
theorem snapSizes_length (O : Env) (w : World) (maxmem : Int) (h : maxmem < 2 ^ 63) :
    (snapSizes O w maxmem).length ≤ 44 := by
  unfold snapSizes
  refine growLoop_length (clampMaxmem maxmem) (needOf O) w.nStack minBuf (by decide) 43 ?_
  have e : minBuf * 2 ^ 43 = 2 ^ 63 := by decide
  rw [e]
  unfold clampMaxmem minBuf
  omega

theorem parseMaxmem_lt (s : Bytes) (z : Int) (h : parseMaxmem s = some z) : z < 2 ^ 63 := by
  unfold parseMaxmem at h
  split at h
  · cases h; decide
  · exact (atoi_range s z h).2

/-- `SnapshotHandler` with the translated `snapshot` as its callee: fuel 44 is enough for every request -/
theorem tie_closed (O : Env) (hfuel : 44 ≤ O.fuel) (w : World) (rw : ResponseWriter) (req : Request) :
    TrW.SnapshotHandler (closedEnv O) w rw req = (handlerSpec O w rw req).map fun w' => (w', ()) :=
  tie_SnapshotHandler_gen (closedEnv O) w rw req (fun w => tie_DefaultOpts O w) (fun m _ hm =>
    tie_snapshot O w m _ (Nat.le_trans (snapSizes_length O w m (parseMaxmem_lt _ m hm)) hfuel))

/-! ## 4. projections onto the model -/

/-- did `snapshot` return without error?  (what `handlerStatus` calls `snapOK`; irrelevant
when the plan is an early status) -/
def snapOK (O : Env) (w : World) (req : Request) : Bool :=
  match handlerPlan req.method (req.form b!"maxmem") (req.form b!"augment") with
  | .error _ => true
  | .ok p => (snapshotSpec O w p.maxmem (planOpts O p)).2.2 == .nil

/-- the events a call added to the trace -/
def newEvents (w w' : World) : List Event := w'.trace.drop w.trace.length

theorem respStatus_stacks (rw : ResponseWriter) (sizes : List Nat) (l : List Event) :
    respStatus rw (sizes.map (fun n => Event.stack n true) ++ l) = respStatus rw l := by
  induction sizes with
  | nil => rfl
  | cons n ns ih => exact ih

/-- the events of `snapshot` do not write the header: the status is decided by what follows them -/
theorem respStatus_snapshot (O : Env) (w : World) (maxmem : Int) (opts : Cli.Opts) (rw : ResponseWriter)
    (l : List Event) :
    respStatus rw (((snapshotSpec O w maxmem opts).1.trace ++ l).drop w.trace.length) = respStatus rw l := by
  rw [snapshot_trace, List.append_assoc, List.append_assoc, List.drop_left, respStatus_stacks]
  rfl

/-! the decision table of the handler, as worlds -/

/-- an early status: one `http.Error`, nothing else happened (no `runtime.Stack`, no scan) -/
theorem handler_early (O : Env) (w : World) (rw : ResponseWriter) (req : Request) (st : Nat)
    (hp : handlerPlan req.method (req.form b!"maxmem") (req.form b!"augment") = .error st) :
    handlerSpec O w rw req = some (w.httpError rw (earlyMsg req.method (req.form b!"maxmem")) st) := by
  unfold handlerSpec; rw [hp]

/-- `snapshot` ran with the plan's `maxmem` and `AnalyzeSources` and failed: 500 -/
theorem handler_snapshot_failed (O : Env) (w : World) (rw : ResponseWriter) (req : Request) (p : WebPlan)
    (hp : handlerPlan req.method (req.form b!"maxmem") (req.form b!"augment") = .ok p)
    (he : (snapshotSpec O w p.maxmem (planOpts O p)).2.2 ≠ .nil) :
    handlerSpec O w rw req =
      some ((snapshotSpec O w p.maxmem (planOpts O p)).1.httpError rw msgSnapshot 500) := by
  unfold handlerSpec; rw [hp]
  have : ((snapshotSpec O w p.maxmem (planOpts O p)).2.2 != GoErr.nil) = true := by simpa using he
  simp only [this, if_true]

/-- `snapshot` succeeded, the similarity is not one of the four: 400, after the snapshot was taken -/
theorem handler_bad_similarity (O : Env) (w : World) (rw : ResponseWriter) (req : Request) (p : WebPlan)
    (hp : handlerPlan req.method (req.form b!"maxmem") (req.form b!"augment") = .ok p)
    (he : (snapshotSpec O w p.maxmem (planOpts O p)).2.2 = .nil)
    (hsi : parseSimilarity (req.form b!"similarity") = none) :
    handlerSpec O w rw req =
      some ((snapshotSpec O w p.maxmem (planOpts O p)).1.httpError rw msgSimilarity 400) := by
  unfold handlerSpec; rw [hp]
  have : ((snapshotSpec O w p.maxmem (planOpts O p)).2.2 != GoErr.nil) = false := by simp [he]
  simp only [this, Bool.false_eq_true, if_false, hsi]

/-- everything valid: the header, `Aggregate` at the parsed level on what `snapshot` returned, `ToHTML` -/
theorem handler_ok (O : Env) (w : World) (rw : ResponseWriter) (req : Request) (p : WebPlan) (l : Lvl)
    (hp : handlerPlan req.method (req.form b!"maxmem") (req.form b!"augment") = .ok p)
    (he : (snapshotSpec O w p.maxmem (planOpts O p)).2.2 = .nil)
    (hsi : parseSimilarity (req.form b!"similarity") = some l) :
    handlerSpec O w rw req =
      (O.aggregate (snapshotSpec O w p.maxmem (planOpts O p)).2.1 l).map fun a =>
        ((((snapshotSpec O w p.maxmem (planOpts O p)).1.setHeader rw hdrContentType valContentType).emit
          (.aggregate (snapshotSpec O w p.maxmem (planOpts O p)).2.1 l)).emit (.toHTML a rw [])) := by
  unfold handlerSpec; rw [hp]
  have : ((snapshotSpec O w p.maxmem (planOpts O p)).2.2 != GoErr.nil) = false := by simp [he]
  simp only [this, Bool.false_eq_true, if_false, hsi]

theorem planOpts_analyzeSources (O : Env) (p : WebPlan) : (planOpts O p).analyzeSources = p.analyzeSources := rfl
theorem planOpts_rest (O : Env) (p : WebPlan) :
    (planOpts O p).localGOROOT = O.goroot ∧ (planOpts O p).localGOPATHs = O.gopaths ∧
    (planOpts O p).nameArguments = true ∧ (planOpts O p).guessPaths = true := ⟨rfl, rfl, rfl, rfl⟩

/-- a GET request that reaches `Aggregate` does so with the model's `handlerOpts` -/
theorem handler_opts (req : Request) (p : WebPlan) (l : Lvl) (hm : req.method = methodGET) :
    (handlerPlan req.method (req.form b!"maxmem") (req.form b!"augment") = .ok p ∧
      parseSimilarity (req.form b!"similarity") = some l) ↔
    handlerOpts (req.form b!"maxmem") (req.form b!"augment") (req.form b!"similarity") = some (p, l) := by
  rw [hm]
  exact (handlerOpts_eq_some ..).symm

/-- the status line of the response is the model's `handlerStatus` -/
theorem handler_status (O : Env) (w : World) (rw : ResponseWriter) (req : Request) (w' : World)
    (h : handlerSpec O w rw req = some w') :
    respStatus rw (newEvents w w') =
      ((handlerStatus req.method (req.form b!"maxmem") (req.form b!"augment") (req.form b!"similarity")
        (snapOK O w req) : Nat) : Int) := by
  unfold handlerStatus snapOK newEvents
  cases hp : handlerPlan req.method (req.form b!"maxmem") (req.form b!"augment") with
  | error st =>
    rw [handler_early O w rw req st hp] at h
    rw [← Option.some.inj h]
    exact (congrArg (respStatus rw) List.drop_left).trans (if_pos rfl)
  | ok p =>
    simp only []
    by_cases he : (snapshotSpec O w p.maxmem (planOpts O p)).2.2 = GoErr.nil
    · simp only [beq_iff_eq.2 he, Bool.not_true, Bool.false_eq_true, if_false]
      cases hsi : parseSimilarity (req.form b!"similarity") with
      | none =>
        rw [handler_bad_similarity O w rw req p hp he hsi] at h
        rw [← Option.some.inj h]
        exact (respStatus_snapshot ..).trans (if_pos rfl)
      | some l =>
        rw [handler_ok O w rw req p l hp he hsi] at h
        obtain ⟨a, _, rfl⟩ := Option.map_eq_some_iff.1 h
        simp only [World.setHeader, World.emit_trace, List.append_assoc]
        exact (respStatus_snapshot ..).trans (if_pos rfl)
    · rw [handler_snapshot_failed O w rw req p hp he] at h
      simp only [← Option.some.inj h, beq_false_of_ne he, Bool.not_false, if_true]
      exact (respStatus_snapshot ..).trans (if_pos rfl)

/-- the handler panics only where `Aggregate` does -/
theorem handler_panics_iff (O : Env) (w : World) (rw : ResponseWriter) (req : Request) :
    handlerSpec O w rw req = none ↔
      ∃ p l, handlerPlan req.method (req.form b!"maxmem") (req.form b!"augment") = .ok p ∧
        (snapshotSpec O w p.maxmem (planOpts O p)).2.2 = .nil ∧
        parseSimilarity (req.form b!"similarity") = some l ∧
        O.aggregate (snapshotSpec O w p.maxmem (planOpts O p)).2.1 l = none := by
  constructor
  · intro h
    cases hp : handlerPlan req.method (req.form b!"maxmem") (req.form b!"augment") with
    | error st => rw [handler_early O w rw req st hp] at h; simp at h
    | ok p =>
      by_cases he : (snapshotSpec O w p.maxmem (planOpts O p)).2.2 = GoErr.nil
      · cases hsi : parseSimilarity (req.form b!"similarity") with
        | none => rw [handler_bad_similarity O w rw req p hp he hsi] at h; simp at h
        | some l =>
          rw [handler_ok O w rw req p l hp he hsi] at h
          exact ⟨p, l, rfl, he, rfl, by simpa using h⟩
      · rw [handler_snapshot_failed O w rw req p hp he] at h; simp at h
  · rintro ⟨p, l, hp, he, hsi, ha⟩
    rw [handler_ok O w rw req p l hp he hsi, ha]
    rfl

/-! ### end to end: the translated code against `handlerStatus` -/

/-- The translated `SnapshotHandler`, calling the translated `snapshot` and `DefaultOpts`, with
fuel 44: whenever it returns (i.e. `Aggregate` does not panic), the status line of the response
is the model's `handlerStatus` of the method, the three form values and whether `snapshot`
returned an error — for every request, world and oracle. -/
theorem translated_status (O : Env) (hfuel : 44 ≤ O.fuel) (w : World) (rw : ResponseWriter) (req : Request)
    (w' : World) (h : TrW.SnapshotHandler (closedEnv O) w rw req = some (w', ())) :
    respStatus rw (newEvents w w') =
      ((handlerStatus req.method (req.form b!"maxmem") (req.form b!"augment") (req.form b!"similarity")
        (snapOK O w req) : Nat) : Int) := by
  rw [tie_closed O hfuel] at h
  simp only [Option.map_eq_some_iff, Prod.mk.injEq, and_true] at h
  obtain ⟨w'', h1, rfl⟩ := h
  exact handler_status O w rw req w'' h1

/-- … and it panics exactly where `Aggregate` does -/
theorem translated_panics_iff (O : Env) (hfuel : 44 ≤ O.fuel) (w : World) (rw : ResponseWriter) (req : Request) :
    TrW.SnapshotHandler (closedEnv O) w rw req = none ↔
      ∃ p l, handlerPlan req.method (req.form b!"maxmem") (req.form b!"augment") = .ok p ∧
        (snapshotSpec O w p.maxmem (planOpts O p)).2.2 = .nil ∧
        parseSimilarity (req.form b!"similarity") = some l ∧
        O.aggregate (snapshotSpec O w p.maxmem (planOpts O p)).2.1 l = none := by
  rw [tie_closed O hfuel, Option.map_eq_none_iff]
  exact handler_panics_iff O w rw req

/-! ## non-vacuity (the early paths, which need no buffer) -/

/-- an environment whose oracles give nothing: they are never asked on these paths.  The first two
examples run the translated handler; the third runs `handlerSpec` (the translated handler would ask
`DefaultOpts`, which is `none` here) -/
def exampleEnv : Env where
  fuel := 44
  stackDump _ := b!"goroutine 1 [running]:\n"
  atoiErrVal _ := 0
  goroot := b!"/usr/lib/go"
  gopaths := [b!"/home/u/go"]
  scanSnapshot _ _ := (none, [], .eof)
  aggregate _ _ := none
  toHTML _ _ := .nil
  DefaultOpts _ := none
  SnapshotHandler _ _ _ := none
  snapshot _ _ _ := none

example : ((TrW.SnapshotHandler exampleEnv {} {} { method := b!"POST" }).map fun r => respStatus {} r.1.trace) = some 405 := by
  decide
example : ((TrW.SnapshotHandler exampleEnv {} {} { method := b!"GET", form := fun k => if k = b!"maxmem" then b!"1x" else [] }).map
    fun r => respStatus {} r.1.trace) = some 400 := by
  decide
example : ((handlerSpec exampleEnv {} {} { method := b!"GET", form := fun k => if k = b!"augment" then b!"2" else [] }).map
    fun w => respStatus {} w.trace) = some 400 := by
  decide

#print axioms body_snapshot
#print axioms loop_snapshot
#print axioms tie_snapshot
#print axioms tie_snapshot_modelEnv
#print axioms tie_DefaultOpts
#print axioms stage_maxmem
#print axioms stage_augment
#print axioms stage_similarity
#print axioms tie_SnapshotHandler_gen
#print axioms tie_SnapshotHandler
#print axioms tie_closed
#print axioms snapSizes_eq
#print axioms snapSizes_const
#print axioms snapInput_const
#print axioms snapSizes_length
#print axioms handler_early
#print axioms handler_snapshot_failed
#print axioms handler_bad_similarity
#print axioms handler_ok
#print axioms handler_opts
#print axioms handler_status
#print axioms handler_panics_iff
#print axioms translated_status
#print axioms translated_panics_iff

end PP.TrW
