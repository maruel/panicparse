import PP.TranslatedMisc
import PP.Tie.TranslatedRoots
import PP.Tie.TranslatedScan
import PP.Model.AugmentGlue
import PP.Lemmas.RootsLemmas
import PP.Lemmas.RootsFind
import PP.Lemmas.RootsSplit
import PP.Lemmas.RuneCount
import PP.Lemmas.Less
import PP.Lemmas.LineOffsetsLemmas
/-
Agreement theorems for group Misc (tie A of DESIGN.md): the small functions of package stack that
the other groups and the properties use as model functions — `splitPath`, `getFiles`, `(*Snapshot).IsRace`,
`(*Opts).isValid`, `(*Snapshot).guessPaths` (stack/context.go), `sortedByLen`, `pathJoin`,
`(*Func).String` (stack/stack.go), `lineToByteOffsets` (stack/source.go) — translated from the Go
source on every run (`PP/TranslatedMisc.lean`) and proved equal to the hand-written models
(`PP/Model/Roots.lean`, `Cli.lean`, `AugmentGlue.lean`, `Types.lean`).

Oracles of the generated `Env`: `mapOrder` (the order in which a range over a map visits the keys:
the theorems hold for EVERY oracle that returns a permutation, so the results do not depend on the
map order), `fuel` (the one unbounded loop: `src.length + 1` iterations suffice),
`Snapshot_findRoots` (tied in group Roots) and `Signature_updateLocations` (tied in group Scan),
which `modelEnv` maps to the same model functions as the `modelEnv` of those groups
(`mE_findRoots_eq_Roots`, `mE_updateLocations_eq_Scan`).  A Go run-time panic (`none`)
corresponds to `Except.error` of the model.

The ties of the functions that call nothing through the environment (all but guessPaths) are stated for
EVERY environment `E` (with the permutation / fuel hypothesis where an oracle is used); the `…_model`
corollaries at the end restate them in the fixed-point shape `TrM.f modelEnv = modelEnv.f`.

`for _, c := range p` over a string: `string(c)` is a real UTF-8 encoder (`goRuneString`), and
`decodeRune_roundtrip` proves that it gives back the bytes the rune was decoded from (what the
model's `nextRune` takes), so no fact about UTF-8 is assumed.
-/
namespace PP.TrM
open PP PP.Go PP.Go.Misc

/-- the model's `Except` as the translated functions return it: `none` = a Go panic -/
def ofExcept {ε α : Type} : Except ε α → Option α
  | .ok a => some a
  | .error _ => none

/-- every Go function of the group is mapped to its hand-written model -/
def modelEnv (fs : FS) (ord : List Bytes → List Bytes) (fuel : Nat) : Env where
  mapOrder := ord
  fuel := fuel
  Signature_updateLocations s goroot lg gomods gopaths := some (s.updateLocations goroot lg gomods gopaths)
  Snapshot_findRoots s := TrR.findRootsResult s (s.findRoots fs)
  splitPath p := some (PP.splitPath p)
  getFiles gs := some (PP.getFiles gs)
  Snapshot_IsRace s := ofExcept (Cli.isRace s.goroutines)
  Opts_isValid o := some o.isValid
  Snapshot_guessPaths s := ofExcept (s.guessPaths fs)
  sortedByLen m := some (PP.sortedByLen m)
  pathJoin xs := some (PP.pathJoin xs)
  Func_String f := some f.complete
  lineToByteOffsets src := some (AugGlue.lineToByteOffsets src)

section
variable (fs : FS) (ord : List Bytes → List Bytes) (fuel : Nat)

@[simp] theorem mE_mapOrder (l : List Bytes) : (modelEnv fs ord fuel).mapOrder l = ord l := rfl
@[simp] theorem mE_fuel : (modelEnv fs ord fuel).fuel = fuel := rfl
@[simp] theorem mE_updateLocations (s : Signature) (a b : Bytes) (c d : AMap) :
    (modelEnv fs ord fuel).Signature_updateLocations s a b c d = some (s.updateLocations a b c d) := rfl
@[simp] theorem mE_findRoots (s : Snapshot) :
    (modelEnv fs ord fuel).Snapshot_findRoots s = TrR.findRootsResult s (s.findRoots fs) := rfl
@[simp] theorem mE_splitPath (p : Bytes) : (modelEnv fs ord fuel).splitPath p = some (PP.splitPath p) := rfl
@[simp] theorem mE_getFiles (gs : List Goroutine) : (modelEnv fs ord fuel).getFiles gs = some (PP.getFiles gs) := rfl
@[simp] theorem mE_IsRace (s : Snapshot) :
    (modelEnv fs ord fuel).Snapshot_IsRace s = ofExcept (Cli.isRace s.goroutines) := rfl
@[simp] theorem mE_isValid (o : Cli.Opts) : (modelEnv fs ord fuel).Opts_isValid o = some o.isValid := rfl
@[simp] theorem mE_guessPaths (s : Snapshot) :
    (modelEnv fs ord fuel).Snapshot_guessPaths s = ofExcept (s.guessPaths fs) := rfl
@[simp] theorem mE_sortedByLen (m : AMap) : (modelEnv fs ord fuel).sortedByLen m = some (PP.sortedByLen m) := rfl
@[simp] theorem mE_pathJoin (xs : List Bytes) : (modelEnv fs ord fuel).pathJoin xs = some (PP.pathJoin xs) := rfl
@[simp] theorem mE_Func_String (f : Func) : (modelEnv fs ord fuel).Func_String f = some f.complete := rfl
@[simp] theorem mE_lineToByteOffsets (src : Bytes) :
    (modelEnv fs ord fuel).lineToByteOffsets src = some (AugGlue.lineToByteOffsets src) := rfl

/-- the two methods of the environment are the model functions the groups that translate them are tied to -/
theorem mE_findRoots_eq_Roots :
    (modelEnv fs ord fuel).Snapshot_findRoots = (TrR.modelEnv fs).Snapshot_findRoots := rfl
theorem mE_updateLocations_eq_Scan :
    (modelEnv fs ord fuel).Signature_updateLocations = (TrS.modelEnv fs).Signature_updateLocations := rfl
end

/-! ### pathJoin, (*Func).String, (*Snapshot).IsRace -/

theorem tie_pathJoin (E : Env) (xs : List Bytes) : pathJoin E xs = some (PP.pathJoin xs) := rfl

theorem tie_Func_String (E : Env) (f : Func) : Func_String E f = some f.complete := rfl

theorem tie_Snapshot_IsRace (E : Env) (s : Snapshot) :
    Snapshot_IsRace E s = ofExcept (Cli.isRace s.goroutines) := by
  unfold Snapshot_IsRace goIdx
  cases s.goroutines with
  | nil => rfl
  | cons g t => rfl

/-! ### (*Opts).isValid -/

theorem loop_isValid (E : Env) (ps : List Bytes) (i : Nat) :
    forRange (Opts_isValid_loop1 E) ps i () =
      if Cli.gopathsValid ps then some (.cont ()) else some (.ret false) := by
  induction ps generalizing i with
  | nil => rfl
  | cons p ps ih =>
    rw [forRange_cons]
    simp only [Opts_isValid_loop1, goContainsByte, Cli.gopathsValid, Cli.containsBackslash, Cli.backslash]
    by_cases h : (92 : UInt8) ∈ p
    · simp [h]
    · simp [h, ih]

theorem tie_Opts_isValid (E : Env) (o : Cli.Opts) : Opts_isValid E o = some o.isValid := by
  unfold Opts_isValid Cli.Opts.isValid
  simp only [goContainsByte, Cli.containsBackslash, Cli.backslash, loop_isValid]
  by_cases h1 : (!o.guessPaths && o.analyzeSources) = true
  · simp [h1]
  · by_cases h2 : (92 : UInt8) ∈ o.localGOROOT
    · simp [h1, h2]
    · by_cases h3 : Cli.gopathsValid o.localGOPATHs = true <;> simp [h1, h2, h3]

/-! ### sortedByLen -/

theorem loop_sortedByLen (E : Env) (ks : List Bytes) (i : Nat) (keys : List Bytes) :
    forRange (sortedByLen_loop1 E) ks i keys = some (.cont (keys ++ ks)) := by
  induction ks generalizing i keys with
  | nil => simp
  | cons k ks ih =>
    rw [forRange_cons]
    simp only [sortedByLen_loop1]
    rw [ih]
    simp

/-- the translated comparison closure never panics -/
theorem less1_isSome (E : Env) (a b : Bytes) : (sortedByLen_less1 E a b).isSome = true := by
  unfold sortedByLen_less1
  split <;> rfl

/-- "a before b unless less b a", for the translated closure, is the model's order -/
theorem less1_le (E : Env) (a b : Bytes) :
    (!((sortedByLen_less1 E b a).getD false)) = lenLexLe a b := by
  unfold sortedByLen_less1 lenLexLe
  simp only [len, strLt]
  by_cases h : b.length = a.length
  · simp [h]
  · have h' : ¬ a.length = b.length := fun e => h e.symm
    simp only [bne_iff_ne, ne_eq, h, not_false_eq_true, if_true, Option.getD_some]
    by_cases h2 : a.length < b.length
    · have : ¬ b.length < a.length := by omega
      simp [h2, this]
      intro e; exact absurd e h'
    · have : b.length < a.length := by omega
      simp [this]
      omega

/-- the closure of `sortedByLen` is a strict TOTAL order on distinct keys, so the sorted permutation
sort.Slice returns is unique: any permutation of the keys that is sorted for the closure is the model's
`sortedByLen` (this discharges the side condition of `goSortSlice`, see PreludeMisc.lean) -/
theorem sortedByLen_sorted_unique (E : Env) (m : AMap) (l : List Bytes) (hp : l.Perm m.keys)
    (hs : l.Pairwise fun a b => (sortedByLen_less1 E b a).getD false = false) : l = PP.sortedByLen m := by
  refine eq_sortedByLen_of_sorted hp (hs.imp ?_)
  intro a b h
  rw [← less1_le E a b, h]
  rfl

/-- `sortedByLen`, for every order in which the range over the map may visit the keys -/
theorem tie_sortedByLen (E : Env) (hord : ∀ l, (E.mapOrder l).Perm l) (m : AMap) :
    sortedByLen E m = some (PP.sortedByLen m) := by
  simp only [sortedByLen, loop_sortedByLen, after_cont, List.nil_append, goSortSlice, less1_isSome, List.all_eq_true, implies_true, if_true,
    Option.bind_some]
  have hf : (fun a b => !((sortedByLen_less1 E b a).getD false)) = lenLexLe := by
    funext a b; exact less1_le E a b
  rw [hf]
  congr 1
  exact eq_sortedByLen_of_sorted ((List.mergeSort_perm _ _).trans (hord _))
    (List.pairwise_mergeSort lenLexLe_trans lenLexLe_total _)

/-! ### lineToByteOffsets -/

theorem goSlice_from (src : Bytes) (offset : Nat) (h : offset ≤ src.length) :
    goSlice src offset src.length = some (src.drop offset) := by
  simp [goSlice, h]

/-- the `for offset := 0; offset < len(src); { … }` loop, with the fuel the model's loop has -/
theorem loop_offsets (E : Env) (src : Bytes) :
    ∀ (n F offset : Nat) (offsets : List Nat), n ≤ F → offset ≤ src.length → src.length + 1 ≤ offset + n →
      after (forFuel (lineToByteOffsets_loop1 E src) F (offsets, offset)) (fun st => some st.1) =
        some (AugGlue.lineOffsetsLoop n src offset offsets) := by
  intro n
  induction n with
  | zero => intro F offset offsets _ h1 h2; omega
  | succ n ih =>
    intro F offset offsets hF h1 h2
    obtain ⟨F', rfl⟩ : ∃ F', F = F' + 1 := ⟨F - 1, by omega⟩
    rw [forFuel_succ]
    simp only [lineToByteOffsets_loop1, len, AugGlue.lineOffsetsLoop]
    by_cases h : offset < src.length
    · simp only [h, decide_true, if_true, goSlice_from src offset h1, Option.bind_some, goIndexByteO]
      cases hi : Bytes.indexByte (src.drop offset) 10 with
      | none => simp
      | some k =>
        have hk := (AugGlue.newlineEnds_some (src.drop offset) 0 k hi).1
        simp only [List.length_drop] at hk
        simp only []
        have e : offset + (k + 1) = offset + k + 1 := by omega
        rw [e]
        exact ih F' (offset + k + 1) _ (by omega) (by omega) (by omega)
    · simp [h]

/-- `lineToByteOffsets`, with fuel for one iteration per byte and one more -/
theorem tie_lineToByteOffsets (E : Env) (src : Bytes) (hfuel : src.length + 1 ≤ E.fuel) :
    lineToByteOffsets E src = some (AugGlue.lineToByteOffsets src) := by
  simp only [lineToByteOffsets, AugGlue.lineToByteOffsets]
  exact loop_offsets E src (src.length + 1) E.fuel 0 [0, 0] hfuel (Nat.zero_le _) (by omega)

/-! ### (*Snapshot).guessPaths -/

/-- `r.updateLocations(s.RemoteGOROOT, s.LocalGOROOT, s.LocalGomods, s.RemoteGOPATHs)` -/
def updG (S : Snapshot) (g : Goroutine) : Goroutine × Bool :=
  g.updateLocations S.remoteGOROOT S.localGOROOT S.localGomods S.remoteGOPATHs

section
variable (fs : FS) (ord : List Bytes → List Bytes) (fuel : Nat)

/-- the loop over `s.Goroutines`: iteration `i` rewrites element `i` of the slice held by the receiver
(the write through the pointer `r`), the other fields of the receiver are not touched -/
theorem loop_guessPaths (S : Snapshot) :
    ∀ (xs pre : List Goroutine) (b : Bool),
      forRange (Snapshot_guessPaths_loop1 (modelEnv fs ord fuel)) xs pre.length ({ S with goroutines := pre ++ xs }, b) =
        some (.cont ({ S with goroutines := pre ++ xs.map fun g => (updG S g).1 },
          (xs.all fun g => (updG S g).2) && b))
  | [], pre, b => by simp
  | x :: xs, pre, b => by
    have ih := loop_guessPaths S xs (pre ++ [(updG S x).1]) ((updG S x).2 && b)
    rw [List.length_append, List.length_singleton, List.append_assoc, List.singleton_append] at ih
    rw [forRange_cons]
    simp only [Snapshot_guessPaths_loop1, mE_updateLocations, Option.bind_some, set_append_cons_self]
    show forRange _ xs (pre.length + 1) ({ S with goroutines := pre ++ (updG S x).1 :: xs }, (updG S x).2 && b) = _
    rw [ih, List.map_cons, List.all_cons, List.append_assoc, List.singleton_append, Bool.and_assoc,
      Bool.and_left_comm]

/-- `(*Snapshot).guessPaths`: the receiver afterwards and the result; a panic of `findRoots` is a panic -/
theorem tie_Snapshot_guessPaths (s : Snapshot) :
    Snapshot_guessPaths (modelEnv fs ord fuel) s = (modelEnv fs ord fuel).Snapshot_guessPaths s := by
  simp only [mE_guessPaths, Snapshot_guessPaths, mE_findRoots, Snapshot.guessPaths]
  cases h : s.findRoots fs with
  | error e => rfl
  | ok st =>
    simp only [TrR.findRootsResult, Option.bind_some]
    show after (forRange _ s.goroutines ([] : List Goroutine).length
      ({ TrR.mkS s st with goroutines := [] ++ s.goroutines }, st.missing == 0)) _ = _
    rw [loop_guessPaths fs ord fuel (TrR.mkS s st) s.goroutines [] _, after_cont]
    simp only [ofExcept, TrR.mkS, updG, List.nil_append, List.map_map, List.all_map, Option.some.injEq, Prod.mk.injEq]
    refine ⟨rfl, ?_⟩
    rw [Bool.and_comm]
    congr 1
end

/-! ### getFiles -/

/-- `files[k] = struct{}{}` for every `k` of a list, in order -/
def addAll (m : List Bytes) (ks : List Bytes) : List Bytes := ks.foldl goSetAdd m

theorem mem_goSetAdd {m : List Bytes} {k x : Bytes} : x ∈ goSetAdd m k ↔ x ∈ m ∨ x = k := by
  unfold goSetAdd
  by_cases h : k ∈ m
  · simp only [List.contains_iff_mem, h, if_true]
    constructor
    · exact Or.inl
    · rintro (h1 | rfl)
      · exact h1
      · exact h
  · simp [h]

theorem nodup_goSetAdd {m : List Bytes} {k : Bytes} (h : m.Nodup) : (goSetAdd m k).Nodup := by
  unfold goSetAdd
  by_cases hk : k ∈ m
  · simp [hk, h]
  · simp only [List.contains_iff_mem, hk, if_false]
    rw [List.nodup_append]
    refine ⟨h, by simp, ?_⟩
    intro a ha b hb
    simp only [List.mem_singleton] at hb
    subst hb
    intro e; subst e; exact hk ha

theorem mem_addAll {ks m : List Bytes} {x : Bytes} : x ∈ addAll m ks ↔ x ∈ m ∨ x ∈ ks := by
  induction ks generalizing m with
  | nil => simp [addAll]
  | cons k ks ih =>
    show x ∈ addAll (goSetAdd m k) ks ↔ _
    rw [ih, mem_goSetAdd, List.mem_cons, or_assoc]

theorem nodup_addAll {ks m : List Bytes} (h : m.Nodup) : (addAll m ks).Nodup := by
  induction ks generalizing m with
  | nil => exact h
  | cons k ks ih => exact ih (nodup_goSetAdd h)

theorem addAll_append (m a b : List Bytes) : addAll m (a ++ b) = addAll (addAll m a) b := by
  simp [addAll, List.foldl_append]

theorem loop_getFiles2 (E : Env) (cs : List Call) (i : Nat) (files : List Bytes) :
    forRange (getFiles_loop2 E) cs i files = some (.cont (addAll files (cs.map (·.remoteSrcPath)))) := by
  induction cs generalizing i files with
  | nil => rfl
  | cons c cs ih =>
    rw [forRange_cons]
    simp only [getFiles_loop2]
    rw [ih]
    rfl

theorem loop_getFiles1 (E : Env) (gs : List Goroutine) (i : Nat) (files : List Bytes) :
    forRange (getFiles_loop1 E) gs i files =
      some (.cont (addAll files (gs.flatMap fun g => g.sig.stack.calls.map (·.remoteSrcPath)))) := by
  induction gs generalizing i files with
  | nil => rfl
  | cons g gs ih =>
    rw [forRange_cons]
    simp only [getFiles_loop1, loop_getFiles2, afterIn_cont]
    rw [ih, List.flatMap_cons, addAll_append]

theorem loop_getFiles3 (E : Env) (fs : List Bytes) (i : Nat) (out : List Bytes) :
    forRange (getFiles_loop3 E) fs i out = some (.cont (out ++ fs)) := by
  induction fs generalizing i out with
  | nil => simp
  | cons f fs ih =>
    rw [forRange_cons]
    simp only [getFiles_loop3]
    rw [ih]
    simp

theorem insertUniq_sorted (a : Bytes) (l : List Bytes) (h : l.Pairwise fun x y => bytesLt x y = true) :
    (insertUniq a l).Pairwise fun x y => bytesLt x y = true := by
  induction l with
  | nil => simp [insertUniq]
  | cons b t ih =>
    rw [List.pairwise_cons] at h
    simp only [insertUniq]
    split
    · exact List.pairwise_cons.mpr h
    · rename_i hab
      split
      · rename_i hlt
        refine List.pairwise_cons.mpr ⟨?_, List.pairwise_cons.mpr h⟩
        intro x hx
        rcases List.mem_cons.mp hx with rfl | hx
        · exact hlt
        · exact bytesLt_trans _ _ _ hlt (h.1 x hx)
      · rename_i hlt
        refine List.pairwise_cons.mpr ⟨?_, ih h.2⟩
        intro x hx
        rcases mem_insertUniq.mp hx with rfl | hx
        · cases hba : bytesLt b x
          · have := bytesLt_tri x b (by simpa using hlt) hba
            subst this
            simp at hab
          · rfl
        · exact h.1 x hx

theorem foldr_insertUniq_sorted (l : List Bytes) :
    (l.foldr insertUniq []).Pairwise fun x y => bytesLt x y = true := by
  induction l with
  | nil => simp
  | cons a t ih => exact insertUniq_sorted a _ ih

theorem nodup_of_sorted {l : List Bytes} (h : l.Pairwise fun x y => bytesLt x y = true) : l.Nodup := by
  refine h.imp ?_
  intro a b hab e
  subst e
  rw [bytesLt_irrefl] at hab
  exact absurd hab (by simp)

/-- `getFiles`, for every order in which the range over the set may visit the keys: the result does not
depend on the map order -/
theorem tie_getFiles (E : Env) (hord : ∀ l, (E.mapOrder l).Perm l) (gs : List Goroutine) :
    getFiles E gs = some (PP.getFiles gs) := by
  simp only [getFiles, loop_getFiles1, after_cont, len, loop_getFiles3, List.nil_append, PP.getFiles]
  generalize (gs.flatMap fun g => g.sig.stack.calls.map (·.remoteSrcPath)) = L
  have hmem : ∀ x, x ∈ addAll [] L ↔ x ∈ L := fun x => by simp [mem_addAll]
  by_cases h0 : (addAll [] L).length = 0
  · have hnil : addAll [] L = [] := List.length_eq_zero_iff.mp h0
    have hL : L = [] := List.eq_nil_iff_forall_not_mem.mpr fun x hx => by
      have := (hmem x).mpr hx
      rw [hnil] at this
      cases this
    subst hL
    simp [addAll]
  · simp only [beq_iff_eq, h0, if_false, Option.some.injEq]
    have hsorted := foldr_insertUniq_sorted L
    have hperm : (addAll [] L).Perm (L.foldr insertUniq []) := by
      rw [List.perm_ext_iff_of_nodup (nodup_addAll List.nodup_nil) (nodup_of_sorted hsorted)]
      intro x
      rw [hmem, mem_foldr_insertUniq]
    exact List.Perm.eq_of_pairwise (le := fun a b => strLe a b = true)
      (fun a b _ _ h1 h2 => strLe_antisymm a b h1 h2)
      (List.pairwise_mergeSort strLe_trans strLe_total _)
      (hsorted.imp fun h => strLe_of_lt h)
      ((List.mergeSort_perm _ _).trans ((hord _).trans hperm))

/-! ### splitPath -/

/-! #### UTF-8: encoding the rune `utf8.DecodeRune` yields gives back the bytes it was decoded from

A byte is `a` high bits over `k` payload bits (`2 ^ k * a + x`); a code point is read six payload bits
at a time (`64 * r + y`). -/

theorem payload (k a x : Nat) (h : x < 2 ^ k) : (2 ^ k * a + x) &&& (2 ^ k - 1) = x := by
  rw [Nat.and_two_pow_sub_one_eq_mod, Nat.mul_add_mod, Nat.mod_eq_of_lt h]

theorem or_hi (k a x : Nat) (h : x < 2 ^ k) : 2 ^ k * a ||| x = 2 ^ k * a + x :=
  (Nat.two_pow_add_eq_or_of_lt h a).symm

theorem byte_split (k a : Nat) {b : Nat} (h0 : 2 ^ k * a ≤ b) (h1 : b < 2 ^ k * a + 2 ^ k) :
    ∃ x, x < 2 ^ k ∧ b = 2 ^ k * a + x :=
  ⟨b - 2 ^ k * a, by omega, by omega⟩

theorem pack (r y : Nat) (h : y < 64) : r <<< 6 ||| y = 64 * r + y := by
  rw [← Nat.shiftLeft_add_eq_or_of_lt (i := 6) h r, Nat.shiftLeft_eq, Nat.mul_comm]

theorem pack2 (x y z : Nat) (hy : y < 64) (hz : z < 64) : x <<< 12 ||| y <<< 6 ||| z = 64 * (64 * x + y) + z := by
  rw [show x <<< 12 = x <<< 6 <<< 6 from Nat.shiftLeft_add x 6 6, ← Nat.shiftLeft_or_distrib, pack x y hy, pack _ z hz]

theorem pack3 (x y z w : Nat) (hy : y < 64) (hz : z < 64) (hw : w < 64) :
    x <<< 18 ||| y <<< 12 ||| z <<< 6 ||| w = 64 * (64 * (64 * x + y) + z) + w := by
  rw [show x <<< 18 = x <<< 12 <<< 6 from Nat.shiftLeft_add x 12 6, show y <<< 12 = y <<< 6 <<< 6 from Nat.shiftLeft_add y 6 6,
    ← Nat.shiftLeft_or_distrib, ← Nat.shiftLeft_or_distrib, pack2 x y z hy hz, pack _ w hw]

theorem shr6 (r y : Nat) (h : y < 64) : (64 * r + y) >>> 6 = r := by
  rw [Nat.shiftRight_eq_div_pow, Nat.mul_add_div (by decide), Nat.div_eq_of_lt h, Nat.add_zero]

theorem low6 (r y : Nat) (h : y < 64) : (64 * r + y) &&& 0x3F = y :=
  payload 6 r y h

theorem goRuneString_two {r : Nat} (h1 : 0x80 ≤ r) (h2 : r < 0x800) :
    goRuneString r = [UInt8.ofNat (0xC0 ||| r >>> 6), UInt8.ofNat (0x80 ||| (r &&& 0x3F))] := by
  unfold goRuneString
  rw [if_neg (Nat.not_lt.mpr h1), if_pos h2]

theorem goRuneString_three {r : Nat} (h1 : 0x800 ≤ r) (h2 : r < 0x10000) (h3 : r < 0xD800 ∨ 0xDFFF < r) :
    goRuneString r = [UInt8.ofNat (0xE0 ||| r >>> 6 >>> 6), UInt8.ofNat (0x80 ||| (r >>> 6 &&& 0x3F)),
      UInt8.ofNat (0x80 ||| (r &&& 0x3F))] := by
  unfold goRuneString
  rw [if_neg (by omega), if_neg (by omega), if_neg (by omega), if_pos h2]
  rfl

theorem goRuneString_four {r : Nat} (h1 : 0x10000 ≤ r) (h2 : r ≤ 0x10FFFF) :
    goRuneString r = [UInt8.ofNat (0xF0 ||| r >>> 6 >>> 6 >>> 6), UInt8.ofNat (0x80 ||| (r >>> 6 >>> 6 &&& 0x3F)),
      UInt8.ofNat (0x80 ||| (r >>> 6 &&& 0x3F)), UInt8.ofNat (0x80 ||| (r &&& 0x3F))] := by
  unfold goRuneString
  rw [if_neg (by omega), if_neg (by omega), if_neg (by omega), if_neg (by omega)]
  rfl

theorem enc2 (c0 b1 : Nat) (h0 : 0xC2 ≤ c0) (h1 : c0 ≤ 0xDF) (h2 : 0x80 ≤ b1) (h3 : b1 ≤ 0xBF) :
    goRuneString ((c0 &&& 0x1F) <<< 6 ||| (b1 &&& 0x3F)) = [UInt8.ofNat c0, UInt8.ofNat b1] := by
  obtain ⟨x, hx, rfl⟩ := byte_split 5 6 (b := c0) (by omega) (by omega)
  obtain ⟨y, hy, rfl⟩ := byte_split 6 2 h2 (by omega)
  rw [payload 5 6 x hx, payload 6 2 y hy, pack x y hy, goRuneString_two (by omega) (by omega), shr6 x y hy, low6 x y hy,
    or_hi 5 6 x hx, or_hi 6 2 y hy]

theorem enc3 (c0 b1 b2 : Nat) (h0 : 0xE0 ≤ c0) (h1 : c0 ≤ 0xEF) (h2 : 0x80 ≤ b1) (h3 : b1 ≤ 0xBF)
    (hlo : c0 = 0xE0 → 0xA0 ≤ b1) (hhi : c0 = 0xED → b1 ≤ 0x9F) (h4 : 0x80 ≤ b2) (h5 : b2 ≤ 0xBF) :
    goRuneString ((c0 &&& 0x0F) <<< 12 ||| (b1 &&& 0x3F) <<< 6 ||| (b2 &&& 0x3F)) =
      [UInt8.ofNat c0, UInt8.ofNat b1, UInt8.ofNat b2] := by
  obtain ⟨x, hx, rfl⟩ := byte_split 4 14 h0 (by omega)
  obtain ⟨y, hy, rfl⟩ := byte_split 6 2 h2 (by omega)
  obtain ⟨z, hz, rfl⟩ := byte_split 6 2 h4 (by omega)
  have hr : 0x800 ≤ 64 * (64 * x + y) + z ∧ 64 * (64 * x + y) + z < 0x10000 ∧
      (64 * (64 * x + y) + z < 0xD800 ∨ 0xDFFF < 64 * (64 * x + y) + z) := by omega
  rw [payload 4 14 x hx, payload 6 2 y hy, payload 6 2 z hz, pack2 x y z hy hz, goRuneString_three hr.1 hr.2.1 hr.2.2,
    shr6 _ z hz, low6 _ z hz, shr6 x y hy, low6 x y hy, or_hi 4 14 x hx, or_hi 6 2 y hy, or_hi 6 2 z hz]

theorem enc4 (c0 b1 b2 b3 : Nat) (h0 : 0xF0 ≤ c0) (h1 : c0 ≤ 0xF4) (h2 : 0x80 ≤ b1) (h3 : b1 ≤ 0xBF)
    (hlo : c0 = 0xF0 → 0x90 ≤ b1) (hhi : c0 = 0xF4 → b1 ≤ 0x8F) (h4 : 0x80 ≤ b2) (h5 : b2 ≤ 0xBF)
    (h6 : 0x80 ≤ b3) (h7 : b3 ≤ 0xBF) :
    goRuneString ((c0 &&& 0x07) <<< 18 ||| (b1 &&& 0x3F) <<< 12 ||| (b2 &&& 0x3F) <<< 6 ||| (b3 &&& 0x3F)) =
      [UInt8.ofNat c0, UInt8.ofNat b1, UInt8.ofNat b2, UInt8.ofNat b3] := by
  obtain ⟨x, hx, rfl⟩ := byte_split 3 30 h0 (by omega)
  obtain ⟨y, hy, rfl⟩ := byte_split 6 2 h2 (by omega)
  obtain ⟨z, hz, rfl⟩ := byte_split 6 2 h4 (by omega)
  obtain ⟨w, hw, rfl⟩ := byte_split 6 2 h6 (by omega)
  have hr : 0x10000 ≤ 64 * (64 * (64 * x + y) + z) + w ∧ 64 * (64 * (64 * x + y) + z) + w ≤ 0x10FFFF := by omega
  rw [payload 3 30 x hx, payload 6 2 y hy, payload 6 2 z hz, payload 6 2 w hw, pack3 x y z w hy hz hw,
    goRuneString_four hr.1 hr.2, shr6 _ w hw, low6 _ w hw, shr6 _ z hz, low6 _ z hz, shr6 x y hy, low6 x y hy,
    or_hi 3 30 x hx, or_hi 6 2 y hy, or_hi 6 2 z hz, or_hi 6 2 w hw]

/-- unless the decoder reports an invalid byte (U+FFFD, width ≤ 1), `string(rune)` is the bytes the rune was
decoded from: this is what the model's `nextRune` takes for `string(c)` -/
theorem decodeRune_roundtrip (b0 : UInt8) (t : Bytes) :
    ¬ ((decodeRune (b0 :: t)).1 = runeError ∧ (decodeRune (b0 :: t)).2 ≤ 1) →
      goRuneString (decodeRune (b0 :: t)).1 = (b0 :: t).take (decodeRune (b0 :: t)).2 := by
  have h := decodeRune_decodesTo b0 t
  generalize decodeRune (b0 :: t) = r at h ⊢
  intro hn
  cases h with
  | invalid => exact absurd ⟨rfl, Nat.le_refl 1⟩ hn
  | one _ _ h0 => simp [goRuneString, h0]
  | two _ _ _ h0 h1 c1 => simp [enc2 _ _ h0 h1 c1.1 c1.2]
  | three _ _ _ _ h0 h1 c1 c2 lo hi => simp [enc3 _ _ _ h0 h1 c1.1 c1.2 lo hi c2.1 c2.2]
  | four _ _ _ _ _ h0 h1 c1 c2 c3 lo hi => simp [enc4 _ _ _ _ h0 h1 c1.1 c1.2 lo hi c2.1 c2.2 c3.1 c3.2]

theorem nextRune_cond (b0 : UInt8) (t : Bytes) :
    (((decodeRune (b0 :: t)).1 == runeError && decide ((decodeRune (b0 :: t)).2 ≤ 1)) = true) ↔
      ((decodeRune (b0 :: t)).1 = runeError ∧ (decodeRune (b0 :: t)).2 ≤ 1) := by
  simp

theorem goRuneAt_str (b0 : UInt8) (t : Bytes) : (goRuneAt (b0 :: t)).1.str = (nextRune (b0 :: t)).1 := by
  unfold goRuneAt nextRune
  simp only
  split
  · rename_i h
    rw [((nextRune_cond b0 t).mp h).1]
    show goRuneString runeError = runeErrorUTF8
    decide
  · rename_i h
    exact decodeRune_roundtrip b0 t (fun hn => h ((nextRune_cond b0 t).mpr hn))

theorem goRuneAt_drop (b0 : UInt8) (t : Bytes) :
    (b0 :: t).drop (goRuneAt (b0 :: t)).2 = (nextRune (b0 :: t)).2 := by
  unfold goRuneAt nextRune
  simp only
  split
  · rename_i h
    have h1 := ((nextRune_cond b0 t).mp h).2
    have h2 := decodeRune_width_pos b0 t
    have : (decodeRune (b0 :: t)).2 = 1 := by omega
    rw [this]
  · rfl

theorem nextRune_length (b0 : UInt8) (t : Bytes) : (nextRune (b0 :: t)).2.length ≤ t.length := by
  unfold nextRune
  simp only
  split
  · simp
  · have := decodeRune_width_pos b0 t
    simp only [List.length_drop, List.length_cons]
    omega

theorem goRuneString_eq_slash (v : Nat) : goRuneString v = [47] ↔ v = 47 := by
  unfold goRuneString
  by_cases h : v < 0x80
  · rw [if_pos h, List.singleton_inj, ← UInt8.toNat_inj,
      UInt8.toNat_ofNat_of_lt' (Nat.lt_trans h (by decide))]
    rfl
  · -- from 0x80 on a rune is written with two bytes or more
    rw [if_neg h]
    refine ⟨fun e => ?_, fun e => by omega⟩
    have hl := congrArg List.length e
    split at hl
    · cases hl
    split at hl
    · cases hl
    split at hl <;> cases hl

/-- `c != '/'` on the rune is `string(c) != "/"` on its bytes -/
theorem goRuneAt_slash (b0 : UInt8) (t : Bytes) :
    ((goRuneAt (b0 :: t)).1.val != 47) = ((nextRune (b0 :: t)).1 != [47]) := by
  rw [← goRuneAt_str, Bool.eq_iff_iff]
  simp [goRuneAt, goRuneString_eq_slash]

theorem count_eq_allSlash (s : Bytes) : (goCountByte s 47 == len s) = allSlash s := by
  unfold goCountByte allSlash len
  rw [Bool.eq_iff_iff]
  simp only [beq_iff_eq, List.count_eq_length, List.all_eq_true]
  constructor
  · intro h b hb; exact (h b hb).symm
  · intro h b hb; exact (h b hb).symm

theorem len_eq_isEmpty {α : Type} (l : List α) : (len l == 0) = l.isEmpty := by
  cases l <;> rfl

/-- what follows the loop of `splitPath` -/
def splitPathEnd (st : List Bytes × Bytes) : Option (List Bytes) :=
  if (st.2 != ([] : List UInt8)) then some (st.1 ++ [st.2]) else some st.1

theorem loop_splitPath (E : Env) :
    ∀ (fuel : Nat) (p : Bytes) (out : List Bytes) (s : Bytes) (i : Nat), p.length ≤ fuel →
      after (forRange (splitPath_loop1 E) (goRangeStringGo fuel p) i (out, s)) splitPathEnd =
        some (splitPathGo (fuel + 1) p out s) := by
  intro fuel
  induction fuel with
  | zero =>
    intro p out s i hp
    have : p = [] := List.length_eq_zero_iff.mp (by omega)
    subst this
    simp only [goRangeStringGo, forRange_nil, after_cont, splitPathEnd, splitPathGo]
    split <;> rfl
  | succ fuel ih =>
    intro p out s i hp
    cases p with
    | nil =>
      simp only [goRangeStringGo, forRange_nil, after_cont, splitPathEnd, splitPathGo]
      split <;> rfl
    | cons b0 t =>
      have hlen : (nextRune (b0 :: t)).2.length ≤ fuel := by
        have := nextRune_length b0 t
        simp only [List.length_cons] at hp
        omega
      simp only [goRangeStringGo, forRange_cons, splitPath_loop1, goRuneAt_slash, goRuneAt_str, goRuneAt_drop,
        count_eq_allSlash, len_eq_isEmpty]
      rw [splitPathGo]
      by_cases c1 : ((nextRune (b0 :: t)).1 != [47] || out.isEmpty && allSlash s) = true
      · simp only [if_pos c1]
        exact ih _ _ _ _ hlen
      · simp only [if_neg c1]
        by_cases c2 : (s != []) = true
        · simp only [if_pos c2]
          exact ih _ _ _ _ hlen
        · simp only [if_neg c2]
          exact ih _ _ _ _ hlen

theorem tie_splitPath (E : Env) (p : Bytes) : splitPath E p = some (PP.splitPath p) := by
  unfold splitPath PP.splitPath
  split
  · rfl
  · exact loop_splitPath E p.length p [] [] 0 (Nat.le_refl _)

/-! ### the same statements as equations `TrM.f modelEnv = modelEnv.f`: the model is a fixed point of the translated
equations (`modelEnv` with any key order that is a permutation and enough fuel) -/

section
variable (fs : FS) (ord : List Bytes → List Bytes) (fuel : Nat)

theorem tie_splitPath_model (p : Bytes) :
    splitPath (modelEnv fs ord fuel) p = (modelEnv fs ord fuel).splitPath p := tie_splitPath _ p

theorem tie_getFiles_model (hord : ∀ l, (ord l).Perm l) (gs : List Goroutine) :
    getFiles (modelEnv fs ord fuel) gs = (modelEnv fs ord fuel).getFiles gs := tie_getFiles _ hord gs

theorem tie_Snapshot_IsRace_model (s : Snapshot) :
    Snapshot_IsRace (modelEnv fs ord fuel) s = (modelEnv fs ord fuel).Snapshot_IsRace s := tie_Snapshot_IsRace _ s

theorem tie_Opts_isValid_model (o : Cli.Opts) :
    Opts_isValid (modelEnv fs ord fuel) o = (modelEnv fs ord fuel).Opts_isValid o := tie_Opts_isValid _ o

theorem tie_sortedByLen_model (hord : ∀ l, (ord l).Perm l) (m : AMap) :
    sortedByLen (modelEnv fs ord fuel) m = (modelEnv fs ord fuel).sortedByLen m := tie_sortedByLen _ hord m

theorem tie_pathJoin_model (xs : List Bytes) :
    pathJoin (modelEnv fs ord fuel) xs = (modelEnv fs ord fuel).pathJoin xs := rfl

theorem tie_Func_String_model (f : Func) :
    Func_String (modelEnv fs ord fuel) f = (modelEnv fs ord fuel).Func_String f := rfl

theorem tie_lineToByteOffsets_model (src : Bytes) (hfuel : src.length + 1 ≤ fuel) :
    lineToByteOffsets (modelEnv fs ord fuel) src = (modelEnv fs ord fuel).lineToByteOffsets src :=
  tie_lineToByteOffsets _ src hfuel
end

/-! ### non-vacuity: the translated definitions compute -/

/-- a map order that reverses the keys -/
def revEnv : Env := modelEnv ⟨fun _ => false, fun _ => none⟩ List.reverse 100

example : splitPath revEnv [47, 47, 97, 47, 98, 0xFF, 99, 47, 47, 100] =
    some [b!"//a", [98, 0xEF, 0xBF, 0xBD, 99], b!"d"] := by decide
example : splitPath revEnv [47, 0xE2, 0x82, 47, 120, 0xEF, 0xBF, 0xBD] =
    some [[47, 0xEF, 0xBF, 0xBD, 0xEF, 0xBF, 0xBD], [120, 0xEF, 0xBF, 0xBD]] := by decide
example : goRuneString 0x20AC = [0xE2, 0x82, 0xAC] := by decide
example : goRuneString 0x1F600 = [0xF0, 0x9F, 0x98, 0x80] := by decide
example : goRuneString 0xD800 = [0xEF, 0xBF, 0xBD] := by decide
example : Opts_isValid revEnv { localGOPATHs := [b!"/a", [99, 58, 92, 98]] } = some false := by decide
example : lineToByteOffsets revEnv b!"a\nbc\n" = some [0, 0, 2, 5] := by decide
example : Snapshot_IsRace revEnv {} = none := by decide

end PP.TrM

#print axioms PP.TrM.decodeRune_roundtrip
#print axioms PP.TrM.tie_splitPath
#print axioms PP.TrM.tie_getFiles
#print axioms PP.TrM.tie_Snapshot_IsRace
#print axioms PP.TrM.tie_Opts_isValid
#print axioms PP.TrM.tie_Snapshot_guessPaths
#print axioms PP.TrM.tie_sortedByLen
#print axioms PP.TrM.sortedByLen_sorted_unique
#print axioms PP.TrM.tie_pathJoin
#print axioms PP.TrM.tie_Func_String
#print axioms PP.TrM.tie_lineToByteOffsets
#print axioms PP.TrM.tie_splitPath_model
#print axioms PP.TrM.tie_getFiles_model
#print axioms PP.TrM.tie_Snapshot_IsRace_model
#print axioms PP.TrM.tie_Opts_isValid_model
#print axioms PP.TrM.tie_sortedByLen_model
#print axioms PP.TrM.tie_pathJoin_model
#print axioms PP.TrM.tie_Func_String_model
#print axioms PP.TrM.tie_lineToByteOffsets_model
