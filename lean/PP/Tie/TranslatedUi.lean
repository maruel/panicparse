import PP.TranslatedUi
import PP.Lemmas.ConsoleWidth
/-
Agreement theorems for group Ui (tie A of DESIGN.md): the console renderer.
`pathFormat.formatCall`,
`pathFormat.createdByString`, `calcBucketsLengths`, `calcGoroutinesLengths`,
`(*Palette).funcColor`, `functionColor`, `routineColor`, `BucketHeader`,
`GoroutineHeader`, `callLine`, `StackLines` of internal/ui.go and
`(*Signature).SleepString`, `(*Arg).String`, `(*Args).String` of stack/stack.go,
translated from the Go source on every run (`PP/TranslatedUi.lean`) and proved equal
to the hand-written model functions the theorems of C16 are about
(`PP/Model/Console.lean`), for every palette, path format and input.

No translated function of this group can panic: every equation is `some (model …)`.
The verbs of package fmt (`%-*s`, `%d`, `%x`, `%08x`) and `strings.Join` are the
model's own `fmtPadRight`, `natToDec`, `fmtHex`, `fmtHex08`, `join` (trusted, see
`PP/Go/PreludeUi.lean`).
-/
namespace PP.TrU
open PP PP.Go

def modelEnv : Env where
  Signature_SleepString s := some (Console.sleepString s)
  Arg_String a := some (Console.argString a)
  Args_String a := some (Console.argsString a)
  pathFormat_formatCall pf c := some (Console.formatCall pf c)
  pathFormat_createdByString pf s := some (Console.createdByString pf s)
  calcBucketsLengths a pf := some (Console.calcBucketsLengths a.buckets pf)
  calcGoroutinesLengths s pf := some (Console.calcGoroutinesLengths s.goroutines pf)
  Palette_funcColor p l main exported := some (Console.funcColor p l main exported)
  Palette_functionColor p c := some (Console.functionColor p c)
  Palette_routineColor p first multiple := some (Console.routineColor p first multiple)
  Palette_BucketHeader p b pf multiple := some (Console.bucketHeader p b pf multiple)
  Palette_GoroutineHeader p g pf multiple := some (Console.goroutineHeader p g pf multiple)
  Palette_callLine p line srcLen pkgLen pf := some (Console.callLine p line srcLen pkgLen pf)
  Palette_StackLines p sig srcLen pkgLen pf := some (Console.stackLines p sig srcLen pkgLen pf)

@[simp] theorem mE_Signature_SleepString (s : Signature) :
    modelEnv.Signature_SleepString s = some (Console.sleepString s) := rfl
@[simp] theorem mE_Arg_String (a : Arg) : modelEnv.Arg_String a = some (Console.argString a) := rfl
@[simp] theorem mE_Args_String (a : Args) : modelEnv.Args_String a = some (Console.argsString a) := rfl
@[simp] theorem mE_pathFormat_formatCall (pf : Console.PathFormat) (c : Call) :
    modelEnv.pathFormat_formatCall pf c = some (Console.formatCall pf c) := rfl
@[simp] theorem mE_pathFormat_createdByString (pf : Console.PathFormat) (s : Signature) :
    modelEnv.pathFormat_createdByString pf s = some (Console.createdByString pf s) := rfl
@[simp] theorem mE_calcBucketsLengths (a : Aggregated) (pf : Console.PathFormat) :
    modelEnv.calcBucketsLengths a pf = some (Console.calcBucketsLengths a.buckets pf) := rfl
@[simp] theorem mE_calcGoroutinesLengths (s : Snapshot) (pf : Console.PathFormat) :
    modelEnv.calcGoroutinesLengths s pf = some (Console.calcGoroutinesLengths s.goroutines pf) := rfl
@[simp] theorem mE_Palette_funcColor (p : Console.Palette) (l : Loc) (main exported : Bool) :
    modelEnv.Palette_funcColor p l main exported = some (Console.funcColor p l main exported) := rfl
@[simp] theorem mE_Palette_functionColor (p : Console.Palette) (c : Call) :
    modelEnv.Palette_functionColor p c = some (Console.functionColor p c) := rfl
@[simp] theorem mE_Palette_routineColor (p : Console.Palette) (first multiple : Bool) :
    modelEnv.Palette_routineColor p first multiple = some (Console.routineColor p first multiple) := rfl
@[simp] theorem mE_Palette_BucketHeader (p : Console.Palette) (b : Bucket) (pf : Console.PathFormat) (m : Bool) :
    modelEnv.Palette_BucketHeader p b pf m = some (Console.bucketHeader p b pf m) := rfl
@[simp] theorem mE_Palette_GoroutineHeader (p : Console.Palette) (g : Goroutine) (pf : Console.PathFormat) (m : Bool) :
    modelEnv.Palette_GoroutineHeader p g pf m = some (Console.goroutineHeader p g pf m) := rfl
@[simp] theorem mE_Palette_callLine (p : Console.Palette) (line : Call) (srcLen pkgLen : Nat) (pf : Console.PathFormat) :
    modelEnv.Palette_callLine p line srcLen pkgLen pf = some (Console.callLine p line srcLen pkgLen pf) := rfl
@[simp] theorem mE_Palette_StackLines (p : Console.Palette) (sig : Signature) (srcLen pkgLen : Nat)
    (pf : Console.PathFormat) :
    modelEnv.Palette_StackLines p sig srcLen pkgLen pf = some (Console.stackLines p sig srcLen pkgLen pf) := rfl

/-! ### stack.go: SleepString, Arg.String, Args.String -/

theorem tie_Signature_SleepString (s : Signature) :
    TrU.Signature_SleepString modelEnv s = modelEnv.Signature_SleepString s := by
  simp only [TrU.Signature_SleepString, mE_Signature_SleepString, Console.sleepString, Console.fmtDec]
  by_cases h1 : s.sleepMax = 0
  · simp [h1]
  · by_cases h2 : s.sleepMin = s.sleepMax
    · simp [h1, h2]
    · simp [h1, h2]

/-- `zeroToNine[v : v+1]` for `v < 10` (the addition is uint64's) -/
theorem digit_slice (v : Nat) (h : v < 10) :
    goSlice ([48, 49, 50, 51, 52, 53, 54, 55, 56, 57] : List UInt8) v ((v + 1) % 18446744073709551616) =
      some [(48 + v).toUInt8] := by
  have table : ∀ v : Fin 10,
      goSlice ([48, 49, 50, 51, 52, 53, 54, 55, 56, 57] : List UInt8) v.1 ((v.1 + 1) % 18446744073709551616) =
        some [(48 + v.1).toUInt8] := by decide +kernel
  exact table ⟨v, h⟩

/-- `Args.String` of the `Fields` of an aggregate (no `Processed`) -/
theorem argsString_fields (fs : List Arg) (el : Bool) :
    Console.argsString { values := fs, elided := el } =
      Bytes.join ([44, 32] : List UInt8) (Console.argStrings fs ++ (if el then [([46, 46, 46] : List UInt8)] else [])) := by
  cases el <;> simp [Console.argsString]

theorem tie_Arg_String (a : Arg) : TrU.Arg_String modelEnv a = modelEnv.Arg_String a := by
  cases a with
  | scalar name v isPtr otl inacc =>
    simp only [TrU.Arg_String, mE_Arg_String, ofArg_scalar, Console.argString]
    by_cases hn : name = []
    · by_cases ho : otl = true
      · simp [hn, ho]
      · by_cases hv : v < 10
        · simp [hn, ho, hv, digit_slice v hv]
        · simp [hn, ho, hv]
    · simp [hn]
  | agg fs el =>
    simp only [TrU.Arg_String, mE_Arg_String, mE_Args_String, ofArg_agg, Console.argString, argsString_fields]
    simp

theorem loop_Args_String (a : Args) :
    ∀ (xs : List Arg) (k : Nat) (v : List Bytes),
    forRange (Args_String_loop1 modelEnv a) xs k v = some (Step.cont (v ++ Console.argStrings xs))
  | [], _, v => by simp [Console.argStrings]
  | x :: xs, k, v => by
    rw [forRange_cons]
    simp only [Args_String_loop1, mE_Arg_String, Option.bind_some, Console.argStrings]
    rw [loop_Args_String a xs (k + 1) (v ++ [Console.argString x])]
    simp

theorem tie_Args_String (a : Args) : TrU.Args_String modelEnv a = modelEnv.Args_String a := by
  simp only [TrU.Args_String, mE_Args_String, Console.argsString, loop_Args_String, len, after_cont,
    List.nil_append]
  by_cases hp : a.processed.length = 0
  · cases he : a.elided <;> simp [hp]
  · cases he : a.elided <;> simp [hp]

/-! ### ui.go: formatCall, createdByString -/

theorem tie_pathFormat_formatCall (pf : Console.PathFormat) (c : Call) :
    TrU.pathFormat_formatCall modelEnv pf c = modelEnv.pathFormat_formatCall pf c := by
  simp only [TrU.pathFormat_formatCall, mE_pathFormat_formatCall, Console.formatCall, Console.pathLine,
    Console.fmtDec]
  cases pf
  · by_cases h2 : c.localSrcPath = [] <;> simp [h2]
  · by_cases h1 : c.relSrcPath = []
    · by_cases h2 : c.localSrcPath = [] <;> simp [h1, h2]
    · simp [h1]
  · simp

theorem tie_pathFormat_createdByString (pf : Console.PathFormat) (s : Signature) :
    TrU.pathFormat_createdByString modelEnv pf s = modelEnv.pathFormat_createdByString pf s := by
  simp only [TrU.pathFormat_createdByString, mE_pathFormat_createdByString, mE_pathFormat_formatCall,
    Console.createdByString, len]
  cases h : s.createdBy.calls with
  | nil => simp
  | cons c rest => simp

/-! ### ui.go: calcBucketsLengths, calcGoroutinesLengths (a loop inside a loop) -/

/-- the inner loop of both functions: a body that reads `calls[i]` and takes the model's step runs
the model's fold over the calls from `k` on -/
theorem loop_calls (pf : Console.PathFormat) (calls : List Call)
    (f : Nat → Call → Nat × Nat → Option (Step (Nat × Nat) (Nat × Nat)))
    (hf : ∀ i x st c, calls[i]? = some c → f i x st = some (.cont
      (if (Console.formatCall pf c).length > st.1 then (Console.formatCall pf c).length else st.1,
       if c.fn.dirName.length > st.2 then c.fn.dirName.length else st.2))) :
    ∀ (xs : List Call) (k : Nat) (st : Nat × Nat), calls.drop k = xs →
    forRange f xs k st = some (Step.cont (Console.calcCallsLengths pf st xs))
  | [], _, st, _ => rfl
  | x :: xs, k, st, hs => by
    obtain ⟨hx, hd⟩ := drop_cons_inv hs
    rw [forRange_cons, hf k x st x hx, Console.calcCallsLengths_cons]
    exact loop_calls pf calls f hf xs (k + 1) _ hd

/-- the outer loop of both functions, over buckets or goroutines -/
theorem loop_sigs {α : Type} (pf : Console.PathFormat) (sig : α → Signature)
    (f : Nat → α → Nat × Nat → Option (Step (Nat × Nat) (Nat × Nat)))
    (hf : ∀ k e st, f k e st = some (.cont (Console.calcCallsLengths pf st (sig e).stack.calls))) :
    ∀ (es : List α) (k : Nat) (st : Nat × Nat),
    forRange f es k st = some (Step.cont (es.foldl (fun acc e => Console.calcCallsLengths pf acc (sig e).stack.calls) st))
  | [], _, _ => rfl
  | e :: es, k, st => by
    rw [forRange_cons, hf]
    exact loop_sigs pf sig f hf es (k + 1) _

theorem tie_calcBucketsLengths (a : Aggregated) (pf : Console.PathFormat) :
    TrU.calcBucketsLengths modelEnv a pf = modelEnv.calcBucketsLengths a pf := by
  have inner (j : Nat) (e : Bucket) := loop_calls pf e.sig.stack.calls (calcBucketsLengths_loop2 modelEnv a pf j e)
    (fun i x st c h => by
      simp only [calcBucketsLengths_loop2, h, Option.bind_some, mE_pathFormat_formatCall, len, decide_eq_true_eq])
  have outer := loop_sigs pf (·.sig) (calcBucketsLengths_loop1 modelEnv a pf)
    (fun k e st => by simp only [calcBucketsLengths_loop1, inner k e e.sig.stack.calls 0 _ rfl, afterIn_cont])
  simp only [TrU.calcBucketsLengths, mE_calcBucketsLengths, outer, after_cont, Console.calcBucketsLengths,
    Console.calcLengths, List.foldl_map]

theorem tie_calcGoroutinesLengths (s : Snapshot) (pf : Console.PathFormat) :
    TrU.calcGoroutinesLengths modelEnv s pf = modelEnv.calcGoroutinesLengths s pf := by
  have inner (j : Nat) (e : Goroutine) := loop_calls pf e.sig.stack.calls (calcGoroutinesLengths_loop2 modelEnv s pf j e)
    (fun i x st c h => by
      simp only [calcGoroutinesLengths_loop2, h, Option.bind_some, mE_pathFormat_formatCall, len, decide_eq_true_eq])
  have outer := loop_sigs pf (·.sig) (calcGoroutinesLengths_loop1 modelEnv s pf)
    (fun k e st => by simp only [calcGoroutinesLengths_loop1, inner k e e.sig.stack.calls 0 _ rfl, afterIn_cont])
  simp only [TrU.calcGoroutinesLengths, mE_calcGoroutinesLengths, outer, after_cont,
    Console.calcGoroutinesLengths, Console.calcLengths, List.foldl_map]

/-! ### ui.go: the colours -/

theorem tie_Palette_funcColor (p : Console.Palette) (l : Loc) (main exported : Bool) :
    TrU.Palette_funcColor modelEnv p l main exported = modelEnv.Palette_funcColor p l main exported := by
  simp only [TrU.Palette_funcColor, mE_Palette_funcColor, Console.funcColor]
  cases main <;> cases exported <;> cases l <;> rfl

theorem tie_Palette_functionColor (p : Console.Palette) (c : Call) :
    TrU.Palette_functionColor modelEnv p c = modelEnv.Palette_functionColor p c := by
  simp only [TrU.Palette_functionColor, mE_Palette_funcColor, mE_Palette_functionColor, Option.bind_some,
    Console.functionColor]

theorem tie_Palette_routineColor (p : Console.Palette) (first multiple : Bool) :
    TrU.Palette_routineColor modelEnv p first multiple = modelEnv.Palette_routineColor p first multiple := by
  simp only [TrU.Palette_routineColor, mE_Palette_routineColor, Console.routineColor]
  cases first <;> cases multiple <;> rfl

/-! ### ui.go: the headers -/

theorem ite_some_bind {α β : Type} (c : Prop) [Decidable c] (a b : α) (f : α → Option β) :
    (if c then some a else some b).bind f = f (if c then a else b) := by
  split <;> rfl

/-- the three `if`s that build `extra`, shared by the two headers -/
theorem extra_eq (p : Console.Palette) (s : Signature) (pf : Console.PathFormat) (k : Bytes → Option Bytes) :
    ((if (Console.sleepString s != ([] : List UInt8)) then
        some (([] : List UInt8) ++ ((([32, 91] : List UInt8) ++ Console.sleepString s) ++ ([93] : List UInt8)))
      else some ([] : List UInt8)).bind fun extra =>
      (if s.locked then some (extra ++ ([32, 91, 108, 111, 99, 107, 101, 100, 93] : List UInt8))
        else some extra).bind fun extra =>
      (if (Console.createdByString pf s != ([] : List UInt8)) then
          some (extra ++ (((p.createdBy ++ ([32, 91, 67, 114, 101, 97, 116, 101, 100, 32, 98, 121, 32] : List UInt8)) ++
            Console.createdByString pf s) ++ ([93] : List UInt8)))
        else some extra).bind k) = k (Console.headerExtra p s pf) := by
  simp only [ite_some_bind, Console.headerExtra, bne_iff_ne, List.append_assoc]

theorem tie_Palette_BucketHeader (p : Console.Palette) (b : Bucket) (pf : Console.PathFormat) (multiple : Bool) :
    TrU.Palette_BucketHeader modelEnv p b pf multiple = modelEnv.Palette_BucketHeader p b pf multiple := by
  simp only [TrU.Palette_BucketHeader, mE_Palette_BucketHeader, mE_Signature_SleepString,
    mE_pathFormat_createdByString, mE_Palette_routineColor, Option.bind_some]
  rw [extra_eq p b.sig pf]
  simp only [Console.bucketHeader, Console.fmtDec, len, List.append_assoc]

theorem tie_Palette_GoroutineHeader (p : Console.Palette) (g : Goroutine) (pf : Console.PathFormat) (multiple : Bool) :
    TrU.Palette_GoroutineHeader modelEnv p g pf multiple = modelEnv.Palette_GoroutineHeader p g pf multiple := by
  simp only [TrU.Palette_GoroutineHeader, mE_Palette_GoroutineHeader, mE_Signature_SleepString,
    mE_pathFormat_createdByString, mE_Palette_routineColor, Option.bind_some]
  rw [extra_eq p g.sig pf]
  simp only [ite_some_bind, Console.goroutineHeader, Console.fmtDec, bne_iff_ne,
    List.append_assoc]

/-! ### ui.go: callLine, StackLines -/

theorem tie_Palette_callLine (p : Console.Palette) (line : Call) (srcLen pkgLen : Nat) (pf : Console.PathFormat) :
    TrU.Palette_callLine modelEnv p line srcLen pkgLen pf = modelEnv.Palette_callLine p line srcLen pkgLen pf := by
  simp only [TrU.Palette_callLine, mE_Palette_callLine, mE_pathFormat_formatCall, mE_Palette_functionColor,
    mE_Args_String, Option.bind_some, Console.callLine]

theorem getElem?_append_replicate {α : Type} (pre : List α) (z : α) (n : Nat) :
    (pre ++ List.replicate (n + 1) z)[pre.length]? = some z := by
  simp [List.replicate_succ]

theorem set_append_replicate {α : Type} (pre : List α) (z w : α) (n : Nat) :
    (pre ++ List.replicate (n + 1) z).set pre.length w = (pre ++ [w]) ++ List.replicate n z := by
  simp [List.replicate_succ]

/-- the loop of StackLines fills `out` from the left: after `pre.length` iterations the
first `pre.length` slots hold the call lines and the others are still empty -/
theorem loop_StackLines (p : Console.Palette) (sig : Signature) (srcLen pkgLen : Nat) (pf : Console.PathFormat) :
    ∀ (xs : List Call) (pre : List Bytes), sig.stack.calls.drop pre.length = xs →
    forRange (Palette_StackLines_loop1 modelEnv p sig srcLen pkgLen pf) xs pre.length
      (pre ++ List.replicate xs.length ([] : Bytes)) =
      some (Step.cont (pre ++ xs.map (fun c => Console.callLine p c srcLen pkgLen pf)))
  | [], pre, _ => by simp
  | x :: xs, pre, hs => by
    obtain ⟨hx, hd⟩ := drop_cons_inv hs
    have ih := loop_StackLines p sig srcLen pkgLen pf xs (pre ++ [Console.callLine p x srcLen pkgLen pf])
      (by simpa using hd)
    rw [forRange_cons]
    simp only [Palette_StackLines_loop1, hx, Option.bind_some, mE_Palette_callLine, List.length_cons,
      getElem?_append_replicate, set_append_replicate]
    simp only [List.length_append, List.length_cons, List.length_nil, Nat.zero_add] at ih
    rw [ih]
    simp

theorem tie_Palette_StackLines (p : Console.Palette) (sig : Signature) (srcLen pkgLen : Nat) (pf : Console.PathFormat) :
    TrU.Palette_StackLines modelEnv p sig srcLen pkgLen pf = modelEnv.Palette_StackLines p sig srcLen pkgLen pf := by
  have h := loop_StackLines p sig srcLen pkgLen pf sig.stack.calls [] rfl
  simp only [List.length_nil, List.nil_append] at h
  simp only [TrU.Palette_StackLines, mE_Palette_StackLines, len, h, after_cont, Console.stackLines,
    Console.stackLineList, Console.elidedLine]

end PP.TrU

#print axioms PP.TrU.tie_Signature_SleepString
#print axioms PP.TrU.tie_Arg_String
#print axioms PP.TrU.tie_Args_String
#print axioms PP.TrU.tie_pathFormat_formatCall
#print axioms PP.TrU.tie_pathFormat_createdByString
#print axioms PP.TrU.tie_calcBucketsLengths
#print axioms PP.TrU.tie_calcGoroutinesLengths
#print axioms PP.TrU.tie_Palette_funcColor
#print axioms PP.TrU.tie_Palette_functionColor
#print axioms PP.TrU.tie_Palette_routineColor
#print axioms PP.TrU.tie_Palette_BucketHeader
#print axioms PP.TrU.tie_Palette_GoroutineHeader
#print axioms PP.TrU.tie_Palette_callLine
#print axioms PP.TrU.tie_Palette_StackLines
