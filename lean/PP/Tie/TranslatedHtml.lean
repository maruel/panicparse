import PP.TranslatedHtml
import PP.Tie.TranslatedScan
import PP.Lemmas.HtmlLemmas
/-
Agreement theorems for group Html (tie A of DESIGN.md): the link builders of
the HTML writer (`funcClass`, `splitHost`, `splitTag`, `symbol`,
`getSrcBranchURL`, `srcURL`, `pkgURL` of stack/html.go), translated from the Go
source on every run (`PP/TranslatedHtml.lean`; run-time support in
`PP/Go/PreludeHtml.lean`) and proved equal to the hand-written model functions
the theorems of C17 are about (`PP/Model/Html.lean`).  The slice lemmas
`TrS.goSlice_*` and `TrS.hasPrefix_len` are reused from
`PP/Tie/TranslatedScan.lean`.

`runtime.Version()` is a parameter (`ver`).  A Go run-time panic (`none`) is the
model's `Except.error`: the only one is the slice `ver[7:17]` of a `devel +`
version shorter than 17 bytes.
-/
namespace PP.TrH
open PP PP.Go PP.Html

def exOpt {ε α : Type} : Except ε α → Option α
  | .ok a => some a
  | .error _ => none

def modelEnv (ver : Bytes) : Env where
  runtimeVersion := ver
  funcClass c := some (Html.funcClass c)
  splitHost s := some (Html.splitHost s)
  splitTag s := some (Html.splitTag s)
  symbol f := some (Html.symbol f)
  getSrcBranchURL c := exOpt (Html.getSrcBranchURL ver c)
  srcURL c := exOpt (Html.srcURL ver c)
  pkgURL c := exOpt (Html.pkgURL ver c)

variable (ver : Bytes)

@[simp] theorem mE_runtimeVersion : (modelEnv ver).runtimeVersion = ver := rfl
@[simp] theorem mE_splitHost (s : Bytes) : (modelEnv ver).splitHost s = some (Html.splitHost s) := rfl
@[simp] theorem mE_splitTag (s : Bytes) : (modelEnv ver).splitTag s = some (Html.splitTag s) := rfl
@[simp] theorem mE_symbol (f : Func) : (modelEnv ver).symbol f = some (Html.symbol f) := rfl
@[simp] theorem mE_funcClass (c : Call) : (modelEnv ver).funcClass c = some (Html.funcClass c) := rfl
@[simp] theorem mE_getSrcBranchURL (c : Call) :
    (modelEnv ver).getSrcBranchURL c = exOpt (Html.getSrcBranchURL ver c) := rfl
@[simp] theorem mE_srcURL (c : Call) : (modelEnv ver).srcURL c = exOpt (Html.srcURL ver c) := rfl
@[simp] theorem mE_pkgURL (c : Call) : (modelEnv ver).pkgURL c = exOpt (Html.pkgURL ver c) := rfl

theorem tie_funcClass (c : Call) : TrH.funcClass (modelEnv ver) c = (modelEnv ver).funcClass c := by
  simp only [TrH.funcClass, mE_funcClass, Html.funcClass]
  by_cases h1 : c.fn.isPkgMain <;> by_cases h2 : c.fn.isExported <;> simp [h1, h2] <;> rfl

theorem tie_splitHost (s : Bytes) : TrH.splitHost (modelEnv ver) s = (modelEnv ver).splitHost s := by
  simp only [TrH.splitHost, mE_splitHost, Html.splitHost, goSplitN_two]
  cases cut s 47 with
  | none => simp [len]
  | some p => simp [len]

theorem indexByte_eq_cut (s : Bytes) (c : UInt8) : Bytes.indexByte s c = (cut s c).map (fun p => p.1.length) := by
  induction s with
  | nil => rfl
  | cons x xs ih =>
    simp only [Bytes.indexByte] at ih ⊢
    by_cases h : x = c
    · subst h; simp [cut, List.idxOf?_cons]
    · have hx : (x == c) = false := by simpa using h
      simp only [List.idxOf?_cons, hx, cut, ih]
      cases cut xs c <;> simp

theorem tie_splitTag (s : Bytes) : TrH.splitTag (modelEnv ver) s = (modelEnv ver).splitTag s := by
  simp only [TrH.splitTag, mE_splitTag, Html.splitTag]
  rw [indexByte_eq_cut]
  cases hc : cut s 64 with
  | none => simp
  | some p =>
    obtain ⟨a, b⟩ := p
    obtain rfl := cut_eq hc
    simp only [Option.map_some]
    rw [TrS.goSlice_from _ (a.length + 1) (by simp), TrS.goSlice_to _ a.length (by simp)]
    simp only [Option.bind_some, List.take_left']
    cases hr : reVersionFind b with
    | none =>
      have : reVersionSubmatch b = [] := by simp [reVersionSubmatch, hr]
      simp [len, this]
    | some h =>
      have : reVersionSubmatch b = [[], h] := by simp [reVersionSubmatch, hr]
      simp [len, this]

theorem tie_symbol (f : Func) : TrH.symbol (modelEnv ver) f = (modelEnv ver).symbol f := by
  simp only [TrH.symbol, mE_symbol, Html.symbol, reMethodSymbolReplace12]
  cases reMethodSymbol f.name with
  | none => simp
  | some p => obtain ⟨a, b⟩ := p; simp

theorem indexOf_go_bound (sep : Bytes) :
    ∀ (fuel : Nat) (t : Bytes) (k i : Nat), Bytes.indexOf.go sep fuel t k = some i →
      ∃ d, i = k + d ∧ d + sep.length ≤ t.length
  | 0, _, _, _, h => by simp [Bytes.indexOf.go] at h
  | fuel + 1, t, k, i, h => by
    unfold Bytes.indexOf.go at h
    by_cases hp : Bytes.hasPrefix t sep = true
    · simp only [hp, ↓reduceIte, Option.some.injEq] at h
      exact ⟨0, by omega, by have := TrS.hasPrefix_len hp; omega⟩
    · simp only [hp] at h
      cases t with
      | nil => simp at h
      | cons x xs =>
        simp only [Bool.false_eq_true, ↓reduceIte] at h
        obtain ⟨d, hd1, hd2⟩ := indexOf_go_bound sep fuel xs (k + 1) i h
        exact ⟨d + 1, by omega, by simp only [List.length_cons]; omega⟩

theorem indexOf_bound {s sep : Bytes} {i : Nat} (h : Bytes.indexOf s sep = some i) :
    i + sep.length ≤ s.length := by
  obtain ⟨d, hd1, hd2⟩ := indexOf_go_bound sep _ s 0 i h
  omega

def vendorSep : Bytes := [47, 118, 101, 110, 100, 111, 114, 47]

theorem vendor_step (rel : Bytes) :
    ((Bytes.indexOf rel [47, 118, 101, 110, 100, 111, 114, 47]).elim (some rel)
      (fun i => (goSlice rel (i + 8) (len rel)).bind fun t => some t) : Option Bytes) =
      some (afterVendor rel) := by
  unfold afterVendor
  have hv : (b!"/vendor/" : Bytes) = vendorSep := by decide
  rw [hv]
  show ((Bytes.indexOf rel vendorSep).elim _ _) = _
  cases h : Bytes.indexOf rel vendorSep with
  | none => rfl
  | some i =>
    have := indexOf_bound h
    simp only [vendorSep, List.length_cons, List.length_nil] at this
    simp [TrS.goSlice_from rel (i + 8) (by omega)]

theorem moduleTag_step (rel : Bytes) :
    ((Bytes.indexByte rel 64).elim (some ([] : Bytes))
      (fun i => (goSlice rel i (len rel)).bind fun t13 =>
        ((Bytes.indexByte t13 47).elim (some ([] : Bytes))
          (fun j => (goSlice rel (i + 1) (i + j)).bind fun t14 => some t14)).bind fun tag => some tag) : Option Bytes) =
      some (moduleTag rel) := by
  unfold moduleTag
  rw [indexByte_eq_cut]
  cases hc : cut rel 64 with
  | none => rfl
  | some p =>
    obtain ⟨a, b⟩ := p
    have hd := cut_eq hc
    simp only [Option.map_some, Option.elim_some]
    have hs : goSlice rel a.length (len rel) = some (64 :: b) := by
      rw [TrS.goSlice_from rel a.length (by rw [hd]; simp)]
      rw [hd]; simp
    rw [hs]
    simp only [Option.bind_some]
    have h2 := indexByte_eq_cut b 47
    have h3 : Bytes.indexByte (64 :: b) 47 = (Bytes.indexByte b 47).map (· + 1) := by
      simp [Bytes.indexByte, List.idxOf?_cons]
    rw [h3, h2]
    cases hc2 : cut b 47 with
    | none => rfl
    | some q =>
      obtain ⟨t, r⟩ := q
      have hd2 := cut_eq hc2
      simp only [Option.map_some, Option.elim_some]
      have : goSlice rel (a.length + 1) (a.length + (t.length + 1)) = some t := by
        rw [show a.length + (t.length + 1) = a.length + 1 + t.length by omega,
          TrS.goSlice_mid _ _ _ (by rw [hd, hd2]; simp; omega), hd, hd2,
          show a ++ 64 :: (t ++ 47 :: r) = (a ++ [64]) ++ (t ++ 47 :: r) by simp,
          List.drop_left' (by simp), List.take_left]
      simp [this]

theorem tail_eq (c : Call) (tag : Bytes) :
    (if (c.localSrcPath != ([] : List UInt8)) then
        some ((([102, 105, 108, 101, 58, 47, 47, 47] : List UInt8) ++ (escape c.localSrcPath)), tag)
      else
      if (c.remoteSrcPath != ([] : List UInt8)) then
        some ((([102, 105, 108, 101, 58, 47, 47, 47] : List UInt8) ++ (escape c.remoteSrcPath)), tag)
      else
      some (([] : List UInt8), ([] : List UInt8))) = some (fileURL c tag) := by
  unfold fileURL
  have : pfxFile = [102, 105, 108, 101, 58, 47, 47, 47] := by decide
  rw [this]
  split
  · rfl
  · split <;> rfl

theorem pfxGithub_eq : pfxGithub = [104, 116, 116, 112, 115, 58, 47, 47, 103, 105, 116, 104, 117, 98, 46, 99, 111, 109, 47] := rfl

/-- html.go:139-143: `ver[7:17]` panics exactly when the model reports `sliceBounds` -/
theorem develVersion_step :
    (if Bytes.hasPrefix ver [100, 101, 118, 101, 108, 32, 43] = true then (goSlice ver 7 17).bind fun t1 => some t1
      else some ver) = exOpt (develVersion ver) := by
  unfold develVersion
  rw [show develPrefix = [100, 101, 118, 101, 108, 32, 43] from rfl]
  split
  · simp only [List.length_cons, List.length_nil, goSlice]
    by_cases hlen : ver.length < 17
    · rw [if_pos hlen, if_neg (by omega)]; rfl
    · rw [if_neg hlen, if_pos (by omega), List.drop_take]; rfl
  · rfl

theorem tie_getSrcBranchURL (c : Call) :
    TrH.getSrcBranchURL (modelEnv ver) c = (modelEnv ver).getSrcBranchURL c := by
  simp only [mE_getSrcBranchURL]
  unfold TrH.getSrcBranchURL Html.getSrcBranchURL
  dsimp only
  rw [mE_runtimeVersion]
  -- the conditions are decided one at a time and the dead branch dropped before anything else looks at it
  by_cases hl : (c.location == Loc.stdlib) = true
  · rw [if_pos hl, if_pos hl, develVersion_step]
    cases develVersion ver <;> rfl
  · rw [if_neg hl, if_neg hl]
    unfold nonStdlibURL exOpt
    dsimp only
    by_cases hr : (c.relSrcPath != []) = true
    · rw [if_pos hr, if_pos hr, vendor_step c.relSrcPath, Option.bind_some, mE_splitHost, Option.bind_some]
      generalize Html.splitHost (afterVendor c.relSrcPath) = hr2
      obtain ⟨host, rest⟩ := hr2
      dsimp only
      -- both switch cases start with `strings.SplitN(rest, "/", 3)`; the model's `splitN3` says which way they go
      by_cases h1 : (host == [103, 105, 116, 104, 117, 98, 46, 99, 111, 109]) = true
      · rw [if_pos h1, if_pos h1]
        rcases goSplitN_three rest with ⟨p0, p1, p2, hs, hg⟩ | ⟨hs, hg⟩
        · simp only [hg, githubURL, hs, len, List.length_cons, List.length_nil, beq_self_eq_true, ↓reduceIte,
            List.getElem?_cons_zero, List.getElem?_cons_succ, Option.bind_some, Option.getD_some, pfxGithub_eq, mE_splitTag]
        · simp only [hg, githubURL, hs, Bool.false_eq_true, ↓reduceIte, Option.getD_none, tail_eq]
      · rw [if_neg h1, if_neg h1]
        by_cases h2 : (host == [103, 111, 108, 97, 110, 103, 46, 111, 114, 103]) = true
        · rw [if_pos h2, if_pos h2]
          rcases goSplitN_three rest with ⟨p0, p1, p2, hs, hg⟩ | ⟨hs, hg⟩
          · simp only [hg, golangURL, hs, len, List.length_cons, List.length_nil, beq_self_eq_true, ↓reduceIte,
              List.getElem?_cons_zero, List.getElem?_cons_succ, Option.bind_some, pfxGithub_eq, mE_splitTag, tail_eq]
            by_cases hx : p0 = [120] <;> simp [hx]
          · simp only [hg, golangURL, hs, Bool.false_eq_true, ↓reduceIte, Option.bind_some, Option.getD_none, tail_eq]
        · rw [if_neg h2, if_neg h2, moduleTag_step, Option.bind_some]
          exact tail_eq c _
    · rw [if_neg hr, if_neg hr]
      exact tail_eq c []

theorem tie_srcURL (c : Call) : TrH.srcURL (modelEnv ver) c = (modelEnv ver).srcURL c := by
  simp only [TrH.srcURL, mE_srcURL, mE_getSrcBranchURL, Html.srcURL]
  cases Html.getSrcBranchURL ver c <;> simp [exOpt, Except.map]

/-- html.go:94-109: the documentation site -/
theorem pkgSite_step (c : Call) :
    (if (c.location == Loc.stdlib) = true then
        some ([104, 116, 116, 112, 115, 58, 47, 47, 103, 111, 108, 97, 110, 103, 46, 111, 114, 103, 47, 112, 107, 103, 47] : Bytes)
      else (exOpt (Html.getSrcBranchURL ver c)).bind fun t2 =>
        some (if (t2.2 == ([109, 97, 115, 116, 101, 114] : Bytes) || t2.2 == ([] : Bytes)) = true then
            ([104, 116, 116, 112, 115, 58, 47, 47, 103, 111, 100, 111, 99, 46, 111, 114, 103, 47] : Bytes)
          else [104, 116, 116, 112, 115, 58, 47, 47, 112, 107, 103, 46, 103, 111, 46, 100, 101, 118, 47])) =
      exOpt (pkgSite ver c) := by
  unfold pkgSite
  split
  · rfl
  · cases Html.getSrcBranchURL ver c with
    | error e => rfl
    | ok ub => simp only [exOpt, Option.bind_some]; split <;> rfl

theorem tie_pkgURL (c : Call) : TrH.pkgURL (modelEnv ver) c = (modelEnv ver).pkgURL c := by
  simp only [mE_pkgURL]
  unfold TrH.pkgURL Html.pkgURL
  dsimp only
  rw [vendor_step, Option.bind_some, mE_getSrcBranchURL, pkgSite_step, mE_symbol]
  split
  · rfl
  · cases pkgSite ver c with
    | error e => rfl
    | ok u => simp only [exOpt, Option.bind_some]; split <;> rfl

end PP.TrH

#print axioms PP.TrH.tie_funcClass
#print axioms PP.TrH.tie_splitHost
#print axioms PP.TrH.tie_splitTag
#print axioms PP.TrH.tie_symbol
#print axioms PP.TrH.tie_getSrcBranchURL
#print axioms PP.TrH.tie_srcURL
#print axioms PP.TrH.tie_pkgURL
