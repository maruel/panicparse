import PP.Extracted
import PP.Model.Scan
/-
Pins for the scanner: what the hand-written matchers and the state machine
model assume about /repo's current source, against what the extractor found
there.  Each `theorem` is a proof obligation that breaks — by name — when the
source changes the pinned fact.
-/
namespace PP.Tie
open PP

theorem pin_reRoutineHeader :
    Extracted.reRoutineHeader = b!"^([ \t]*)goroutine (\\d+)(?: gp=[^ ]+ m=[^ ]+(?: mp=[^ ]+)?)? \\[([^\\]]+)\\]\\:$" := rfl
theorem pin_reMinutes : Extracted.reMinutes = b!"^(\\d+) minutes$" := rfl
theorem pin_reUnavail :
    Extracted.reUnavail = b!"^(?:\t| +)goroutine running on other thread; stack unavailable" := rfl
theorem pin_reFile :
    Extracted.reFile = b!"^(?:\t| +)(\\?\\?|\\<autogenerated\\>|.+\\.(?:c|go|s))\\:(\\d+)(?:| \\+0x[0-9a-f]+)(?:| fp=0x[0-9a-f]+ sp=0x[0-9a-f]+(?:| pc=0x[0-9a-f]+))$" := rfl
theorem pin_reCreated : Extracted.reCreated = b!"^created by (.+)$" := rfl
theorem pin_reFunc : Extracted.reFunc = b!"^(.+)\\((.*)\\)$" := rfl
theorem pin_reRaceOperationHeader :
    Extracted.reRaceOperationHeader = b!"^(Read|Write) at (0x[0-9a-f]+) by goroutine (\\d+):$" := rfl
theorem pin_reRacePreviousOperationHeader :
    Extracted.reRacePreviousOperationHeader = b!"^Previous (read|write) at (0x[0-9a-f]+) by goroutine (\\d+):$" := rfl
theorem pin_reRaceGoroutine :
    Extracted.reRaceGoroutine = b!"^Goroutine (\\d+) \\((running|finished)\\) created at:$" := rfl

theorem pin_literals :
    Extracted.lockedToThread = b!"locked to thread" ∧ Extracted.raceHeaderFooter = b!"==================" ∧
    Extracted.raceHeader = b!"WARNING: DATA RACE" ∧ Extracted.crlf = b!"\r\n" ∧ Extracted.lf = b!"\n" ∧
    Extracted.commaSpace = b!", " ∧ Extracted.writeCap = b!"Write" ∧ Extracted.writeLow = b!"write" ∧
    Extracted.threeDots = b!"..." ∧ Extracted.underscore = b!"_" ∧ Extracted.inaccurateQuestionMark = b!"?" :=
  ⟨rfl, rfl, rfl, rfl, rfl, rfl, rfl, rfl, rfl, rfl, rfl⟩

theorem pin_framesElided :
    Extracted.framesElidedLiterals =
      [b!"...additional frames elided...", b!"...", b!" frames elided..."] := rfl

theorem pin_testMainSrc : Extracted.testMainSrc = testMainSrc := rfl

/-- on 64 bit `atou` accepts `0 < len(s) < 19`, i.e. 1..18 digits; the pinned constant is the
exclusive bound, the `19` of `s.length < 19` in the model's `atou` (PP/Model/Num.lean) -/
theorem pin_atou : Extracted.atouMaxLen = 19 := rfl

/-- the declaration order of the Go `state` constants.  The constructors of the model's `St` and
the numbers of `St.toNat` (PP/Model/Scan.lean) are written in this order; no statement compares
them, and `St.isRace`, `St.isRaceBody` (`9 ≤ toNat`, `11 ≤ toNat`) rely on it -/
theorem pin_stateOrder : Extracted.stateOrder =
    ["looking", "done", "betweenRoutine", "gotRoutineHeader", "gotFunc", "gotCreated", "gotFileFunc",
     "gotFileCreated", "gotUnavail", "gotRaceHeader1", "gotRaceHeader2", "gotRaceOperationHeader",
     "gotRaceOperationFunc", "gotRaceOperationFile", "betweenRaceOperations", "gotRaceGoroutineHeader",
     "gotRaceGoroutineFunc", "gotRaceGoroutineFile", "betweenRaceGoroutines"] := rfl

/-- the structural fingerprint of scan's `switch s.state`: per clause, the set
of `s.state = …` targets, whether it falls through, and explicit panics.  The
model's `scan` has exactly this graph. -/
theorem pin_scanTransitions : Extracted.scanTransitions = [
    ("done", [], false, 0),
    ("looking", [], true, 0),
    ("betweenRoutine", ["done", "gotRaceHeader1", "gotRoutineHeader"], false, 0),
    ("gotRoutineHeader", ["gotFunc", "gotUnavail"], false, 0),
    ("gotFunc", ["gotFileFunc"], false, 0),
    ("gotCreated", ["gotFileCreated"], false, 0),
    ("gotFileFunc", ["betweenRoutine", "done", "gotCreated", "gotFunc"], false, 0),
    ("gotFileCreated", ["betweenRoutine", "done"], false, 0),
    ("gotUnavail", ["betweenRoutine", "gotCreated"], false, 0),
    ("gotRaceHeader1", ["gotRaceHeader2", "looking"], false, 0),
    ("gotRaceHeader2", ["gotRaceOperationHeader"], false, 1),
    ("gotRaceOperationHeader", ["gotRaceOperationFunc"], false, 0),
    ("gotRaceOperationFunc", ["gotRaceOperationFile"], false, 0),
    ("gotRaceOperationFile", ["betweenRaceOperations", "gotRaceOperationFunc"], false, 0),
    ("betweenRaceOperations", ["gotRaceOperationHeader"], true, 0),
    ("betweenRaceGoroutines", ["gotRaceGoroutineHeader"], false, 0),
    ("gotRaceGoroutineFunc", ["gotRaceGoroutineFile"], false, 0),
    ("gotRaceGoroutineFile", ["betweenRaceGoroutines", "done"], true, 0),
    ("gotRaceGoroutineHeader", ["gotRaceGoroutineFunc"], false, 0),
    ("default", [], false, 0)] := rfl

/-- the ordered control skeleton of `scan`: per clause (and before the switch) which classifier is
consulted, which state is assigned and what is returned, in source order.  The model's `scan`
consults and assigns in exactly this sequence; a reordered or dropped test, an added shortcut or a
new return changes it. -/
theorem pin_scanSkeleton : Extracted.scanSkeleton = [
  ("<before the switch>", ["bytes.HasSuffix:crlf", "bytes.HasSuffix:lf", "state==looking", "state==done", "ret(false,nil)", "len(trimmed)!=0", "bytes.HasPrefix", "->done", "ret(false,expr)", "err"]),
  ("done", ["ret(false,nil)"]),
  ("looking", ["fallthrough"]),
  ("betweenRoutine", ["re:reRoutineHeader", "call:atou", "bytes.Split:commaSpace", "bytes.Equal:lockedToThread", "continue", "re:reMinutes", "call:atou", "state==looking", "->gotRoutineHeader", "ret(true,nil)", "state==looking", "bytes.Equal:raceHeaderFooter", "->gotRaceHeader1", "ret(true,nil)", "state!=looking", "->done", "ret(false,nil)"]),
  ("gotRoutineHeader", ["re:reUnavail", "->gotUnavail", "ret(true,nil)", "call:parseFunc", "->gotFunc", "ret(expr,err)", "ret(false,expr)", "err"]),
  ("gotFunc", ["call:parseFile", "ret(false,err)", "ret(false,expr)", "err", "->gotFileFunc", "ret(true,nil)"]),
  ("gotCreated", ["call:parseFile", "ret(false,err)", "ret(false,expr)", "err", "->gotFileCreated", "ret(true,nil)"]),
  ("gotFileFunc", ["re:reCreated", "ret(false,err)", "->gotCreated", "ret(true,nil)", "call:isFramesElidedLine", "ret(true,nil)", "call:parseFunc", "->gotFunc", "ret(expr,err)", "len(trimmed)==0", "->betweenRoutine", "ret(true,nil)", "->done", "ret(false,nil)"]),
  ("gotFileCreated", ["len(trimmed)==0", "->betweenRoutine", "ret(true,nil)", "->done", "ret(false,nil)"]),
  ("gotUnavail", ["len(trimmed)==0", "->betweenRoutine", "ret(true,nil)", "re:reCreated", "ret(false,err)", "->gotCreated", "ret(true,nil)", "ret(false,expr)", "err"]),
  ("gotRaceHeader1", ["bytes.Equal:raceHeader", "->gotRaceHeader2", "ret(true,nil)", "->looking", "ret(false,nil)"]),
  ("gotRaceHeader2", ["re:reRaceOperationHeader", "bytes.Equal:writeCap", "ret(false,expr)", "err", "call:atou", "ret(false,expr)", "err", "call:panic", "->gotRaceOperationHeader", "ret(true,nil)", "ret(false,expr)", "err"]),
  ("gotRaceOperationHeader", ["call:parseFunc", "call:trimLeftSpace", "->gotRaceOperationFunc", "ret(expr,err)", "ret(false,expr)", "err"]),
  ("gotRaceOperationFunc", ["call:parseFile", "ret(false,err)", "ret(false,expr)", "err", "->gotRaceOperationFile", "ret(true,nil)"]),
  ("gotRaceOperationFile", ["len(trimmed)==0", "->betweenRaceOperations", "ret(true,nil)", "call:parseFunc", "call:trimLeftSpace", "->gotRaceOperationFunc", "ret(expr,err)", "ret(false,expr)", "err"]),
  ("betweenRaceOperations", ["re:reRacePreviousOperationHeader", "bytes.Equal:writeLow", "ret(false,expr)", "err", "call:atou", "ret(false,expr)", "err", "->gotRaceOperationHeader", "ret(true,nil)", "fallthrough"]),
  ("betweenRaceGoroutines", ["re:reRaceGoroutine", "call:atou", "ret(false,expr)", "err", "break", "ret(false,expr)", "err", "->gotRaceGoroutineHeader", "ret(true,nil)", "ret(false,expr)", "err"]),
  ("gotRaceGoroutineFunc", ["call:parseFile", "ret(false,err)", "ret(false,expr)", "err", "->gotRaceGoroutineFile", "ret(true,nil)"]),
  ("gotRaceGoroutineFile", ["len(trimmed)==0", "->betweenRaceGoroutines", "ret(true,nil)", "bytes.Equal:raceHeaderFooter", "->done", "ret(true,nil)", "fallthrough"]),
  ("gotRaceGoroutineHeader", ["call:parseFunc", "call:trimLeftSpace", "->gotRaceGoroutineFunc", "ret(expr,err)", "ret(false,expr)", "err"]),
  ("default", ["ret(false,expr)", "err"])] := rfl

theorem pin_scanPreSwitch : Extracted.scanPreSwitchTargets = ["done"] := rfl

end PP.Tie
