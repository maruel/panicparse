import PP.TranslatedFunc
import PP.Lemmas.PrintLemmas
import PP.Lemmas.FuncInitLemmas
/-
Agreement theorems for group Func (tie A of DESIGN.md): `(*Func).Init` (stack/stack.go) and
`parseFunc`, `parseFile`, `trimCurlyBrackets` (stack/context.go), translated from the Go source on every run
(`PP/TranslatedFunc.lean`, by extract/translate_func.go) and proved equal to the hand-written
model the theorems of C01, C03, C08 and C15 are about (`PP/Model/FuncInit.lean`: `funcInit`,
`funcFinish`, `pathUnescape`; `PP/Model/Scan.lean`: `parseFunc`, `parseFile`;
`PP/Model/Args.lean`: `trimCurlyBrackets`).

In this group a Go `int` is an `Int` (`endPkg` of `Init` is -1 when there is no dot) and a Go
`error` is a value of type `GoErr`, distinct from a run-time panic (`none`): see
`PP/Go/PreludeFunc.lean`.

* `tie_Func_Init`, `tie_parseFunc`, `tie_parseFile`, `tie_trimCurlyBrackets`: the generated
  equations hold of `modelEnv`, for ALL inputs (any receiver / `*Call`, any bytes).
* The model describes `Init` and `parseFunc` on a FRESH receiver (`Func{}`, `Call{}`: how
  context.go calls them); the Go code leaves some fields of a receiver untouched on some paths,
  so for an arbitrary receiver the result depends on it.  `funcInitOn` / `parseFuncOn` say how
  (in the shape of the model), and `funcInitOn_fresh`, `tie_Func_Init_model`,
  `tie_Func_Init_zero`, `parseFunc_zero` show that on a fresh receiver they ARE the model:
  the receiver afterwards is the model's `Func` / `Call`, an error is of the model's kind
  (`toFErr`, `toErr`).
* No panic: the model's `FErr.slice` (a slice bound out of range) corresponds to `none`;
  `Func_Init_no_panic`, `parseFunc_no_panic`, `parseFile_no_panic`,
  `trimCurlyBrackets_no_panic` show the translated code never yields `none` (for `Init` this is
  `funcInit_ne_slice`; finding F3).
-/
namespace PP.TrF
open PP PP.Go Bytes

/-! ### the two errors `Init` returns, and their model counterparts -/

/-- `errors.New("bad function reference: expected to have at least one dot")` -/
def errNoDot : GoErr := .new b!"bad function reference: expected to have at least one dot"
/-- `fmt.Errorf("bad function reference: %w", err)` for the error of url.PathUnescape -/
def errEscape : GoErr := .errorf b!"bad function reference: %w" .pathUnescape []
/-- `fmt.Errorf("%s on line: %q", err, bytes.TrimSpace(line))` (parseFunc) -/
def errOnLine (e : GoErr) (line : Bytes) : GoErr := .errorf b!"%s on line: %q" e [.trimSpace line]
/-- `fmt.Errorf("failed to parse int on line: %q", bytes.TrimSpace(line))` (parseFile) -/
def errFileInt (line : Bytes) : GoErr := .errorf b!"failed to parse int on line: %q" .nil [.trimSpace line]

/-! ### slices and searches with `Int` bounds, in terms of the model's `Option Nat` -/

theorem ofNat_succ (i : Nat) : (Int.ofNat i + 1 : Int) = Int.ofNat (i + 1) := by
  simp only [Int.ofNat_eq_natCast]; omega

theorem ofNat_gt_neg1 (i : Nat) : Int.ofNat i > (-1 : Int) := by
  simp only [Int.ofNat_eq_natCast]; omega

theorem ofNat_eq_neg1 (i : Nat) : (Int.ofNat i == (-1 : Int)) = false := by
  simp only [beq_eq_false_iff_ne, ne_eq, Int.ofNat_eq_natCast]; omega

theorem goSliceI_drop {α : Type} (s : List α) (i : Nat) (h : i ≤ s.length) :
    goSliceI s (Int.ofNat i) (ilen s) = some (s.drop i) := by
  unfold ilen
  rw [goSliceI_ofNat s i s.length h (Nat.le_refl _), List.take_length]

theorem goSliceI_take {α : Type} (s : List α) (i : Nat) (h : i ≤ s.length) :
    goSliceI s (0 : Int) (Int.ofNat i) = some (s.take i) := by
  simpa using goSliceI_ofNat s 0 i (Nat.zero_le _) h

/-- `if i := LastIndexByte(s, c); i != -1 { … s[i+1:] … } else { … }` -/
theorem last_drop {β : Type} (s : Bytes) (c : UInt8) (k1 : Bytes → Option β) (k2 : Option β) :
    (if (goLastIndexByte s c != (-1 : Int)) then
        (goSliceI s (goLastIndexByte s c + (1 : Int)) (ilen s)).bind k1
      else k2) =
    (lastIndexByte s c).elim k2 (fun i => k1 (s.drop (i + 1))) := by
  unfold goLastIndexByte
  cases h : lastIndexByte s c with
  | none => simp
  | some i =>
    have hi := (lastIndexByte_eq_some h).2.2
    simp only [idxOrMinus1_some, idxOrMinus1_ne_neg1, if_true, ofNat_succ, goSliceI_drop s (i + 1) (by omega), Option.bind_some, Option.elim_some]

/-- `if i := LastIndexByte(s, c); i > -1 { … s[:i] … } else { … }` -/
theorem last_take {β : Type} (s : Bytes) (c : UInt8) (k1 : Bytes → Option β) (k2 : Option β) :
    (if (decide (goLastIndexByte s c > (-1 : Int))) then
        (goSliceI s (0 : Int) (goLastIndexByte s c)).bind k1
      else k2) =
    (lastIndexByte s c).elim k2 (fun i => k1 (s.take i)) := by
  unfold goLastIndexByte
  cases h : lastIndexByte s c with
  | none => simp
  | some i =>
    have hi := (lastIndexByte_eq_some h).2.2
    simp only [idxOrMinus1_some, decide_eq_true_eq, ofNat_gt_neg1, if_true, goSliceI_take s i (by omega), Option.bind_some, Option.elim_some]

/-! ### collapsing assignment-only branches: `if`/`elim` of `some`s, pushed into the record -/

theorem elim_some_some {α β : Type} (o : Option α) (a : α → β) (b : β) :
    o.elim (some b) (fun i => some (a i)) = some (o.elim b a) := by
  cases o <;> rfl

theorem elim_const {α β : Type} (o : Option α) (b : β) : o.elim b (fun _ => b) = b := by
  cases o <;> rfl

theorem Func_ite (c : Prop) [Decidable c] (a1 a2 a3 a4 : Bytes) (a5 a6 : Bool) (b1 b2 b3 b4 : Bytes) (b5 b6 : Bool) :
    (if c then Func.mk a1 a2 a3 a4 a5 a6 else Func.mk b1 b2 b3 b4 b5 b6) =
    Func.mk (if c then a1 else b1) (if c then a2 else b2) (if c then a3 else b3) (if c then a4 else b4)
      (if c then a5 else b5) (if c then a6 else b6) := by
  split <;> rfl

theorem Func_elim {α : Type} (o : Option α) (a1 a2 a3 a4 : α → Bytes) (a5 a6 : α → Bool)
    (b1 b2 b3 b4 : Bytes) (b5 b6 : Bool) :
    o.elim (Func.mk b1 b2 b3 b4 b5 b6) (fun i => Func.mk (a1 i) (a2 i) (a3 i) (a4 i) (a5 i) (a6 i)) =
    Func.mk (o.elim b1 a1) (o.elim b2 a2) (o.elim b3 a3) (o.elim b4 a4) (o.elim b5 a5) (o.elim b6 a6) := by
  cases o <;> rfl

/-- `parts := strings.Split(s, sep); parts[len(parts)-1]` never panics: the last field -/
theorem goIdxI_split_last (s sep : Bytes) :
    goIdxI (goSplit s sep) (ilen (goSplit s sep) - (1 : Int)) = some ((splitOn s sep).getLast?.getD []) := by
  rw [goIdxI_last _ (goSplit_ne_nil s sep)]
  have := List.getLast?_eq_some_getLast (goSplit_ne_nil s sep)
  simp only [goSplit] at this
  simp [goSplit, this]

theorem bind_of_eq_some {α β : Type} {x : Option α} {v : α} (K : α → Option β) (h : x = some v) :
    x.bind K = K v := by
  rw [h, Option.bind_some]

/-- a join block one of whose branches may `return`: every value the block can fall through with
is handled by the continuation, and the `return` is the result -/
theorem after_join {σ ρ α : Type} (o : Option α) (a : σ) (c : α → Prop) [DecidablePred c] (r : ρ) (b : α → σ)
    (K : σ → Option ρ) (spec : Option ρ)
    (hret : ∀ i, o = some i → c i → some r = spec)
    (hK : ∀ s, (o = none ∧ s = a) ∨ (∃ i, o = some i ∧ ¬ c i ∧ s = b i) → K s = spec) :
    after (some (o.elim (Step.cont a) fun i => if c i then Step.ret r else Step.cont (b i))) K = spec := by
  cases o with
  | none => exact hK a (Or.inl ⟨rfl, rfl⟩)
  | some i =>
    by_cases hc : c i
    · simp only [Option.elim_some, if_pos hc, after_ret]; exact hret i rfl hc
    · simp only [Option.elim_some, if_neg hc, after_cont]; exact hK _ (Or.inr ⟨i, rfl, hc, rfl⟩)

/-! ### `Init` on a receiver that need not be the zero value

The model's `funcInit raw : Except FErr Func` describes `Init` on a fresh (zero) `Func`, which is
how package stack calls it (context.go: on `Call{}` / `make([]Call, 1)[0]`).  The Go method
assigns some fields of its receiver only on some paths (`ImportPath` only when there is a dot,
`IsPkgMain`/`IsExported` only to `true` in package main), so for an arbitrary receiver the result
depends on it: `funcInitOn f raw` says how, in the shape of the model (`endPkgOf`, `endPkgAdj`,
`funcFinishOn` are the three stages of `funcInit`, the last one taking the receiver `f`).
`funcInitOn_fresh` shows that it is the model on a receiver whose `ImportPath`, `IsExported`,
`IsPkgMain` are zero. -/

/-- `endPkg` as computed from the raw name (first stage of `funcInit`); `none` is Go's -1 -/
def endPkgOf (raw : Bytes) : Except FErr (Option Nat) :=
  match lastIndexByte raw 47 with
  | some ls =>
    match indexByte (raw.drop (ls + 1)) 46 with
    | none => .error .noDot
    | some r => .ok (some (ls + r + 1))
  | none => .ok (indexByte raw 46)

/-- `endPkg` moved into the unescaped string (second stage of `funcInit`) -/
def endPkgAdj (raw : Bytes) (endPkg : Option Nat) : Option Nat :=
  match endPkg with
  | some e =>
    if e > 0 then
      match pathUnescape (raw.take e) with
      | some pkg => some pkg.length
      | none => some e
    else some e
  | none => none

/-- the name without a trailing ` in goroutine N` -/
def nameCut (n : Bytes) : Bytes :=
  (lastIndexByte n 32).elim n fun i =>
    if hasSuffix (n.take i) inGoroutineSuffix then goTrimSuffix (n.take i) inGoroutineSuffix else n

def dirOf (p : Bytes) : Bytes := (lastIndexByte p 47).elim p fun i => p.drop (i + 1)

/-- `Init` from `if idx := strings.LastIndexByte(f.Name, ' ')` on; `name0` is `f.Name` there -/
def finishTail (f : Func) (name0 : Bytes) : Func :=
  { complete := f.complete, importPath := f.importPath, dirName := dirOf f.importPath, name := nameCut name0,
    isExported :=
      if f.importPath == b!"main" then (if nameCut name0 == b!"main" then true else f.isExported)
      else toUpperIsSelf (goDecodeRune ((splitOn (nameCut name0) [46]).getLast?.getD [])).1,
    isPkgMain := if f.importPath == b!"main" then true else f.isPkgMain }

/-- third stage (`funcFinish`) on a receiver `f`; `none` = a slice expression out of range -/
def funcFinishOn (f : Func) (complete : Bytes) (endPkg : Option Nat) : Option Func :=
  match endPkg with
  | none => some (finishTail { f with complete := complete } complete)
  | some e =>
    if e + 1 ≤ complete.length then
      some (finishTail { f with complete := complete, importPath := complete.take e } (complete.drop (e + 1)))
    else none

/-- `(*Func).Init` on the receiver `f`: the receiver afterwards and the error; `none` = panic -/
def funcInitOn (f : Func) (raw : Bytes) : Option (Func × GoErr) :=
  match endPkgOf raw with
  | .error _ => some (f, errNoDot)
  | .ok endPkg =>
    match pathUnescape raw with
    | none => some ({ f with complete := [] }, errEscape)
    | some complete => (funcFinishOn f complete (endPkgAdj raw endPkg)).map fun g => (g, GoErr.nil)

/-- `parseFunc` on a `*Call` that need not point to the zero value (context.go calls it on
`Call{}`): `Func.Init` on `c.Func`, then `c.ImportPath`, then the model's `parseArgs` -/
def parseFuncOn (c : Call) (line : Bytes) : Option (Call × (Bool × GoErr)) :=
  match matchFunc line with
  | none => some (c, (false, GoErr.nil))
  | some (name, args) =>
    match funcInitOn c.fn name with
    | none => none
    | some (f, err) =>
      if err != GoErr.nil then some ({ c with fn := f }, (true, err))
      else
        let c := { c with fn := f, importPath := f.importPath }
        match parseArgs args with
        | .error e => some (c, (true, errOnLine (GoErr.parseArgs e) line))
        | .ok a => some ({ c with args := a }, (true, GoErr.nil))

/-- `parseFile` on any `*Call`, from the model's `parseFile` and `Call.init` -/
def parseFileOn (c : Call) (line : Bytes) : Option (Call × (Bool × GoErr)) :=
  match PP.parseFile line with
  | none => some (c, (false, GoErr.nil))
  | some none => some (c, (true, errFileInt line))
  | some (some (p, n)) => some (c.init p n, (true, GoErr.nil))

/-- the model's `trimCurlyBrackets` as the Go function returns it: the two counts are Go `int`s -/
def trimResult (r : Nat × Bytes × Nat) : Int × Bytes × Int := (Int.ofNat r.1, r.2.1, Int.ofNat r.2.2)

/-- `(*Call).init` is a function of the environment here (translated and tied in group Scan,
`TrS.tie_Call_init`, where its `line int` is a `Nat`); in this group the argument is the Go `int`
as an `Int`, and the model function is applied to its `toNat` — exact for the natural numbers
`atou` returns, which is all `parseFile` ever passes (`tie_parseFile`). -/
def modelEnv : Env where
  Call_init c p n := some (c.init p n.toNat, ())
  Func_Init f raw := funcInitOn f raw
  parseFunc c line := parseFuncOn c line
  parseFile c line := parseFileOn c line
  trimCurlyBrackets s := some (trimResult (PP.trimCurlyBrackets s))

@[simp] theorem mE_trimCurlyBrackets (s : Bytes) :
    modelEnv.trimCurlyBrackets s = some (trimResult (PP.trimCurlyBrackets s)) := rfl
@[simp] theorem mE_Call_init (c : Call) (p : Bytes) (n : Int) :
    modelEnv.Call_init c p n = some (c.init p n.toNat, ()) := rfl
@[simp] theorem mE_Func_Init (f : Func) (raw : Bytes) : modelEnv.Func_Init f raw = funcInitOn f raw := rfl
@[simp] theorem mE_parseFunc (c : Call) (line : Bytes) : modelEnv.parseFunc c line = parseFuncOn c line := rfl
@[simp] theorem mE_parseFile (c : Call) (line : Bytes) : modelEnv.parseFile c line = parseFileOn c line := rfl

/-! ### the translated code against `funcInitOn` -/

theorem idxOrMinus1_eq_neg1 (o : Option Nat) : (idxOrMinus1 o == (-1 : Int)) = true ↔ o = none := by
  cases o with
  | none => simp
  | some i => simp only [idxOrMinus1_some, ofNat_eq_neg1]; simp

/-- the values the first block of `Init` leaves in `endPkg` -/
theorem endPkg_of_join (raw : Bytes) (s : Int)
    (hs : (lastIndexByte raw 47 = none ∧ s = goIndexByte raw 46) ∨
      ∃ i, lastIndexByte raw 47 = some i ∧ ¬ (goIndexByte (raw.drop (i + 1)) 46 == (-1 : Int)) = true ∧
        s = goLastIndexByte raw 47 + goIndexByte (raw.drop (i + 1)) 46 + 1) :
    ∃ ep, endPkgOf raw = .ok ep ∧ s = idxOrMinus1 ep := by
  rcases hs with ⟨h1, rfl⟩ | ⟨i, h1, h2, rfl⟩
  · exact ⟨indexByte raw 46, by simp [endPkgOf, h1], rfl⟩
  · unfold goIndexByte at h2
    rw [idxOrMinus1_eq_neg1] at h2
    cases h3 : indexByte (raw.drop (i + 1)) 46 with
    | none => exact absurd h3 h2
    | some r =>
      refine ⟨some (i + r + 1), by simp [endPkgOf, h1, h3], ?_⟩
      simp only [goLastIndexByte, goIndexByte, h1, h3, idxOrMinus1_some, Int.ofNat_eq_natCast]
      omega

theorem goSliceI_all {α : Type} (s : List α) : goSliceI s ((-1 : Int) + 1) (ilen s) = some s := by
  simpa using goSliceI_drop s 0 (Nat.zero_le _)

theorem endPkgOf_dot {raw : Bytes} {e : Nat} (h : endPkgOf raw = .ok (some e)) : raw[e]? = some 46 := by
  unfold endPkgOf at h
  cases h1 : lastIndexByte raw 47 with
  | none =>
    simp only [h1] at h
    exact indexByte_getElem? (by simpa using h)
  | some ls =>
    simp only [h1] at h
    cases h2 : indexByte (raw.drop (ls + 1)) 46 with
    | none => simp [h2] at h
    | some r =>
      simp only [h2, Except.ok.injEq, Option.some.injEq] at h
      have := indexByte_getElem? h2
      rw [List.getElem?_drop] at this
      rw [← this, ← h]; congr 1; omega

/-- `(*Func).Init` calls no other translated function: the translated code is `funcInitOn` in
every environment, for every receiver and every raw name -/
theorem Func_Init_eq (E : Env) (f : Func) (raw : Bytes) : TrF.Func_Init E f raw = funcInitOn f raw := by
  unfold TrF.Func_Init
  simp only [last_drop, last_take, ite_some_some, elim_some_some, Option.bind_some, Option.bind_fun_some, goIdxI_split_last,
    Func_ite, Func_elim, elim_const, ite_self]
  apply after_join
  · intro i h1 h2
    unfold goIndexByte at h2
    rw [idxOrMinus1_eq_neg1] at h2
    simp [funcInitOn, endPkgOf, h1, h2, errNoDot]
  · intro s hs
    obtain ⟨ep, hep, rfl⟩ := endPkg_of_join raw s hs
    have hdot : ∀ e, ep = some e → e < raw.length := by
      intro e he; subst he
      have := endPkgOf_dot hep
      exact (List.getElem?_eq_some_iff.mp this).1
    simp only [funcInitOn, hep]
    cases hq : pathUnescape raw with
    | none => simp [goPathUnescape, hq, errEscape]
    | some complete =>
      have hg : goPathUnescape raw = (complete, GoErr.nil) := by simp [goPathUnescape, hq]
      simp only [hg, bne_self_eq_false, Bool.false_eq_true, if_false]
      refine (bind_of_eq_some (v := idxOrMinus1 (endPkgAdj raw ep)) _ ?_).trans ?_
      · cases ep with
        | none => simp [endPkgAdj]
        | some e =>
          have hle := hdot e rfl
          by_cases he : e > 0
          · have hpos : decide (Int.ofNat e > (0 : Int)) = true := by
              simp only [decide_eq_true_eq, Int.ofNat_eq_natCast]; omega
            rw [idxOrMinus1_some, if_pos hpos, goSliceI_take raw e (by omega), Option.bind_some]
            simp only [endPkgAdj, if_pos he]
            cases hp : pathUnescape (raw.take e) with
            | none => simp [goPathUnescape, hp]
            | some pkg => simp [goPathUnescape, hp, ilen]
          · have hpos : ¬ decide (Int.ofNat e > (0 : Int)) = true := by
              simp only [decide_eq_true_eq, Int.ofNat_eq_natCast]; omega
            rw [idxOrMinus1_some, if_neg hpos]
            simp only [endPkgAdj, if_neg he, idxOrMinus1_some]
      · generalize endPkgAdj raw ep = ep'
        cases ep' with
        | none =>
          simp only [idxOrMinus1_none, bne_self_eq_false, Bool.false_eq_true, if_false, Option.bind_some,
            goSliceI_all, funcFinishOn, Option.map_some]
          rfl
        | some e =>
          simp only [idxOrMinus1_some, idxOrMinus1_ne_neg1, if_true, funcFinishOn, ofNat_succ]
          by_cases h1 : e + 1 ≤ complete.length
          · simp only [goSliceI_take complete e (by omega), Option.bind_some, goSliceI_drop complete (e + 1) h1,
              if_pos h1, Option.map_some]
            rfl
          · rw [if_neg h1]
            by_cases h0 : e ≤ complete.length
            · simp only [goSliceI_take complete e h0, Option.bind_some, ilen]
              rw [goSliceI_ofNat_none _ _ _ (by omega)]
              rfl
            · have : goSliceI complete (0 : Int) (Int.ofNat e) = none := by
                simpa using goSliceI_ofNat_none complete 0 e (by omega)
              rw [this]; rfl

/-! ### `funcInitOn` against the model `funcInit` -/

/-- the model's result as `Init` returns it on the receiver `f`: the receiver afterwards and the
error.  An escape error leaves `Complete` empty (`f.Complete, err = url.PathUnescape(raw)`
assigns the "" Go returns with the error); `FErr.slice`, the model's panic, is `none`. -/
def initResult (f : Func) : Except FErr Func → Option (Func × GoErr)
  | .ok g => some (g, GoErr.nil)
  | .error .noDot => some (f, errNoDot)
  | .error .escape => some ({ f with complete := [] }, errEscape)
  | .error .slice => none

/-- the model's error kind of an error value `Init` returns -/
def toFErr (e : GoErr) : Option FErr :=
  if e = errNoDot then some .noDot else if e = errEscape then some .escape else none

theorem toFErr_noDot : toFErr errNoDot = some .noDot := by decide
theorem toFErr_escape : toFErr errEscape = some .escape := by decide
theorem toFErr_nil : toFErr GoErr.nil = none := by decide

/-- the three stages of the model -/
theorem funcInit_stages (raw : Bytes) :
    funcInit raw =
      match endPkgOf raw with
      | .error e => .error e
      | .ok endPkg =>
        match pathUnescape raw with
        | none => .error .escape
        | some complete => funcFinish complete (endPkgAdj raw endPkg) := by
  unfold funcInit endPkgOf endPkgAdj
  rfl

theorem endPkgOf_error {raw : Bytes} {e : FErr} (h : endPkgOf raw = .error e) : e = .noDot := by
  unfold endPkgOf at h
  split at h
  · split at h
    · cases h; rfl
    · cases h
  · cases h

theorem nameCut_eq (n : Bytes) :
    nameCut n =
      match lastIndexByte n 32 with
      | some idx =>
        let cut := n.take idx
        if hasSuffix cut inGoroutineSuffix then cut.take (cut.length - inGoroutineSuffix.length) else n
      | none => n := by
  unfold nameCut goTrimSuffix
  cases lastIndexByte n 32 with
  | none => rfl
  | some i =>
    simp only [Option.elim_some]
    split <;> simp_all

theorem dirOf_eq (p : Bytes) :
    dirOf p = match lastIndexByte p 47 with | some i => p.drop (i + 1) | none => p := by
  unfold dirOf
  cases lastIndexByte p 47 <;> rfl

/-- a receiver in which the three fields `Init` does not always assign are zero -/
def Fresh (f : Func) : Prop := f.importPath = [] ∧ f.isExported = false ∧ f.isPkgMain = false

theorem fresh_zero : Fresh {} := ⟨rfl, rfl, rfl⟩

theorem finishTail_fresh (f : Func) (h2 : f.isExported = false) (h3 : f.isPkgMain = false) (name0 : Bytes) :
    finishTail f name0 =
      { complete := f.complete, importPath := f.importPath, dirName := dirOf f.importPath, name := nameCut name0,
        isExported := if f.importPath == b!"main" then nameCut name0 == b!"main"
          else toUpperIsSelf (firstRune ((splitOn (nameCut name0) [46]).getLast?.getD [])),
        isPkgMain := f.importPath == b!"main" } := by
  unfold finishTail
  rw [h2, h3]
  cases f.importPath == b!"main" <;> cases nameCut name0 == b!"main" <;> rfl

theorem funcFinishOn_fresh (f : Func) (hf : Fresh f) (complete : Bytes) (endPkg : Option Nat) :
    funcFinishOn f complete endPkg =
      match funcFinish complete endPkg with
      | .ok g => some g
      | .error _ => none := by
  obtain ⟨h1, h2, h3⟩ := hf
  cases endPkg with
  | none =>
    rw [funcFinishOn, finishTail_fresh { f with complete := complete } h2 h3, nameCut_eq, dirOf_eq]
    simp only [h1]
    rfl
  | some e =>
    by_cases hb : e + 1 ≤ complete.length
    · simp only [funcFinishOn, if_pos hb]
      rw [finishTail_fresh { f with complete := complete, importPath := complete.take e } h2 h3,
        nameCut_eq, dirOf_eq]
      simp only [funcFinish, hb, decide_true, Bool.not_true, Bool.false_eq_true, if_false]
      rfl
    · simp [funcFinishOn, funcFinish, hb]
theorem funcFinish_error {complete : Bytes} {endPkg : Option Nat} {e : FErr}
    (h : funcFinish complete endPkg = .error e) : e = .slice := by
  cases endPkg with
  | none => simp [funcFinish] at h
  | some i =>
    by_cases hb : i + 1 ≤ complete.length
    · simp [funcFinish, hb] at h
    · simp [funcFinish, hb] at h
      exact h.symm

theorem funcFinishOn_none {f : Func} {complete : Bytes} {endPkg : Option Nat}
    (h : funcFinishOn f complete endPkg = none) : funcFinish complete endPkg = .error .slice := by
  cases endPkg with
  | none => simp [funcFinishOn] at h
  | some e =>
    by_cases hb : e + 1 ≤ complete.length
    · simp [funcFinishOn, hb] at h
    · simp [funcFinish, hb]

theorem funcInitOn_fresh (f : Func) (hf : Fresh f) (raw : Bytes) :
    funcInitOn f raw = initResult f (funcInit raw) := by
  rw [funcInit_stages]
  unfold funcInitOn
  cases h : endPkgOf raw with
  | error e => cases endPkgOf_error h; rfl
  | ok ep =>
    cases hq : pathUnescape raw with
    | none => rfl
    | some c =>
      simp only [funcFinishOn_fresh f hf]
      cases hF : funcFinish c (endPkgAdj raw ep) with
      | ok g => rfl
      | error e => cases funcFinish_error hF; rfl

/-- `Init` never panics, whatever the receiver (`funcInit_ne_slice`: no slice expression of
`Init` can be out of range; finding F3) -/
theorem funcInitOn_ne_none (f : Func) (raw : Bytes) : funcInitOn f raw ≠ none := by
  intro h
  apply funcInit_ne_slice raw
  rw [funcInit_stages]
  unfold funcInitOn at h
  cases he : endPkgOf raw with
  | error e => simp [he] at h
  | ok ep =>
    simp only [he] at h ⊢
    cases hq : pathUnescape raw with
    | none => simp [hq] at h
    | some c =>
      simp only [hq, Option.map_eq_none_iff] at h ⊢
      exact funcFinishOn_none h

theorem tie_Func_Init (f : Func) (raw : Bytes) :
    TrF.Func_Init modelEnv f raw = modelEnv.Func_Init f raw :=
  Func_Init_eq modelEnv f raw

/-- translated `Init` = the model `funcInit`, on every fresh receiver and every raw name: the
receiver afterwards is the model's `Func`, a returned error is the model's `FErr` (`initResult`,
`toFErr`), and the model's panic (`FErr.slice`) would be a panic -/
theorem tie_Func_Init_model (E : Env) (f : Func) (hf : Fresh f) (raw : Bytes) :
    TrF.Func_Init E f raw = initResult f (funcInit raw) := by
  rw [Func_Init_eq, funcInitOn_fresh f hf]

/-- the same on the zero value (`Call{}.Func`, `make([]Call, 1)[0].Func`: how context.go calls it) -/
theorem tie_Func_Init_zero (E : Env) (raw : Bytes) :
    TrF.Func_Init E {} raw = initResult {} (funcInit raw) :=
  tie_Func_Init_model E {} fresh_zero raw

/-- the translated `Init` never yields `none`: no run-time panic, for any receiver -/
theorem Func_Init_no_panic (E : Env) (f : Func) (raw : Bytes) : TrF.Func_Init E f raw ≠ none := by
  rw [Func_Init_eq]; exact funcInitOn_ne_none f raw

/-- what the caller sees on a fresh receiver: `nil` and the model's `Func`, or an error whose
kind is the model's -/
theorem Func_Init_cases (E : Env) (f : Func) (hf : Fresh f) (raw : Bytes) :
    (∃ g, funcInit raw = .ok g ∧ TrF.Func_Init E f raw = some (g, GoErr.nil)) ∨
    (∃ e g err, funcInit raw = .error e ∧ TrF.Func_Init E f raw = some (g, err) ∧ toFErr err = some e) := by
  rw [tie_Func_Init_model E f hf]
  cases h : funcInit raw with
  | ok g => exact Or.inl ⟨g, rfl, rfl⟩
  | error e =>
    cases e with
    | noDot => exact Or.inr ⟨_, _, _, rfl, rfl, toFErr_noDot⟩
    | escape => exact Or.inr ⟨_, _, _, rfl, rfl, toFErr_escape⟩
    | slice => exact absurd h (funcInit_ne_slice raw)

/-! ### parseFunc, parseFile (stack/context.go) -/

theorem goIdxI_1 {α : Type} (a b : α) (l : List α) : goIdxI (a :: b :: l) (1 : Int) = some b := rfl
theorem goIdxI_2 {α : Type} (a b c : α) (l : List α) : goIdxI (a :: b :: c :: l) (2 : Int) = some c := rfl

theorem tie_parseFile (c : Call) (line : Bytes) :
    TrF.parseFile modelEnv c line = modelEnv.parseFile c line := by
  show _ = parseFileOn c line
  unfold TrF.parseFile parseFileOn PP.parseFile reFileSubmatch
  cases hm : matchFile line with
  | none => simp
  | some m =>
    cases ha : atou m.line with
    | none => simp [goIdxI_2, goIdxI_1, goAtou, ha, errFileInt]
    | some n => simp [goIdxI_2, goIdxI_1, goAtou, ha]

theorem tie_parseFunc (c : Call) (line : Bytes) :
    TrF.parseFunc modelEnv c line = modelEnv.parseFunc c line := by
  show _ = parseFuncOn c line
  unfold TrF.parseFunc parseFuncOn reFuncSubmatch
  cases hm : matchFunc line with
  | none => simp
  | some m =>
    obtain ⟨name, args⟩ := m
    simp only [goIdxI_1, goIdxI_2, Option.bind_some, mE_Func_Init]
    cases hi : funcInitOn c.fn name with
    | none => simp
    | some r =>
      obtain ⟨f, err⟩ := r
      simp only [Option.bind_some]
      by_cases he : err = GoErr.nil
      · subst he
        cases hp : parseArgs args with
        | error e => simp [goParseArgs, hp, errOnLine]
        | ok a => simp [goParseArgs, hp]
      · simp [he]

/-- the model's error kind of an error value `parseFunc` / `parseFile` returns -/
def toErr (e : GoErr) : Option Err :=
  match e with
  | .errorf _ (.parseArgs a) _ => some (Err.ofArgErr a)
  | .errorf _ .nil _ => some .fileInt
  | e => (toFErr e).map Err.ofFErr

/-- `parseFunc` on the zero `Call` (how context.go calls it) is the model's `parseFunc`: not a
function line; or the call and no error; or the call as far as it was filled in and an error of
the model's kind -/
theorem parseFunc_zero (line : Bytes) :
    match PP.parseFunc line with
    | none => TrF.parseFunc modelEnv {} line = some ({}, (false, GoErr.nil))
    | some (c, none) => TrF.parseFunc modelEnv {} line = some (c, (true, GoErr.nil))
    | some (c, some e) => ∃ err, TrF.parseFunc modelEnv {} line = some (c, (true, err)) ∧ toErr err = some e := by
  rw [tie_parseFunc]
  show match PP.parseFunc line with
    | none => parseFuncOn {} line = _
    | some (c, none) => parseFuncOn {} line = _
    | some (c, some e) => ∃ err, parseFuncOn {} line = _ ∧ _
  unfold parseFuncOn PP.parseFunc
  cases hm : matchFunc line with
  | none => rfl
  | some m =>
    obtain ⟨name, args⟩ := m
    simp only [funcInitOn_fresh {} fresh_zero]
    cases hf : funcInit name with
    | error e =>
      cases e with
      | noDot => exact ⟨errNoDot, rfl, by decide⟩
      | escape => exact ⟨errEscape, rfl, by decide⟩
      | slice => exact absurd hf (funcInit_ne_slice name)
    | ok f =>
      simp only [initResult]
      cases hp : parseArgs args with
      | error e => exact ⟨_, rfl, by cases e <;> rfl⟩
      | ok a => rfl

theorem parseFunc_no_panic (c : Call) (line : Bytes) : TrF.parseFunc modelEnv c line ≠ none := by
  rw [tie_parseFunc]
  show parseFuncOn c line ≠ none
  unfold parseFuncOn
  cases hm : matchFunc line with
  | none => simp
  | some m =>
    obtain ⟨name, args⟩ := m
    cases hi : funcInitOn c.fn name with
    | none => exact absurd hi (funcInitOn_ne_none _ _)
    | some r =>
      obtain ⟨f, err⟩ := r
      simp only [hi]
      by_cases he : (err != GoErr.nil) = true
      · simp [he]
      · simp only [he]
        cases parseArgs args <;> simp

/-! ### trimCurlyBrackets (stack/context.go) -/

theorem goIdxI_ofNat {α : Type} (s : List α) (i : Nat) : goIdxI s (Int.ofNat i) = s[i]? := by
  unfold goIdxI
  rw [if_pos (by simp only [Int.ofNat_eq_natCast]; omega)]
  rfl

/-- a loop that steps through the bytes `w` while they satisfy `p`, its state after `k` steps being `st k`:
it stops after the longest prefix of `w` that satisfies `p` -/
theorem forRangeB_while {σ ρ : Type} (body : Nat → Nat → σ → Option (StepB σ ρ)) (st : Nat → σ) (w : Bytes)
    (p : UInt8 → Bool)
    (hbody : ∀ i x k, k < w.length →
      body i x (st k) = w[k]?.bind fun c => if !p c then some (.brk (st k)) else some (.cont (st (k + 1)))) :
    ∀ (xs : List Nat) (i k : Nat), k + xs.length = w.length →
      forRangeB body xs i (st k) = some (.cont (st (k + ((w.drop k).takeWhile p).length)))
  | [], i, k, h => by
    have : w.drop k = [] := List.drop_eq_nil_iff.mpr (by simp at h; omega)
    simp [this]
  | x :: xs, i, k, h => by
    have hk : k < w.length := by simp at h; omega
    rw [forRangeB_cons, hbody i x k hk, List.getElem?_eq_getElem hk, Option.bind_some,
      List.drop_eq_getElem_cons hk, List.takeWhile_cons]
    by_cases hp : p w[k] = true
    · simp only [hp, Bool.not_true, Bool.false_eq_true, if_false, if_true, List.length_cons]
      rw [forRangeB_while body st w p hbody xs (i + 1) (k + 1) (by simp at h ⊢; omega)]
      congr 3; omega
    · simp only [hp, Bool.not_false, if_true, Bool.false_eq_true, if_false, List.length_nil, Nat.add_zero]

theorem loop1_body (E : Env) (s : Bytes) (j : Int) (i x k : Nat) :
    trimCurlyBrackets_loop1 E s j i x (Int.ofNat k) =
      s[k]?.bind fun c => if !(c == 123) then some (.brk (Int.ofNat k)) else some (.cont (Int.ofNat (k + 1))) := by
  simp only [trimCurlyBrackets_loop1, goIdxI_ofNat, ofNat_succ]
  rfl

theorem loop2_body (E : Env) (s : Bytes) (i0 : Int) (i x n : Nat) :
    trimCurlyBrackets_loop2 E s i0 i x (Int.ofNat (n + 1)) =
      s[n]?.bind fun c => if !(c == 125) then some (.brk (Int.ofNat (n + 1))) else some (.cont (Int.ofNat n)) := by
  have e : (Int.ofNat (n + 1) - 1 : Int) = Int.ofNat n := by simp only [Int.ofNat_eq_natCast]; omega
  simp only [trimCurlyBrackets_loop2, e, goIdxI_ofNat]
  rfl

/-- the second loop walks `s[i:]` from its end -/
theorem loop2_body_rev (E : Env) (s : Bytes) (i0 : Int) (i j x k : Nat) (hk : k < (s.drop i).reverse.length) :
    trimCurlyBrackets_loop2 E s i0 j x (Int.ofNat (s.length - k)) =
      (s.drop i).reverse[k]?.bind fun c =>
        if !(c == 125) then some (.brk (Int.ofNat (s.length - k))) else some (.cont (Int.ofNat (s.length - (k + 1)))) := by
  rw [List.length_reverse, List.length_drop] at hk
  rw [List.getElem?_reverse (by rw [List.length_drop]; exact hk), List.getElem?_drop, List.length_drop,
    show s.length - k = s.length - (k + 1) + 1 by omega, loop2_body,
    show i + (s.length - i - 1 - k) = s.length - (k + 1) by omega]
/-- the slice `s[i : len(s)-k]` and the two counts are the model's result -/
theorem trim_slice (s : Bytes) (i k : Nat) (hi : i ≤ s.length) (hk : k ≤ s.length - i) :
    ((goReSliceI s (Int.ofNat i) (Int.ofNat (s.length - k))).bind fun t =>
      some (Int.ofNat i, t, ilen s - Int.ofNat (s.length - k))) =
    some (Int.ofNat i, (s.drop i).take ((s.drop i).length - k), Int.ofNat k) := by
  rw [goReSliceI, goSliceI_ofNat s i (s.length - k) (by omega) (by omega), Option.bind_some, List.drop_take,
    List.length_drop]
  congr 3
  · congr 1; omega
  · simp only [ilen, Int.ofNat_eq_natCast]; omega

theorem tie_trimCurlyBrackets (s : Bytes) :
    TrF.trimCurlyBrackets modelEnv s = modelEnv.trimCurlyBrackets s := by
  show _ = some (trimResult (PP.trimCurlyBrackets s))
  unfold TrF.trimCurlyBrackets
  have e0 : ((ilen s - (0 : Int)).toNat) = s.length := by simp [ilen]
  simp only [e0]
  rw [show (0 : Int) = Int.ofNat 0 from rfl,
    forRangeB_while _ (fun k => Int.ofNat k) s (· == 123) (fun i x k _ => loop1_body _ s _ i x k)
      (List.range' 0 s.length) 0 0 (by simp), after_cont]
  simp only [Nat.zero_add, List.drop_zero]
  generalize hi : (s.takeWhile (· == 123)).length = i
  have hil : i ≤ s.length := by rw [← hi]; exact (List.takeWhile_prefix _).length_le
  have e1 : (ilen s - Int.ofNat i).toNat = ((s.drop i).reverse).length := by
    simp only [ilen, Int.ofNat_eq_natCast, List.length_reverse, List.length_drop]; omega
  have h2 : forRangeB (trimCurlyBrackets_loop2 modelEnv s (Int.ofNat i))
      (List.range' 0 (s.drop i).reverse.length) 0 (ilen s) = _ :=
    forRangeB_while _ (fun k => Int.ofNat (s.length - k)) (s.drop i).reverse (· == 125)
      (fun j x k hk => loop2_body_rev _ s _ i j x k hk) _ 0 0 (by simp)
  rw [e1, h2, after_cont]
  simp only [Nat.zero_add, List.drop_zero]
  rw [trim_slice s i _ hil (by
    have := (List.takeWhile_prefix (l := (s.drop i).reverse) (· == 125)).length_le
    simpa using this)]
  simp only [PP.trimCurlyBrackets, trimResult, hi]
/-- no `none`: neither a panic nor a reslice beyond the length (see `goReSliceI`) -/
theorem trimCurlyBrackets_no_panic (s : Bytes) : TrF.trimCurlyBrackets modelEnv s ≠ none := by
  rw [tie_trimCurlyBrackets]; simp

theorem parseFile_no_panic (c : Call) (line : Bytes) : TrF.parseFile modelEnv c line ≠ none := by
  rw [tie_parseFile]
  show parseFileOn c line ≠ none
  unfold parseFileOn
  split <;> simp

theorem toErr_fileInt (line : Bytes) : toErr (errFileInt line) = some .fileInt := rfl

end PP.TrF

#print axioms PP.TrF.tie_Func_Init
#print axioms PP.TrF.tie_parseFunc
#print axioms PP.TrF.tie_parseFile
#print axioms PP.TrF.parseFunc_zero
#print axioms PP.TrF.parseFunc_no_panic
#print axioms PP.TrF.parseFile_no_panic
#print axioms PP.TrF.tie_trimCurlyBrackets
#print axioms PP.TrF.trimCurlyBrackets_no_panic
#print axioms PP.TrF.Func_Init_eq
#print axioms PP.TrF.tie_Func_Init_model
#print axioms PP.TrF.tie_Func_Init_zero
#print axioms PP.TrF.Func_Init_no_panic
#print axioms PP.TrF.Func_Init_cases
