import PP.Extracted
import PP.Model.Html
import PP.Model.HtmlDoc
/-
Pins of the HTML template (stack/goroutines.tpl as compiled into indexHTML)
against the models of PP/Model/Html.lean (the goroutine blocks) and PP/Model/HtmlDoc.lean (the
rest of the document).  The facts are produced by parsing the
template with html/template itself and reading back the escaper functions it
appended to every hole.  Any edit of the template that changes a hole, its
context, a literal around the holes, or a switch to text/template (no escapers
at all) breaks one of these by name.

A pin between two literals is `rfl`.  Where one side is computed from an extracted
table, `decide +kernel` has the kernel alone compute it.  The three longest skeleton pins
(`RenderCalls`, the content, the Metadata section) are `rfl` all the same: `decide` would have
the kernel compare their many long strings one by one, which is slow to check.
-/
namespace PP.Tie
open PP PP.Html PP.Extracted

/-- stack/html.go renders with html/template (contextual auto-escaping), not text/template. -/
theorem pin_html_template_package : htmlTemplateImports = ["html/template"] := rfl

/-- the functions reachable from the template are the five builders of html.go -/
theorem pin_html_funcmap :
    htmlFuncMap = ["funcClass=funcClass", "minus=minus", "pkgURL=pkgURL", "srcURL=srcURL", "symbol=symbol"] := rfl

theorem pin_template_names : templateNames = ["Join", "RenderArgs", "RenderCalls", "RenderCreatedBy", "t"] := rfl

def esc_text : List String := ["_html_template_htmlescaper"]
def esc_href : List String := ["_html_template_urlfilter", "_html_template_urlnormalizer", "_html_template_attrescaper"]
def esc_cls : List String := ["_html_template_attrescaper"]
def esc_dataurl : List String := ["_html_template_urlnormalizer", "_html_template_attrescaper"]

/-- Every hole of the template with the exact escaper pipeline html/template gave it. -/
theorem pin_template_holes : templateHoles = [
  ("Join", "$e", esc_text),
  ("RenderArgs", "$e", esc_text),
  ("RenderArgs", "$e.String", esc_text),
  ("RenderCalls", "$i", esc_text),
  ("RenderCalls", "pkgURL $e", esc_href),
  ("RenderCalls", "$e.Func.DirName", esc_text),
  ("RenderCalls", "$e.RemoteSrcPath", esc_text),
  ("RenderCalls", "$e.LocalSrcPath", esc_text),
  ("RenderCalls", "$e.RemoteSrcPath", esc_text),
  ("RenderCalls", "$e.Func.Complete", esc_text),
  ("RenderCalls", "$e.Location", esc_text),
  ("RenderCalls", "srcURL $e", esc_href),
  ("RenderCalls", "$e.SrcName", esc_text),
  ("RenderCalls", "$e.Line", esc_text),
  ("RenderCalls", "funcClass $e", esc_cls),
  ("RenderCalls", "pkgURL $e", esc_href),
  ("RenderCalls", "$e.Func.Name", esc_text),
  ("RenderCreatedBy", ".RemoteSrcPath", esc_text),
  ("RenderCreatedBy", ".LocalSrcPath", esc_text),
  ("RenderCreatedBy", ".RemoteSrcPath", esc_text),
  ("RenderCreatedBy", ".Func.Complete", esc_text),
  ("RenderCreatedBy", ".Location", esc_text),
  ("RenderCreatedBy", "srcURL .", esc_href),
  ("RenderCreatedBy", ".SrcName", esc_text),
  ("RenderCreatedBy", ".Line", esc_text),
  ("RenderCreatedBy", "funcClass .", esc_cls),
  ("RenderCreatedBy", "pkgURL .", esc_href),
  ("RenderCreatedBy", ".Func.DirName", esc_text),
  ("RenderCreatedBy", ".Func.Name", esc_text),
  ("t", ".Favicon", esc_dataurl),
  ("t", "$i", esc_text),
  ("t", "$l", esc_text),
  ("t", "$e.State", esc_text),
  ("t", "$e.SleepMin", esc_text),
  ("t", "$e.SleepMax", esc_text),
  ("t", "$e.SleepMax", esc_text),
  ("t", "$e.ID", esc_text),
  ("t", "$e.State", esc_text),
  ("t", "$e.SleepMin", esc_text),
  ("t", "$e.SleepMax", esc_text),
  ("t", "$e.SleepMax", esc_text),
  ("t", "printf \"0x%08X\" $e.RaceAddr", esc_text),
  ("t", ".Now.String", esc_text),
  ("t", ".Version", esc_text),
  ("t", ".Snapshot.RemoteGOROOT", esc_text),
  ("t", ".Snapshot.LocalGOROOT", esc_text),
  ("t", ".Snapshot.RemoteGOROOT", esc_text),
  ("t", "$path", esc_text),
  ("t", "$import", esc_text),
  ("t", ".GOMAXPROCS", esc_text),
  ("t", ".Footer", esc_text)] := rfl

/-- The model's hole kind for an extracted hole: which `renderHole` applies. -/
def holeKindOf (h : String × String × List String) : Option HoleKind :=
  let p := h.2.1
  if p ∈ ["srcURL $e", "srcURL .", "pkgURL $e", "pkgURL ."] then
    (if h.2.2 = esc_href then some .href else none)
  else if p ∈ ["funcClass $e", "funcClass ."] then
    (if h.2.2 = esc_cls then some .cls else none)
  else if h.2.2 = esc_text then some .text
  else none

/-- Every hole except the favicon data URL (not dump text) is rendered by one of
the three pipelines modelled by `Html.renderHole`; URL builders only ever sit in
`href` holes, `funcClass` only in attribute holes, everything else in text holes. -/
theorem pin_holes_classified :
    (templateHoles.filter fun h => (holeKindOf h).isNone) = [("t", ".Favicon", esc_dataurl)] := by decide +kernel

/-- no hole sits in a script, style, comment, URL-start or unquoted-attribute
context: the only escapers in use are these four -/
theorem pin_escapers_used :
    (templateHoles.flatMap (·.2.2)).eraseDups =
      ["_html_template_htmlescaper", "_html_template_urlfilter", "_html_template_urlnormalizer",
       "_html_template_attrescaper"] := by decide +kernel

def textsOf (t : String) : List (Nat × Bytes) :=
  (templateTexts.filter fun x => x.1 == t).map fun x => (x.2.1, x.2.2)

theorem pin_texts_RenderArgs :
    (textsOf "RenderArgs").map (·.2) = [Lit.a0, Lit.a1, Lit.a2, Lit.a3, Lit.a4] := by decide +kernel

theorem pin_texts_RenderCalls :
    (textsOf "RenderCalls").map (·.2) =
      [Lit.c0, Lit.c1, Lit.c2, Lit.c3, Lit.c4, Lit.c5, Lit.c6, Lit.c7, Lit.c8, Lit.c9, Lit.c10, Lit.c11, Lit.c12,
       Lit.c13, Lit.c14, Lit.c15, Lit.c16, Lit.c17, Lit.c18, Lit.c19] := by decide +kernel

theorem pin_texts_RenderCreatedBy :
    (textsOf "RenderCreatedBy").map (·.2) =
      [Lit.r0, Lit.r1, Lit.r2, Lit.r3, Lit.r4, Lit.r5, Lit.r6, Lit.r7, Lit.r8, Lit.r9, Lit.r10, Lit.r11, Lit.r12,
       Lit.r13] := by decide +kernel

/-- the tooltip texts of RenderCreatedBy and RenderCalls coincide (the model shares `srcPathPieces`) -/
theorem pin_tooltip_texts_shared :
    [Lit.r1, Lit.r2, Lit.r3, Lit.r4, Lit.r5] = [Lit.c5, Lit.c6, Lit.c7, Lit.c8, Lit.c9] := rfl

/-- text nodes 5..19 of the main template: one iteration of `range .Aggregated.Buckets` -/
theorem pin_texts_bucket :
    ((textsOf "t").filter fun x => 5 ≤ x.1 && x.1 ≤ 19) =
      [(5, Lit.h1Bucket), (6, Lit.b6), (7, Lit.b7), (8, Lit.b8), (9, Lit.stateOpen), (10, Lit.stateClose),
       (11, Lit.sleepOpen), (12, Lit.sleepTilde), (13, Lit.sleepClose), (14, Lit.sleepOpen), (15, Lit.sleepClose),
       (16, Lit.h1Close), (17, Lit.locked), (18, Lit.createdOpen), (19, Lit.createdClose)] := by decide +kernel

/-- text nodes 20..36 of the main template: one iteration of `range .Snapshot.Goroutines` -/
theorem pin_texts_goroutine :
    ((textsOf "t").filter fun x => 20 ≤ x.1 && x.1 ≤ 36) =
      [(20, Lit.h1Goroutine), (21, Lit.stateOpen), (22, Lit.stateClose),
       (23, Lit.sleepOpen), (24, Lit.sleepTilde), (25, Lit.sleepClose), (26, Lit.sleepOpen), (27, Lit.sleepClose),
       (28, Lit.h1Close), (29, Lit.locked), (30, Lit.raceOpen), (31, Lit.raceWrite), (32, Lit.raceRead),
       (33, Lit.raceAt), (34, Lit.raceClose), (35, Lit.createdOpen), (36, Lit.createdClose)] := by decide +kernel

/-- which text nodes of the main template are the long ones (`<meta>` block, style sheet, legend);
their lengths and bytes are pinned below -/
theorem pin_long_texts : (templateLongTexts.map fun x => (x.1, x.2.1)) = [("t", 1), ("t", 3), ("t", 4), ("t", 53)] := rfl

def skeletonOf (t : String) : List (Nat × String) :=
  (templateSkeleton.filter fun x => x.1 == t).map fun x => (x.2.1, x.2.2)

theorem pin_skeleton_RenderArgs : skeletonOf "RenderArgs" = [
  (0, "TEXT 0"), (0, "SET $elided := .Elided"), (0, "IF .Processed"),
  (1, "SET $l := len .Processed"), (1, "SET $last := minus $l 1"), (1, "RANGE $i, $e := .Processed"),
  (2, "HOLE $e"), (2, "SET $isNotLast := ne $i $last"), (2, "IF or $elided $isNotLast"), (3, "TEXT 1"),
  (0, "ELSE"),
  (1, "SET $l := len .Values"), (1, "SET $last := minus $l 1"), (1, "RANGE $i, $e := .Values"),
  (2, "HOLE $e.String"), (2, "SET $isNotLast := ne $i $last"), (2, "IF or $elided $isNotLast"), (3, "TEXT 2"),
  (0, "IF $elided"), (1, "TEXT 3"), (0, "TEXT 4")] := by decide +kernel

theorem pin_skeleton_RenderCalls : skeletonOf "RenderCalls" = [
  (0, "TEXT 0"), (0, "RANGE $i, $e := .Calls"),
  (1, "TEXT 1"), (1, "HOLE $i"), (1, "TEXT 2"), (1, "HOLE pkgURL $e"), (1, "TEXT 3"), (1, "HOLE $e.Func.DirName"),
  (1, "TEXT 4"), (1, "IF and $e.LocalSrcPath (ne $e.RemoteSrcPath $e.LocalSrcPath)"),
  (2, "TEXT 5"), (2, "HOLE $e.RemoteSrcPath"), (2, "TEXT 6"), (2, "HOLE $e.LocalSrcPath"),
  (1, "ELSE"), (2, "TEXT 7"), (2, "HOLE $e.RemoteSrcPath"),
  (1, "TEXT 8"), (1, "HOLE $e.Func.Complete"), (1, "TEXT 9"), (1, "HOLE $e.Location"), (1, "TEXT 10"),
  (1, "HOLE srcURL $e"), (1, "TEXT 11"), (1, "HOLE $e.SrcName"), (1, "TEXT 12"), (1, "HOLE $e.Line"), (1, "TEXT 13"),
  (1, "HOLE funcClass $e"), (1, "TEXT 14"), (1, "HOLE pkgURL $e"), (1, "TEXT 15"), (1, "HOLE $e.Func.Name"),
  (1, "TEXT 16"), (1, "TEMPLATE RenderArgs $e.Args"), (1, "TEXT 17"),
  (0, "IF .Elided"), (1, "TEXT 18"), (0, "TEXT 19")] := rfl

theorem pin_skeleton_RenderCreatedBy : skeletonOf "RenderCreatedBy" = [
  (0, "TEXT 0"), (0, "IF and .LocalSrcPath (ne .RemoteSrcPath .LocalSrcPath)"),
  (1, "TEXT 1"), (1, "HOLE .RemoteSrcPath"), (1, "TEXT 2"), (1, "HOLE .LocalSrcPath"),
  (0, "ELSE"), (1, "TEXT 3"), (1, "HOLE .RemoteSrcPath"),
  (0, "TEXT 4"), (0, "HOLE .Func.Complete"), (0, "TEXT 5"), (0, "HOLE .Location"), (0, "TEXT 6"),
  (0, "HOLE srcURL ."), (0, "TEXT 7"), (0, "HOLE .SrcName"), (0, "TEXT 8"), (0, "HOLE .Line"), (0, "TEXT 9"),
  (0, "HOLE funcClass ."), (0, "TEXT 10"), (0, "HOLE pkgURL ."), (0, "TEXT 11"), (0, "HOLE .Func.DirName"),
  (0, "TEXT 12"), (0, "HOLE .Func.Name"), (0, "TEXT 13")] := by decide +kernel

/-- the content division of the main template: the two `range` loops -/
theorem pin_skeleton_content :
    ((skeletonOf "t").drop 6).take 67 = [
  (0, "IF .Aggregated"), (1, "RANGE $i, $e := .Aggregated.Buckets"),
  (2, "SET $l := len $e.IDs"), (2, "TEXT 5"), (2, "HOLE $i"), (2, "TEXT 6"), (2, "HOLE $l"), (2, "TEXT 7"),
  (2, "IF ne 1 $l"), (3, "TEXT 8"), (2, "TEXT 9"), (2, "HOLE $e.State"), (2, "TEXT 10"),
  (2, "IF $e.SleepMax"), (3, "IF ne $e.SleepMin $e.SleepMax"),
  (4, "TEXT 11"), (4, "HOLE $e.SleepMin"), (4, "TEXT 12"), (4, "HOLE $e.SleepMax"), (4, "TEXT 13"),
  (3, "ELSE"), (4, "TEXT 14"), (4, "HOLE $e.SleepMax"), (4, "TEXT 15"),
  (2, "TEXT 16"), (2, "IF $e.Locked"), (3, "TEXT 17"),
  (2, "IF $e.CreatedBy.Calls"), (3, "TEXT 18"), (3, "TEMPLATE RenderCreatedBy index $e.CreatedBy.Calls 0"), (3, "TEXT 19"),
  (2, "TEMPLATE RenderCalls $e.Signature.Stack"),
  (0, "ELSE"), (1, "RANGE $i, $e := .Snapshot.Goroutines"),
  (2, "TEXT 20"), (2, "HOLE $e.ID"), (2, "TEXT 21"), (2, "HOLE $e.State"), (2, "TEXT 22"),
  (2, "IF $e.SleepMax"), (3, "IF ne $e.SleepMin $e.SleepMax"),
  (4, "TEXT 23"), (4, "HOLE $e.SleepMin"), (4, "TEXT 24"), (4, "HOLE $e.SleepMax"), (4, "TEXT 25"),
  (3, "ELSE"), (4, "TEXT 26"), (4, "HOLE $e.SleepMax"), (4, "TEXT 27"),
  (2, "TEXT 28"), (2, "IF $e.Locked"), (3, "TEXT 29"),
  (2, "IF $e.RaceAddr"), (3, "TEXT 30"), (3, "IF $e.RaceWrite"), (4, "TEXT 31"), (3, "ELSE"), (4, "TEXT 32"),
  (3, "TEXT 33"), (3, "HOLE printf \"0x%08X\" $e.RaceAddr"), (3, "TEXT 34"),
  (2, "IF $e.CreatedBy.Calls"), (3, "TEXT 35"), (3, "TEMPLATE RenderCreatedBy index $e.CreatedBy.Calls 0"), (3, "TEXT 36"),
  (2, "TEMPLATE RenderCalls $e.Signature.Stack")] := rfl

/-! ### the rest of the document (PP/Model/HtmlDoc.lean): head, Metadata section, legend, footer -/

/-- the Favicon hole: inside the URL attribute after the literal `data:image/gif;base64,`,
so no `urlfilter`; the model renders it with `attrEscaper ∘ urlNormalizer` (`faviconHole`) -/
theorem pin_favicon_hole :
    (templateHoles.filter fun h => h.2.1 == ".Favicon") = [("t", ".Favicon", esc_dataurl)] := by decide +kernel

/-- every hole of the Metadata section and of `Join`, and the footer, is a text hole -/
theorem pin_metadata_holes :
    (templateHoles.filter fun h => h.1 == "Join" ||
      h.2.1 ∈ [".Now.String", ".Version", ".Snapshot.RemoteGOROOT", ".Snapshot.LocalGOROOT", "$path", "$import",
        ".GOMAXPROCS", ".Footer"]) =
    [("Join", "$e", esc_text), ("t", ".Now.String", esc_text), ("t", ".Version", esc_text),
     ("t", ".Snapshot.RemoteGOROOT", esc_text), ("t", ".Snapshot.LocalGOROOT", esc_text),
     ("t", ".Snapshot.RemoteGOROOT", esc_text), ("t", "$path", esc_text), ("t", "$import", esc_text),
     ("t", ".GOMAXPROCS", esc_text), ("t", ".Footer", esc_text)] := by decide +kernel

/-- 51 holes in all; 22 in the main template: the favicon, 6 + 6 in the two loops of the
content division, 8 in the Metadata section, the footer -/
theorem pin_hole_count : templateHoles.length = 51 ∧ (templateHoles.filter fun h => h.1 == "t").length = 22 := by
  decide +kernel

theorem pin_texts_Join : (textsOf "Join").map (·.2) = [Lit.j0] := by decide +kernel

theorem pin_skeleton_Join : skeletonOf "Join" = [
  (0, "IF ."), (1, "SET $l := len ."), (1, "SET $last := minus $l 1"), (1, "RANGE $i, $e := ."),
  (2, "HOLE $e"), (2, "SET $isNotLast := ne $i $last"), (2, "IF $isNotLast"), (3, "TEXT 0")] := by decide +kernel

/-- the short text nodes of the main template outside the content division -/
theorem pin_texts_doc :
    ((textsOf "t").filter fun x => x.1 < 5 || 37 ≤ x.1) =
      [(0, Lit.t0), (2, Lit.t2), (37, Lit.t37), (38, Lit.t38), (39, Lit.t39), (40, Lit.t40), (41, Lit.t41),
       (42, Lit.t42), (43, Lit.t43), (44, Lit.t44), (45, Lit.t45), (46, Lit.t46), (47, Lit.t47), (48, Lit.t48),
       (49, Lit.t49), (50, Lit.t50), (51, Lit.t51), (52, Lit.t52), (54, Lit.t54)] := by decide +kernel

/-- the lengths of the four long text nodes -/
theorem pin_long_text_lengths :
    templateLongTexts =
      [("t", 1, Lit.t1.length), ("t", 3, Lit.t3.length), ("t", 4, Lit.t4.length), ("t", 53, Lit.t53.length)] := by
  -- the nodes are written as concatenations of short chunks; the length of each chunk is cheap to evaluate
  unfold Lit.t1 Lit.t3 Lit.t4 Lit.t53
  simp only [List.length_append]
  decide +kernel

/-- the main template before the content division: `headPieces` -/
theorem pin_skeleton_head :
    (skeletonOf "t").take 6 =
      [(0, "TEXT 0"), (0, "TEXT 1"), (0, "HOLE .Favicon"), (0, "TEXT 2"), (0, "TEXT 3"), (0, "TEXT 4")] := by decide +kernel

/-- the main template after the content division: `metaPieces`, the footer, the last text node -/
theorem pin_skeleton_metadata :
    (skeletonOf "t").drop 73 = [
  (0, "TEXT 37"), (0, "HOLE .Now.String"), (0, "TEXT 38"), (0, "HOLE .Version"), (0, "TEXT 39"),
  (0, "IF and .Snapshot.LocalGOROOT (ne .Snapshot.RemoteGOROOT .Snapshot.LocalGOROOT)"),
  (1, "TEXT 40"), (1, "HOLE .Snapshot.RemoteGOROOT"), (1, "TEXT 41"), (1, "HOLE .Snapshot.LocalGOROOT"), (1, "TEXT 42"),
  (0, "ELSE"), (1, "TEXT 43"), (1, "HOLE .Snapshot.RemoteGOROOT"), (1, "TEXT 44"),
  (0, "TEXT 45"), (0, "TEMPLATE Join .Snapshot.LocalGOPATHs"), (0, "TEXT 46"),
  (0, "IF .Snapshot.LocalGomods"), (1, "TEXT 47"), (1, "RANGE $path, $import := .Snapshot.LocalGomods"),
  (2, "TEXT 48"), (2, "HOLE $path"), (2, "TEXT 49"), (2, "HOLE $import"), (2, "TEXT 50"), (1, "TEXT 51"),
  (0, "TEXT 52"), (0, "HOLE .GOMAXPROCS"), (0, "TEXT 53"), (0, "HOLE .Footer"), (0, "TEXT 54")] := rfl

/-- head (6 nodes), content division (67 nodes, `pin_skeleton_content`), the rest (32 nodes): nothing else -/
theorem pin_skeleton_t_length : (skeletonOf "t").length = 6 + 67 + 32 := by decide +kernel

/-- the four long text nodes (`<meta>` block, style sheet in two parts, legend), byte for byte -/
theorem pin_long_text_bytes : Extracted.templateLongTextBytes =
    [("t", 1, Lit.t1), ("t", 3, Lit.t3), ("t", 4, Lit.t4), ("t", 53, Lit.t53)] := rfl

/-- the regular expressions of html.go that the hand matchers `reVersionAt` and
`reMethodSymbol` of the model transcribe -/
theorem pin_reVersion : reVersion = b!"v\\d+\\.\\d+\\.\\d+\\-\\d+\\-([a-f0-9]+)" := rfl
theorem pin_reMethodSymbol : Extracted.reMethodSymbol = b!"^\\(\\*?([^)]+)\\)(\\..+)$" := rfl

/-- `Location.String`: the model's names are the declared constants, in order -/
theorem pin_location_names :
    [Loc.unknown, .goMod, .gopath, .goPkg, .stdlib].map (fun l => Bytes.toStringLossy (Loc.string l)) =
      locationOrder.take 5 := by decide +kernel

end PP.Tie
