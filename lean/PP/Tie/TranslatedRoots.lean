import PP.TranslatedRoots
import PP.Lemmas.RootsLemmas
import PP.Lemmas.RootsFind
import PP.Tie.TranslatedScan
/-
Agreement theorems for group Roots (tie A of DESIGN.md): the root finding of
path rebasing, `(*gomodCache).isGoModule` and `(*Snapshot).findRoots`, translated from
stack/context.go on every run (`PP/TranslatedRoots.lean`) and proved equal to the
hand-written model (`PP/Model/Roots.lean`: `isGoModule`, `Snapshot.findRoots`
and the functions they are made of) the theorems of C06 / C18 are about.
`os.Stat` (isFile) and `os.ReadFile` (readFile) are oracles of the environment;
the equations hold for every oracle.  A Go run-time panic (`none`) corresponds
to `Except.error` of the model (`findRoots_no_panic` shows there is none).
-/
namespace PP.TrR
open PP PP.Go

/-- the fields of the receiver `findRoots` writes, from the model's final state -/
def mkS (s : Snapshot) (st : RootsState) : Snapshot :=
  { s with remoteGOROOT := st.goroot, remoteGOPATHs := st.gopaths, localGomods := st.gomods }

/-- the model's result as the translated function returns it: the receiver
afterwards and the number of missing files; a panic for `Except.error` -/
def findRootsResult (s : Snapshot) : Except RootsErr RootsState → Option (Snapshot × Nat)
  | .ok st => some (mkS s st, st.missing)
  | .error _ => none

def modelEnv (fs : FS) : Env where
  isFile := fs.isFile
  readFile := fs.readFile
  gomodCache_isGoModule g parts := some (isGoModule fs g parts)
  Snapshot_findRoots s := findRootsResult s (s.findRoots fs)

variable (fs : FS)

@[simp] theorem mE_isFile (p : Bytes) : (modelEnv fs).isFile p = fs.isFile p := rfl
@[simp] theorem mE_readFile (p : Bytes) : (modelEnv fs).readFile p = fs.readFile p := rfl
@[simp] theorem mE_fs : PP.FS.mk (modelEnv fs).isFile (modelEnv fs).readFile = fs := rfl
@[simp] theorem mE_isGoModule (g parts : List Bytes) :
    (modelEnv fs).gomodCache_isGoModule g parts = some (isGoModule fs g parts) := rfl
@[simp] theorem mE_findRoots (s : Snapshot) :
    (modelEnv fs).Snapshot_findRoots s = findRootsResult s (s.findRoots fs) := rfl

/-! ### (*gomodCache).isGoModule -/

theorem range'_one_succ_reverse (i : Nat) :
    (List.range' 1 (i + 1)).reverse = (i + 1) :: (List.range' 1 i).reverse := by
  rw [List.range'_concat]
  simp [Nat.add_comm]

theorem reModuleSubmatch_none {b : Bytes} (h : reModule b = none) : reModuleSubmatch b = [] := by
  simp [reModuleSubmatch, h]

theorem reModuleSubmatch_some {b m : Bytes} (h : reModule b = some m) : reModuleSubmatch b = [[], m] := by
  simp [reModuleSubmatch, h]

/-- the loop of `isGoModule` followed by its final `return "", ""` -/
theorem loop_isGoModule (g0 parts : List Bytes) :
    ∀ (i k : Nat) (g : List Bytes), i ≤ parts.length →
    after (forRangeB (gomodCache_isGoModule_loop1 (modelEnv fs) g0 parts) (List.range' 1 i).reverse k g)
      (fun g => some (g, (([] : List UInt8), ([] : List UInt8)))) =
    some (isGoModuleGo fs parts i g)
  | 0, k, g, _ => by simp [isGoModuleGo]
  | i + 1, k, g, h => by
    have ih := loop_isGoModule g0 parts i (k + 1)
    rw [range'_one_succ_reverse, forRangeB_cons]
    simp only [gomodCache_isGoModule_loop1, TrS.goSlice_to parts (i + 1) h, Option.bind_some, SSet.contains,
      SSet.insert, isGoModuleGo, mE_readFile]
    by_cases hc : g.contains (pathJoin (parts.take (i + 1))) = true
    · simp only [hc, if_true, after_cont]
    · simp only [hc, Bool.false_eq_true, if_false]
      cases hr : fs.readFile (pathJoin [pathJoin (parts.take (i + 1)), b!"go.mod"]) with
      | none => simp only []; exact ih _ (by omega)
      | some b =>
        simp only []
        cases hm : reModule b with
        | none =>
          simp only [reModuleSubmatch_none hm, bne_self_eq_false, Bool.false_eq_true, if_false]
          exact ih _ (by omega)
        | some m => simp [reModuleSubmatch_some hm]

theorem tie_isGoModule (g parts : List Bytes) :
    TrR.gomodCache_isGoModule (modelEnv fs) g parts = (modelEnv fs).gomodCache_isGoModule g parts := by
  simp only [TrR.gomodCache_isGoModule, mE_isGoModule, isGoModule, len]
  exact loop_isGoModule fs g parts parts.length 0 g (Nat.le_refl _)

/-! ### (*Snapshot).findRoots -/

@[simp] theorem mkS_goroutines (s : Snapshot) (st : RootsState) : (mkS s st).goroutines = s.goroutines := rfl
@[simp] theorem mkS_localGOROOT (s : Snapshot) (st : RootsState) : (mkS s st).localGOROOT = s.localGOROOT := rfl
@[simp] theorem mkS_localGOPATHs (s : Snapshot) (st : RootsState) : (mkS s st).localGOPATHs = s.localGOPATHs := rfl
@[simp] theorem mkS_remoteGOROOT (s : Snapshot) (st : RootsState) : (mkS s st).remoteGOROOT = st.goroot := rfl
@[simp] theorem mkS_remoteGOPATHs (s : Snapshot) (st : RootsState) : (mkS s st).remoteGOPATHs = st.gopaths := rfl
@[simp] theorem mkS_localGomods (s : Snapshot) (st : RootsState) : (mkS s st).localGomods = st.gomods := rfl

/-- the loop-carried state of the translated loop (`s`, `missing`, `gmc`) for a state of the model -/
def stOf (s : Snapshot) (st : RootsState) : Snapshot × Nat × List Bytes := (mkS s st, st.missing, st.cache)

/-- `r[:len(r)-n]`: out of range exactly when `len(r) < n` -/
theorem cut_tail {β : Type} (r : Bytes) (n : Nat) (k : Bytes → Option β) :
    ((goSub (len r) n).bind fun t => (goSlice r 0 t).bind k) =
    if r.length < n then none else k (r.take (r.length - n)) := by
  by_cases h : r.length < n
  · simp [len, h]
  · simp [len, goSub_of_le (Nat.le_of_not_lt h), h, TrS.goSlice_to r (r.length - n) (by omega)]

/-- the loop over `s.LocalGOPATHs` (with its `break`s) is the model's `findGopath` -/
theorem loop_findGopath (s0 : Snapshot) (missing : Nat) (gmc : List Bytes) (f : Bytes) (parts : List Bytes) :
    ∀ (ls : List Bytes) (k : Nat) (s : Snapshot),
    forRangeB (Snapshot_findRoots_loop2 (modelEnv fs) s0 missing gmc f parts) ls k (s, false) =
    match findGopath fs parts ls with
    | .error _ => none
    | .ok none => some (Step.cont (s, false))
    | .ok (some (key, l)) => some (Step.cont ({ s with remoteGOPATHs := s.remoteGOPATHs.insert key l }, true))
  | [], _, _ => by simp [findGopath]
  | l :: ls, k, s => by
    have e4 : ([47, 115, 114, 99] : List UInt8) = srcDir := rfl
    have e8 : ([47, 112, 107, 103, 47, 109, 111, 100] : List UInt8) = pkgmodDir := rfl
    have n4 : srcDir.length = 4 := rfl
    have n8 : pkgmodDir.length = 8 := rfl
    rw [forRangeB_cons, findGopath_cons]
    simp only [Snapshot_findRoots_loop2, mE_fs, cut_tail, e4, e8, n4, n8]
    -- after `strings.HasSuffix` the slice is in range
    by_cases h1 : Bytes.hasSuffix (isRootedIn fs (l ++ srcDir) parts) srcDir = true
    · have hl : ¬ (isRootedIn fs (l ++ srcDir) parts).length < 4 := Nat.not_lt.mpr (length_le_of_hasSuffix h1)
      simp [h1, hl]
    · simp only [h1, Bool.false_eq_true, if_false]
      by_cases h2 : Bytes.hasSuffix (isRootedIn fs (l ++ pkgmodDir) parts) pkgmodDir = true
      · have hl : ¬ (isRootedIn fs (l ++ pkgmodDir) parts).length < 8 := Nat.not_lt.mpr (length_le_of_hasSuffix h2)
        simp [h2, hl]
      · simp only [h2, Bool.false_eq_true, if_false]
        exact loop_findGopath s0 missing gmc f parts ls (k + 1) s

theorem ite_ite_same {α : Type} (c1 c2 : Prop) [Decidable c1] [Decidable c2] (a b : α) :
    (if c1 then (if c2 then a else b) else b) = if c1 ∧ c2 then a else b := by
  by_cases h1 : c1 <;> by_cases h2 : c2 <;> simp [h1, h2]

/-- one iteration of the loop of `findRoots` is the model's `findRootsStep` -/
theorem step_findRoots (sp s0 : Snapshot) (k : Nat) (f : Bytes) (st : RootsState) :
    Snapshot_findRoots_loop1 (modelEnv fs) sp k f (stOf s0 st) =
    match findRootsStep fs s0.localGOROOT s0.localGOPATHs st f with
    | .error _ => none
    | .ok st' => some (Step.cont (stOf s0 st')) := by
  have e5 : ([47, 115, 114, 99, 47] : List UInt8) = srcSep := rfl
  have e4 : ([47, 115, 114, 99] : List UInt8) = srcDir := rfl
  have n4 : srcDir.length = 4 := rfl
  simp only [Snapshot_findRoots_loop1, stOf, findRootsStep, mkS_remoteGOROOT, mkS_remoteGOPATHs, mkS_localGomods,
    mkS_localGOROOT, mkS_localGOPATHs, e5, e4, mE_fs, mE_isFile, mE_isGoModule, cut_tail, loop_findGopath,
    ite_ite_same]
  by_cases h1 : (st.goroot != [] && Bytes.hasPrefix f (st.goroot ++ srcSep)) = true
  · rw [if_pos h1, if_pos h1]
  rw [if_neg h1, if_neg h1]
  by_cases h2 : hasSrcPrefix f st.gopaths = true
  · rw [if_pos h2, if_pos h2]
  rw [if_neg h2, if_neg h2]
  by_cases h3 : mapHasPrefix f st.gomods = true
  · rw [if_pos h3, if_pos h3]
  rw [if_neg h3, if_neg h3, findRootsDisk]
  by_cases hp : (st.goroot == []) = true ∧
      Bytes.hasSuffix (isRootedIn fs (s0.localGOROOT ++ srcDir) (splitPath f)) srcDir = true
  · -- RemoteGOROOT found
    have hg : st.goroot = [] := by simpa using hp.1
    have hl : ¬ (isRootedIn fs (s0.localGOROOT ++ srcDir) (splitPath f)).length < 4 :=
      Nat.not_lt.mpr (length_le_of_hasSuffix hp.2)
    rw [if_pos hp, if_pos (gorootProbe_suffix.mpr ⟨hg, hp.2⟩), gorootProbe_of_nil hg, n4, if_neg hl, if_neg hl]
    rfl
  · have hs : Bytes.hasSuffix (gorootProbe fs s0.localGOROOT st (splitPath f)) srcDir = false :=
      Bool.eq_false_iff.mpr fun h => hp ((gorootProbe_suffix.mp h).imp (by simp) id)
    rw [if_neg hp, after_cont, if_neg (by rw [hs]; decide)]
    show after (match findGopath fs (splitPath f) s0.localGOPATHs with
      | .error _ => none | .ok none => _ | .ok (some (key, l)) => _) _ = _
    cases hgp : findGopath fs (splitPath f) s0.localGOPATHs with
    | error e => rfl
    | ok o =>
      cases o with
      | some kl => rfl
      | none =>
        simp only [after_cont, Bool.false_eq_true, if_false, findRootsMod, findModule, len]
        by_cases hn : (splitPath f).length > 1
        · have hd : (splitPath f).take ((splitPath f).length - 1) = (splitPath f).dropLast :=
            (List.dropLast_eq_take).symm
          simp only [hn, decide_true, if_true, goSub_of_le (Nat.le_of_lt hn),
            TrS.goSlice_to (splitPath f) ((splitPath f).length - 1) (Nat.sub_le _ _), Option.bind_some, hd]
          generalize isGoModule fs st.cache (splitPath f).dropLast = r
          by_cases hr : (r.2.1 != []) = true
          · simp only [hr, if_true, after_ret]
            rfl
          · simp only [hr, Bool.false_eq_true, if_false, after_cont]
            by_cases hf : fs.isFile f = true
            · simp only [hf, if_true]; rfl
            · simp only [hf, Bool.false_eq_true, if_false]; rfl
        · have hb : (([] : Bytes) != []) = false := rfl
          simp only [hn, decide_false, Bool.false_eq_true, if_false, after_cont, hb]
          by_cases hf : fs.isFile f = true
          · simp only [hf, if_true]; rfl
          · simp only [hf, Bool.false_eq_true, if_false]; rfl

/-- the loop of `findRoots` is the model's `findRootsLoop` -/
theorem loop_findRoots (sp s0 : Snapshot) :
    ∀ (files : List Bytes) (k : Nat) (st : RootsState),
    forRange (Snapshot_findRoots_loop1 (modelEnv fs) sp) files k (stOf s0 st) =
    match findRootsLoop fs s0.localGOROOT s0.localGOPATHs st files with
    | .error _ => none
    | .ok st' => some (Step.cont (stOf s0 st'))
  | [], _, _ => by simp [findRootsLoop]
  | f :: files, k, st => by
    rw [forRange_cons, step_findRoots, findRootsLoop]
    cases findRootsStep fs s0.localGOROOT s0.localGOPATHs st f with
    | error e => rfl
    | ok st' => exact loop_findRoots sp s0 files (k + 1) st'

theorem tie_findRoots (s : Snapshot) :
    TrR.Snapshot_findRoots (modelEnv fs) s = (modelEnv fs).Snapshot_findRoots s := by
  have h0 : (({ ({ s with remoteGOPATHs := ([] : List (Bytes × Bytes)) } : Snapshot) with
        localGomods := ([] : List (Bytes × Bytes)) } : Snapshot), (0 : Nat), ([] : List Bytes)) =
      stOf s { goroot := s.remoteGOROOT } := rfl
  simp only [TrR.Snapshot_findRoots, mE_findRoots, Snapshot.findRoots, h0, loop_findRoots]
  cases findRootsLoop fs s.localGOROOT s.localGOPATHs { goroot := s.remoteGOROOT } (getFiles s.goroutines) with
  | error e => rfl
  | ok st => rfl

/-- `tie_findRoots` spelled out: the translated `findRoots` returns the receiver with the three fields
of the model's final state, and the model's `missing`; it panics exactly where the model has `.error`. -/
theorem findRoots_translated_eq (s : Snapshot) :
    TrR.Snapshot_findRoots (modelEnv fs) s =
    match s.findRoots fs with
    | .ok st => some ({ s with remoteGOROOT := st.goroot, remoteGOPATHs := st.gopaths, localGomods := st.gomods },
                      st.missing)
    | .error _ => none := by
  rw [tie_findRoots, mE_findRoots]
  cases s.findRoots fs <;> rfl

/-- with `findRootsLoop_ok` (the slice expressions are in range): the translated `findRoots` does not panic,
for every file-system oracle and every snapshot -/
theorem findRoots_translated_no_panic (s : Snapshot) :
    ∃ st, s.findRoots fs = .ok st ∧ TrR.Snapshot_findRoots (modelEnv fs) s = some (mkS s st, st.missing) := by
  obtain ⟨st, h⟩ := findRootsLoop_ok fs s.localGOROOT s.localGOPATHs { goroot := s.remoteGOROOT } (getFiles s.goroutines)
  have h' : s.findRoots fs = .ok st := h
  exact ⟨st, h', by rw [tie_findRoots, mE_findRoots, h']; rfl⟩

end PP.TrR

#print axioms PP.TrR.tie_isGoModule
#print axioms PP.TrR.tie_findRoots
#print axioms PP.TrR.findRoots_translated_eq
#print axioms PP.TrR.findRoots_translated_no_panic
