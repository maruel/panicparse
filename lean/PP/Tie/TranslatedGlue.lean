import PP.TranslatedGlue
import PP.Model.FuncAt
import PP.Lemmas.FuncAtLemmas
/-
Agreement of the translated group Glue (`PP/TranslatedGlue.lean`, generated from
stack/source.go by extract/translate_glue.go) with the hand-written models
`PP/Model/FuncAt.lean` (`FA.getFuncAST`) and `PP/Model/AugmentGlue.lean`.
-/
namespace PP.TrG
open PP PP.Go PP.Bytes

/-! ### the error table read from the source is the one of the model -/

theorem errorSites_pinned : errorSites =
    [("line %d is over line count of %d", .lineOver), ("cannot load non-go file %q", .nonGo),
     ("<the error of os.ReadFile>", .read), ("<the error of parser.ParseFile>", .parse),
     ("failed to parse %w", .parse)] := rfl

/-! ### ast.Inspect: `goInspect` is `FA.inspect` -/

/-- the state of the closure: `(d, lastFunc)` -/
abbrev StT := Option Nat × Option Nat

def toSt (s : StT) : FA.St := ⟨s.1, s.2⟩

/-- a callback result of the model as one of the translation (`none` = panic) -/
def liftCb : Except FA.Err (FA.St × Bool) → Option (StT × Bool)
  | .ok (s, b) => some ((s.d, s.lastFunc), b)
  | .error _ => none

def liftSt : Except FA.Err FA.St → Option StT
  | .ok s => some (s.d, s.lastFunc)
  | .error _ => none

mutual
theorem inspect_sim (f : StT → Option FA.Node → Option (StT × Bool))
    (g : FA.St → Option FA.Node → Except FA.Err (FA.St × Bool))
    (h : ∀ s n, f (s.d, s.lastFunc) n = liftCb (g s n)) (s : FA.St) :
    (n : FA.Node) → goInspect f (s.d, s.lastFunc) n = liftSt (FA.inspect g s n)
  | ⟨pos, isF, decl, cs⟩ => by
    rw [goInspect, FA.inspect, h]
    cases hg : g s (some ⟨pos, isF, decl, cs⟩) with
    | error e => rfl
    | ok r =>
      obtain ⟨s1, b⟩ := r
      cases b
      · rfl
      · simp only [liftCb]
        rw [inspectList_sim f g h s1 cs]
        cases hl : FA.inspectList g s1 cs with
        | error e => rfl
        | ok s2 =>
          simp only [liftSt]
          rw [h]
          cases hg2 : g s2 none with
          | error e => rfl
          | ok r2 => obtain ⟨s3, b3⟩ := r2; rfl
theorem inspectList_sim (f : StT → Option FA.Node → Option (StT × Bool))
    (g : FA.St → Option FA.Node → Except FA.Err (FA.St × Bool))
    (h : ∀ s n, f (s.d, s.lastFunc) n = liftCb (g s n)) (s : FA.St) :
    (ns : List FA.Node) → goInspectList f (s.d, s.lastFunc) ns = liftSt (FA.inspectList g s ns)
  | [] => by rw [goInspectList, FA.inspectList]; rfl
  | n :: ns => by
    rw [goInspectList, FA.inspectList, inspect_sim f g h s n]
    cases hi : FA.inspect g s n with
    | error e => rfl
    | ok s1 => simp only [liftSt]; exact inspectList_sim f g h s1 ns
end

theorem goLeTop_eq (a : Nat) (e : Option Nat) : goLeTop a e = FA.leEol a e := by
  cases e <;> rfl

/-! ### the closure of getFuncAST is `FA.callback` -/

theorem lit1_eq (E : Env) (p : GParsedFile) (l : Nat) (eol d lf : Option Nat) (n : Option FA.Node) :
    getFuncAST_lit1 E p l eol d lf n = liftCb (FA.callback p.lineToByteOffset l eol ⟨d, lf⟩ n) := by
  unfold getFuncAST_lit1 FA.callback
  cases d with
  | some k => rfl
  | none =>
    cases n with
    | none => rfl
    | some nd =>
      obtain ⟨pos, isF, decl, cs⟩ := nd
      simp only [goPos, goIsFuncDecl, goAsFuncDecl, goLeTop_eq, Option.isSome_none, Option.isNone_some,
        Bool.false_eq_true, if_false]
      cases p.lineToByteOffset[l]? with
      | none => cases isF <;> rfl
      | some off =>
        cases isF with
        | false => by_cases h1 : pos ≥ off <;> simp [liftCb, h1]
        | true =>
          by_cases h1 : pos ≥ off
          · cases FA.leEol pos eol <;> simp [liftCb, h1]
          · simp [liftCb, h1]

/-- the result of the model's `getFuncAST` as the Go pair `(d, err)`; the index
panic of the model is a panic -/
def liftG : Except FA.Err (Option Nat) → Option (Option Nat × Option AugGlue.ErrKind)
  | .ok d => some (d, none)
  | .error .lineOver => some (none, some .lineOver)
  | .error .index => none

/-- `c.loadFile(fileName)` on the Go records, statement for statement -/
def mLoadFile (rf : Bytes → Option Bytes) (pf : Bytes → Bytes → Option FA.Node)
    (lo : Bytes → Option (List Nat)) (c : GCache) (fileName : Bytes) :
    Option (GCache × Option AugGlue.ErrKind) :=
  if fileName = [] then some (c, none)
  else if goMapHas c.parsed fileName then some (c, none)
  else
    if !hasSuffix fileName b!".go" then
      some ({ c with parsed := goMapSet c.parsed fileName none }, some .nonGo)
    else
      match rf fileName with
      | none => some ({ c with parsed := goMapSet c.parsed fileName none }, some .read)
      | some src =>
        match pf fileName src with
        | none => some ({ files := goMapSet c.files fileName src,
                          parsed := goMapSet c.parsed fileName none }, some .parse)
        | some tree =>
          match lo src with
          | none => none
          | some offs =>
            some ({ files := goMapSet c.files fileName src,
                    parsed := goMapSet (goMapSet c.parsed fileName none) fileName (some ⟨offs, tree⟩) }, none)

/-- one iteration of the loop of `augmentGoroutine` on the Go records: the cache afterwards, the
call afterwards, the error assigned to `err` in this iteration (`none`: not assigned) — the shape of
`AugGlue.augmentStep` -/
def mStep (rf : Bytes → Option Bytes) (pf : Bytes → Bytes → Option FA.Node)
    (lo : Bytes → Option (List Nat)) (ac : Call → Nat → Option Call) (c : GCache) (call : Call) :
    Option (GCache × Call × Option AugGlue.ErrKind) :=
  if call.args.values.length = 0 then some (c, call, none)
  else
    match mLoadFile rf pf lo c call.localSrcPath with
    | none => none
    | some r =>
      match goMapGet r.1.parsed call.localSrcPath none with
      | none => some (r.1, call, r.2)
      | some p =>
        match liftG (FA.getFuncAST p.lineToByteOffset p.parsed call.line) with
        | none => none
        | some (_, some e) => some (r.1, call, some e)
        | some (none, none) => some (r.1, call, r.2)
        | some (some k, none) =>
          match ac call k with
          | none => none
          | some call' => some (r.1, call', r.2)

/-- the loop of `augmentGoroutine` — the shape of `AugGlue.augmentCalls` -/
def mCalls (rf : Bytes → Option Bytes) (pf : Bytes → Bytes → Option FA.Node)
    (lo : Bytes → Option (List Nat)) (ac : Call → Nat → Option Call) :
    GCache → Option AugGlue.ErrKind → List Call → Option (GCache × List Call × Option AugGlue.ErrKind)
  | c, err, [] => some (c, [], err)
  | c, err, call :: rest =>
    match mStep rf pf lo ac c call with
    | none => none
    | some s =>
      match mCalls rf pf lo ac s.1 (AugGlue.lastErr err s.2.2) rest with
      | none => none
      | some r => some (r.1, s.2.1 :: r.2.1, r.2.2)

/-- `c.augmentGoroutine(g)` on the Go records — the shape of `AugGlue.augmentGoroutine` -/
def mAugmentGoroutine (rf : Bytes → Option Bytes) (pf : Bytes → Bytes → Option FA.Node)
    (lo : Bytes → Option (List Nat)) (ac : Call → Nat → Option Call) (c : GCache) (g : Goroutine) :
    Option (GCache × Goroutine × Option AugGlue.ErrKind) :=
  match mCalls rf pf lo ac c none g.sig.stack.calls with
  | none => none
  | some r => some (r.1, AugGlue.Goroutine.setCalls g r.2.1, r.2.2)

/-- the loop of `Snapshot.augment` — the shape of `AugGlue.augmentGs` -/
def mGs (rf : Bytes → Option Bytes) (pf : Bytes → Bytes → Option FA.Node)
    (lo : Bytes → Option (List Nat)) (ac : Call → Nat → Option Call) :
    GCache → Option AugGlue.ErrKind → List Goroutine →
      Option (GCache × List Goroutine × Option AugGlue.ErrKind)
  | c, err, [] => some (c, [], err)
  | c, err, g :: rest =>
    match mAugmentGoroutine rf pf lo ac c g with
    | none => none
    | some s =>
      match mGs rf pf lo ac s.1 (AugGlue.lastErr err s.2.2) rest with
      | none => none
      | some r => some (r.1, s.2.1 :: r.2.1, r.2.2)

/-- `s.augment()` on the Go records — the shape of `AugGlue.augment` -/
def mAugment (rf : Bytes → Option Bytes) (pf : Bytes → Bytes → Option FA.Node)
    (lo : Bytes → Option (List Nat)) (ac : Call → Nat → Option Call) (s : Snapshot) :
    Option (Snapshot × Option AugGlue.ErrKind) :=
  match mGs rf pf lo ac { files := [], parsed := [] } none s.goroutines with
  | none => none
  | some r => some ({ s with goroutines := r.2.1 }, r.2.2)

section
variable (rf : Bytes → Option Bytes) (pf : Bytes → Bytes → Option FA.Node) (lo : Bytes → Option (List Nat))
  (ac : Call → Nat → Option Call)

/-- the environment of the agreement theorems: `getFuncAST` is the model's `FA.getFuncAST`; `loadFile`,
`augmentGoroutine`, `augment` are `mLoadFile`, `mAugmentGoroutine`, `mAugment` above (restatements on
the Go records; the `*_refines` theorems below take them to `AugGlue.*`); `augmentCall` and the three
oracles are arbitrary -/
def modelEnv : Env where
  getFuncAST p _ l := liftG (FA.getFuncAST p.lineToByteOffset p.parsed l)
  loadFile := mLoadFile rf pf lo
  augmentGoroutine := mAugmentGoroutine rf pf lo ac
  augment := mAugment rf pf lo ac
  augmentCall := ac
  readFile := rf
  parseFile := pf
  lineToByteOffsets := lo

@[simp] theorem mE_getFuncAST (p : GParsedFile) (f : Bytes) (l : Nat) :
    (modelEnv rf pf lo ac).getFuncAST p f l = liftG (FA.getFuncAST p.lineToByteOffset p.parsed l) := rfl
@[simp] theorem mE_loadFile : (modelEnv rf pf lo ac).loadFile = mLoadFile rf pf lo := rfl
@[simp] theorem mE_readFile : (modelEnv rf pf lo ac).readFile = rf := rfl
@[simp] theorem mE_parseFile : (modelEnv rf pf lo ac).parseFile = pf := rfl
@[simp] theorem mE_augmentGoroutine :
    (modelEnv rf pf lo ac).augmentGoroutine = mAugmentGoroutine rf pf lo ac := rfl
@[simp] theorem mE_augment : (modelEnv rf pf lo ac).augment = mAugment rf pf lo ac := rfl
@[simp] theorem mE_augmentCall : (modelEnv rf pf lo ac).augmentCall = ac := rfl
@[simp] theorem mE_lineToByteOffsets : (modelEnv rf pf lo ac).lineToByteOffsets = lo := rfl

theorem inspect_lit1 (E : Env) (p : GParsedFile) (l : Nat) (eol : Option Nat) :
    goInspect (fun st n => getFuncAST_lit1 E p l eol st.1 st.2 n) (none, none) p.parsed =
      liftSt (FA.inspect (FA.callback p.lineToByteOffset l eol) {} p.parsed) :=
  inspect_sim (fun st n => getFuncAST_lit1 E p l eol st.1 st.2 n) (FA.callback p.lineToByteOffset l eol)
    (fun s n => lit1_eq E p l eol s.d s.lastFunc n) {} p.parsed

theorem tie_getFuncAST (p : GParsedFile) (f : Bytes) (l : Nat) :
    getFuncAST (modelEnv rf pf lo ac) p f l = (modelEnv rf pf lo ac).getFuncAST p f l := by
  rw [mE_getFuncAST]
  unfold getFuncAST FA.getFuncAST FA.eolOf
  by_cases h0 : p.lineToByteOffset.length ≤ l
  · simp [h0, liftG]
  · simp only [h0, decide_false, Bool.false_eq_true, if_false]
    obtain ⟨off, hoff⟩ : ∃ off, p.lineToByteOffset[l]? = some off :=
      ⟨p.lineToByteOffset[l]'(by omega), List.getElem?_eq_getElem (by omega)⟩
    by_cases h1 : l + 1 < p.lineToByteOffset.length
    · simp only [h1, decide_true, if_true, List.getElem?_eq_getElem h1, inspect_lit1]
      rw [FA.inspect_eq_walk _ l off _ hoff]
      rfl
    · simp only [h1, decide_false, Bool.false_eq_true, if_false, inspect_lit1]
      rw [FA.inspect_eq_walk _ l off _ hoff]
      rfl

theorem tie_loadFile (c : GCache) (fileName : Bytes) :
    loadFile (modelEnv rf pf lo ac) c fileName = (modelEnv rf pf lo ac).loadFile c fileName := by
  rw [mE_loadFile]
  unfold loadFile mLoadFile
  simp only [mE_readFile, mE_parseFile, mE_lineToByteOffsets]
  by_cases h0 : fileName = []
  · simp [h0]
  · simp only [h0, decide_false, Bool.false_eq_true, if_false]
    cases goMapHas c.parsed fileName
    · simp only [Bool.false_eq_true, if_false]
      cases hasSuffix fileName b!".go"
      · simp
      · rcases Option.eq_none_or_eq_some (rf fileName) with hr | ⟨src, hr⟩
        · simp [hr]
        · rcases Option.eq_none_or_eq_some (pf fileName src) with hp | ⟨tree, hp⟩
          · simp [hr, hp]
          · rcases Option.eq_none_or_eq_some (lo src) with hl | ⟨offs, hl⟩
            · simp [hr, hp, hl]
            · simp [hr, hp, hl]
    · simp

/-! ### augmentGoroutine: the loop over indexes from `pre.length` on is `mCalls` on the remaining calls -/

theorem get_mid {α : Type} (pre : List α) (x : α) (rest : List α) :
    (pre ++ x :: rest)[pre.length]? = some x := by
  simp

theorem setCalls_self (g : Goroutine) : AugGlue.Goroutine.setCalls g g.sig.stack.calls = g := rfl

theorem goSetCall_mid (g : Goroutine) (pre : List Call) (x y : Call) (rest : List Call)
    (hg : g.sig.stack.calls = pre ++ x :: rest) :
    goSetCall g pre.length y = AugGlue.Goroutine.setCalls g (pre ++ y :: rest) := by
  unfold goSetCall AugGlue.Goroutine.setCalls
  rw [hg]
  simp

theorem loop1_eq (pre : List Call) (call : Call) (rest : List Call) (c : GCache) (g : Goroutine)
    (err : Option AugGlue.ErrKind) (hg : g.sig.stack.calls = pre ++ call :: rest) :
    augmentGoroutine_loop1 (modelEnv rf pf lo ac) pre.length c g err =
      match mStep rf pf lo ac c call with
      | none => none
      | some s => some (s.1, AugGlue.Goroutine.setCalls g (pre ++ s.2.1 :: rest), AugGlue.lastErr err s.2.2) := by
  have hself : AugGlue.Goroutine.setCalls g (pre ++ call :: rest) = g := by rw [← hg]; rfl
  have hle : ∀ e1 : Option AugGlue.ErrKind, (if e1.isSome then e1 else err) = AugGlue.lastErr err e1 :=
    fun e1 => by cases e1 <;> rfl
  unfold augmentGoroutine_loop1 mStep
  simp only [hg, get_mid, mE_loadFile, mE_getFuncAST, mE_augmentCall, hle]
  by_cases h0 : call.args.values.length = 0
  · simp [h0, hself, AugGlue.lastErr]
  · simp only [h0, decide_false, Bool.false_eq_true, if_false]
    cases mLoadFile rf pf lo c call.localSrcPath with
    | none => rfl
    | some r =>
      obtain ⟨c1, e1⟩ := r
      dsimp only
      cases goMapGet c1.parsed call.localSrcPath none with
      | none => simp [hself]
      | some p =>
        simp only [Option.isSome_some, if_true]
        cases liftG (FA.getFuncAST p.lineToByteOffset p.parsed call.line) with
        | none => rfl
        | some de =>
          obtain ⟨d, e⟩ := de
          cases e with
          | some e => simp [hself, AugGlue.lastErr]
          | none =>
            cases d with
            | none => simp [hself]
            | some k =>
              cases ha : ac call k with
              | none => simp [ha]
              | some call' => simp [ha, goSetCall_mid g pre call call' rest hg]

theorem setCalls_setCalls (g : Goroutine) (a b : List Call) :
    AugGlue.Goroutine.setCalls (AugGlue.Goroutine.setCalls g a) b = AugGlue.Goroutine.setCalls g b := rfl

theorem loop_eq (rest : List Call) : ∀ (pre : List Call) (c : GCache) (g : Goroutine)
    (err : Option AugGlue.ErrKind), g.sig.stack.calls = pre ++ rest →
    goForFrom (fun i st => augmentGoroutine_loop1 (modelEnv rf pf lo ac) i st.1 st.2.1 st.2.2)
        rest.length pre.length (c, g, err) =
      match mCalls rf pf lo ac c err rest with
      | none => none
      | some r => some (r.1, AugGlue.Goroutine.setCalls g (pre ++ r.2.1), r.2.2) := by
  induction rest with
  | nil =>
    intro pre c g err hg
    simp only [List.length_nil, goForFrom, mCalls]
    rw [← hg]; rfl
  | cons call rest ih =>
    intro pre c g err hg
    simp only [List.length_cons, goForFrom, mCalls]
    rw [loop1_eq rf pf lo ac pre call rest c g err hg]
    cases mStep rf pf lo ac c call with
    | none => rfl
    | some s =>
      have := ih (pre ++ [s.2.1]) s.1 (AugGlue.Goroutine.setCalls g (pre ++ s.2.1 :: rest))
        (AugGlue.lastErr err s.2.2) (by simp [AugGlue.Goroutine.setCalls])
      simp only [List.length_append, List.length_cons, List.length_nil] at this
      simp only [this]
      cases mCalls rf pf lo ac s.1 (AugGlue.lastErr err s.2.2) rest <;> simp [setCalls_setCalls]

theorem tie_augmentGoroutine (c : GCache) (g : Goroutine) :
    augmentGoroutine (modelEnv rf pf lo ac) c g = (modelEnv rf pf lo ac).augmentGoroutine c g := by
  rw [mE_augmentGoroutine]
  unfold augmentGoroutine mAugmentGoroutine goForN
  have := loop_eq rf pf lo ac g.sig.stack.calls [] c g none (by simp)
  simp only [List.length_nil, List.nil_append] at this
  simp only [this]
  cases mCalls rf pf lo ac c none g.sig.stack.calls <;> rfl

/-! ### Snapshot.augment: the same with `mGs` -/

theorem gloop1_eq (pre : List Goroutine) (g : Goroutine) (rest : List Goroutine) (c : GCache)
    (s : Snapshot) (err : Option AugGlue.ErrKind) (hs : s.goroutines = pre ++ g :: rest) :
    augment_loop1 (modelEnv rf pf lo ac) pre.length s c err =
      match mAugmentGoroutine rf pf lo ac c g with
      | none => none
      | some r => some ({ s with goroutines := pre ++ r.2.1 :: rest }, r.1, AugGlue.lastErr err r.2.2) := by
  unfold augment_loop1
  simp only [hs, get_mid, mE_augmentGoroutine]
  cases mAugmentGoroutine rf pf lo ac c g with
  | none => rfl
  | some r =>
    obtain ⟨c1, g1, e1⟩ := r
    cases e1 <;> simp [goSetGoroutine, hs, AugGlue.lastErr]

theorem gloop_eq (rest : List Goroutine) : ∀ (pre : List Goroutine) (c : GCache) (s : Snapshot)
    (err : Option AugGlue.ErrKind), s.goroutines = pre ++ rest →
    goForFrom (fun i st => augment_loop1 (modelEnv rf pf lo ac) i st.1 st.2.1 st.2.2)
        rest.length pre.length (s, c, err) =
      match mGs rf pf lo ac c err rest with
      | none => none
      | some r => some ({ s with goroutines := pre ++ r.2.1 }, r.1, r.2.2) := by
  induction rest with
  | nil =>
    intro pre c s err hs
    simp only [List.length_nil, goForFrom, mGs]
    rw [← hs]
  | cons g rest ih =>
    intro pre c s err hs
    simp only [List.length_cons, goForFrom, mGs]
    rw [gloop1_eq rf pf lo ac pre g rest c s err hs]
    cases mAugmentGoroutine rf pf lo ac c g with
    | none => rfl
    | some r =>
      have := ih (pre ++ [r.2.1]) r.1 { s with goroutines := pre ++ r.2.1 :: rest }
        (AugGlue.lastErr err r.2.2) (by simp)
      simp only [List.length_append, List.length_cons, List.length_nil] at this
      simp only [this]
      cases mGs rf pf lo ac r.1 (AugGlue.lastErr err r.2.2) rest <;> simp

theorem tie_augment (s : Snapshot) :
    augment (modelEnv rf pf lo ac) s = (modelEnv rf pf lo ac).augment s := by
  rw [mE_augment]
  unfold augment mAugment goForN
  have := gloop_eq rf pf lo ac s.goroutines [] { files := [], parsed := [] } s none (by simp)
  simp only [List.length_nil, List.nil_append] at this
  simp only [this]
  cases mGs rf pf lo ac { files := [], parsed := [] } none s.goroutines <;> rfl
end

/-! ## Refinement: the Go-record functions above against `PP/Model/AugmentGlue.lean`

The model's cache holds `AugGlue.ParsedFile`s whose `parsed` is the oracle `Parsed.funcAt`
(getFuncAST after its line check composed with extractArgumentsType).  A Go `parsedFile` is
abstracted to it by `FA.toParsed` with `types k` = `extractArgumentsType` of the declaration of
identity `k` (`none` when its receiver list is present and not of length one: `augmentCall`
returns at once there: finding F10); the parse oracle of the model is the one of the environment composed with it (the
tree does not depend on the file name: `pf _ src = pf' src`), `lineToByteOffsets` is the model's. -/
section refine
variable (rf : Bytes → Option Bytes) (pf' : Bytes → Option FA.Node) (types : Nat → Option (List Bytes × Bool))

def absPF (p : GParsedFile) : AugGlue.ParsedFile :=
  ⟨p.lineToByteOffset, FA.toParsed p.lineToByteOffset p.parsed types⟩

def absMap (m : List (Bytes × Option GParsedFile)) : AugGlue.Cache :=
  m.map fun kv => (kv.1, kv.2.map (absPF types))

def absCache (c : GCache) : AugGlue.Cache := absMap types c.parsed

/-- the oracle of the model made of the oracles of the environment -/
def oracleOf : AugGlue.Oracle where
  readFile := rf
  parse := fun src => (pf' src).map fun tree => FA.toParsed (AugGlue.lineToByteOffsets src) tree types

theorem absMap_set (m : List (Bytes × Option GParsedFile)) (k : Bytes) (v : Option GParsedFile) :
    absMap types (goMapSet m k v) = AugGlue.Cache.insert (absMap types m) k (v.map (absPF types)) := by
  induction m with
  | nil => rfl
  | cons kv t ih =>
    obtain ⟨k', v'⟩ := kv
    by_cases h : k = k'
    · simp [goMapSet, absMap, AugGlue.Cache.insert, h]
    · simp only [goMapSet, h, if_false]
      simp only [absMap, List.map_cons, AugGlue.Cache.insert, h, if_false]
      exact congrArg _ ih

theorem absMap_lookup (m : List (Bytes × Option GParsedFile)) (k : Bytes) :
    (absMap types m).lookup k = (m.lookup k).map (Option.map (absPF types)) := by
  induction m with
  | nil => rfl
  | cons kv t ih =>
    obtain ⟨k', v'⟩ := kv
    simp only [absMap, List.map_cons, List.lookup_cons]
    cases k == k'
    · exact ih
    · rfl

theorem abs_has (m : List (Bytes × Option GParsedFile)) (k : Bytes) :
    AugGlue.Cache.has (absMap types m) k = goMapHas m k := by
  unfold AugGlue.Cache.has goMapHas
  rw [absMap_lookup]; cases m.lookup k <;> rfl

theorem abs_get (m : List (Bytes × Option GParsedFile)) (k : Bytes) :
    AugGlue.Cache.get (absMap types m) k = (goMapGet m k none).map (absPF types) := by
  unfold AugGlue.Cache.get goMapGet
  rw [absMap_lookup]; cases m.lookup k <;> rfl

/-- **loadFile against the model**: never a panic, and the cache afterwards abstracts to the
model's, with the same error -/
theorem loadFile_refines (c : GCache) (name : Bytes) :
    (mLoadFile rf (fun _ => pf') (fun s => some (AugGlue.lineToByteOffsets s)) c name).map
        (fun r => (absCache types r.1, r.2)) =
      some (AugGlue.loadFile (oracleOf rf pf' types) (absCache types c) name) := by
  unfold mLoadFile AugGlue.loadFile absCache
  by_cases h0 : name = []
  · simp [h0]
  · simp only [h0, if_false, abs_has]
    cases goMapHas c.parsed name
    · simp only [Bool.false_eq_true, if_false]
      cases hasSuffix name b!".go"
      · simp [absMap_set]
      · simp only [Bool.not_true, Bool.false_eq_true, if_false, oracleOf]
        rcases Option.eq_none_or_eq_some (rf name) with hr | ⟨src, hr⟩
        · simp [hr, absMap_set]
        · rcases Option.eq_none_or_eq_some (pf' src) with hp | ⟨tree, hp⟩
          · simp [hr, hp, absMap_set]
          · simp [hr, hp, absMap_set, absPF]
    · simp

variable (ff : Aug.FloatFmt) (ac : Call → Nat → Option Call)

/-- what `ac` (group Aug's augmentCall, given the declaration's identity) must be for the model
to apply: the call as it is for a declaration with a malformed receiver list (`types k = none`),
otherwise the model's `applyAugment` on the type names of the declaration, a panic being `none`.
This is the shape `TrAu.tie_augmentCall_enough` proves of the translated `augmentCall`
(`if recvBad f then some c else applyModel ff c (eat f).1 (eat f).2`). -/
def AcIsModel : Prop :=
  ∀ call k, ac call k =
    match types k with
    | none => some call
    | some te => (AugGlue.applyAugment ff call te.1 te.2).toOption

def absR {α : Type} (r : GCache × α) : AugGlue.Cache × α := (absCache types r.1, r.2)

theorem step_refines (hac : AcIsModel types ff ac) (c : GCache) (call : Call) :
    (mStep rf (fun _ => pf') (fun s => some (AugGlue.lineToByteOffsets s)) ac c call).map (absR types) =
      (AugGlue.augmentStep ff (oracleOf rf pf' types) (absCache types c) call).toOption := by
  unfold mStep AugGlue.augmentStep
  by_cases h0 : call.args.values.length = 0
  · simp [h0, absR, Except.toOption]
  · simp only [h0, if_false]
    obtain ⟨⟨c1, e1⟩, hr, hc⟩ := Option.map_eq_some_iff.mp (loadFile_refines rf pf' types c call.localSrcPath)
    simp only [hr, ← hc]
    unfold AugGlue.lookupAndAugment
    simp only [absCache, abs_get]
    cases goMapGet c1.parsed call.localSrcPath none with
    | none => simp [absR, absCache, Except.toOption]
    | some p =>
      simp only [Option.map_some, absPF, AugGlue.ParsedFile.getFuncAST, FA.toParsed]
      rcases FA.getFuncAST_cases p.lineToByteOffset p.parsed call.line with ⟨hle, hg⟩ | ⟨hle, d, hg⟩
      · simp [hle, hg, liftG, absR, absCache, Except.toOption]
      · simp only [hle, if_false, hg, liftG]
        cases d with
        | none => simp [absR, absCache, Except.toOption]
        | some k =>
          simp only [hac call k]
          cases types k with
          | none => simp [absR, absCache, Except.toOption]
          | some te =>
            cases ha : AugGlue.applyAugment ff call te.1 te.2 <;>
              simp [ha, absR, absCache, Except.toOption]

theorem map_toOption_cases {ε α β : Type} {a : Option α} {b : Except ε β} {f : α → β}
    (h : a.map f = b.toOption) :
    (a = none ∧ ∃ e, b = .error e) ∨ (∃ x, a = some x ∧ b = .ok (f x)) := by
  cases a with
  | none =>
    cases b with
    | error e => exact .inl ⟨rfl, e, rfl⟩
    | ok v => simp [Except.toOption] at h
  | some x =>
    cases b with
    | error e => simp [Except.toOption] at h
    | ok v =>
      simp only [Option.map_some, Except.toOption, Option.some.injEq] at h
      exact .inr ⟨x, rfl, by rw [h]⟩

theorem calls_refines (hac : AcIsModel types ff ac) (calls : List Call) :
    ∀ (c : GCache) (err : Option AugGlue.ErrKind),
    (mCalls rf (fun _ => pf') (fun s => some (AugGlue.lineToByteOffsets s)) ac c err calls).map (absR types) =
      (AugGlue.augmentCalls ff (oracleOf rf pf' types) (absCache types c) err calls).toOption := by
  induction calls with
  | nil => intro c err; rfl
  | cons call rest ih =>
    intro c err
    unfold mCalls AugGlue.augmentCalls
    rcases map_toOption_cases (step_refines rf pf' types ff ac hac c call) with ⟨h1, e, h2⟩ | ⟨x, h1, h2⟩
    · simp [h1, h2, Except.toOption]
    · simp only [h1, h2, absR]
      rcases map_toOption_cases (ih x.1 (AugGlue.lastErr err x.2.2)) with ⟨h3, e, h4⟩ | ⟨y, h3, h4⟩
      · simp [h3, h4, Except.toOption]
      · simp [h3, h4, absR, Except.toOption]

theorem goroutine_refines (hac : AcIsModel types ff ac) (c : GCache) (g : Goroutine) :
    (mAugmentGoroutine rf (fun _ => pf') (fun s => some (AugGlue.lineToByteOffsets s)) ac c g).map (absR types) =
      (AugGlue.augmentGoroutine ff (oracleOf rf pf' types) (absCache types c) g).toOption := by
  unfold mAugmentGoroutine AugGlue.augmentGoroutine
  rcases map_toOption_cases (calls_refines rf pf' types ff ac hac g.sig.stack.calls c none) with
    ⟨h1, e, h2⟩ | ⟨x, h1, h2⟩
  · simp [h1, h2, Except.toOption]
  · simp [h1, h2, absR, Except.toOption]

theorem gs_refines (hac : AcIsModel types ff ac) (gs : List Goroutine) :
    ∀ (c : GCache) (err : Option AugGlue.ErrKind),
    (mGs rf (fun _ => pf') (fun s => some (AugGlue.lineToByteOffsets s)) ac c err gs).map (absR types) =
      (AugGlue.augmentGs ff (oracleOf rf pf' types) (absCache types c) err gs).toOption := by
  induction gs with
  | nil => intro c err; simp [mGs, AugGlue.augmentGs, absR, Except.toOption]
  | cons g rest ih =>
    intro c err
    unfold mGs AugGlue.augmentGs
    rcases map_toOption_cases (goroutine_refines rf pf' types ff ac hac c g) with ⟨h1, e, h2⟩ | ⟨x, h1, h2⟩
    · simp [h1, h2, Except.toOption]
    · simp only [h1, h2, absR]
      rcases map_toOption_cases (ih x.1 (AugGlue.lastErr err x.2.2)) with ⟨h3, e, h4⟩ | ⟨y, h3, h4⟩
      · simp [h3, h4, Except.toOption]
      · simp [h3, h4, absR, Except.toOption]

/-- **Snapshot.augment against the model**: on a snapshot whose goroutines are `s.goroutines` the
Go-record function (= the translated function, `tie_augment`) panics exactly when the model
reports the panic of augmentCall, and otherwise yields the model's goroutines and error -/
theorem augment_refines (hac : AcIsModel types ff ac) (s : Snapshot) :
    (mAugment rf (fun _ => pf') (fun s => some (AugGlue.lineToByteOffsets s)) ac s).map
        (fun r => (r.1.goroutines, r.2)) =
      (AugGlue.augment ff (oracleOf rf pf' types) s.goroutines).toOption := by
  unfold mAugment AugGlue.augment
  have h := gs_refines rf pf' types ff ac hac s.goroutines { files := [], parsed := [] } none
  have h0 : absCache types { files := [], parsed := [] } = [] := rfl
  rw [h0] at h
  rcases map_toOption_cases h with ⟨h1, e, h2⟩ | ⟨x, h1, h2⟩
  · simp [h1, h2, Except.toOption]
  · simp [h1, h2, absR, Except.toOption]

/-- the translated `(*Snapshot).augment` against `AugGlue.augment`, in one statement -/
theorem tie_augment_model (hac : AcIsModel types ff ac) (s : Snapshot) :
    (augment (modelEnv rf (fun _ => pf') (fun s => some (AugGlue.lineToByteOffsets s)) ac) s).map
        (fun r => (r.1.goroutines, r.2)) =
      (AugGlue.augment ff (oracleOf rf pf' types) s.goroutines).toOption := by
  rw [tie_augment, mE_augment]
  exact augment_refines rf pf' types ff ac hac s

/-- the translated `loadFile` against `AugGlue.loadFile`, in one statement -/
theorem tie_loadFile_model (c : GCache) (name : Bytes) (ac : Call → Nat → Option Call) :
    (loadFile (modelEnv rf (fun _ => pf') (fun s => some (AugGlue.lineToByteOffsets s)) ac) c name).map
        (fun r => (absCache types r.1, r.2)) =
      some (AugGlue.loadFile (oracleOf rf pf' types) (absCache types c) name) := by
  rw [tie_loadFile, mE_loadFile]
  exact loadFile_refines rf pf' types c name

/-- the translated `augmentGoroutine` against `AugGlue.augmentGoroutine`, in one statement -/
theorem tie_augmentGoroutine_model (hac : AcIsModel types ff ac) (c : GCache) (g : Goroutine) :
    (augmentGoroutine (modelEnv rf (fun _ => pf') (fun s => some (AugGlue.lineToByteOffsets s)) ac) c g).map
        (absR types) =
      (AugGlue.augmentGoroutine ff (oracleOf rf pf' types) (absCache types c) g).toOption := by
  rw [tie_augmentGoroutine, mE_augmentGoroutine]
  exact goroutine_refines rf pf' types ff ac hac c g
end refine

/-! ### non-vacuity: the translated definitions compute -/

/-- `package p` / `func f…` on line 3 with a statement on line 4 -/
def exFile : GParsedFile :=
  ⟨[0, 0, 10, 11, 30, 40], ⟨1, false, 0, [⟨9, false, 0, []⟩, ⟨12, true, 7, [⟨20, false, 0, []⟩, ⟨32, false, 0, []⟩]⟩]⟩⟩

def exEnv : Env := modelEnv (fun _ => none) (fun _ _ => none) (fun _ => none) (fun c _ => some c)

example : getFuncAST exEnv exFile [] 4 = some (some 7, none) := by decide
example : getFuncAST exEnv exFile [] 2 = some (none, none) := by decide
example : getFuncAST exEnv exFile [] 6 = some (none, some .lineOver) := by decide
/-- the keys of the cache, whether the entry is nil, and the error -/
def obs (r : Option (GCache × Option AugGlue.ErrKind)) :
    Option (List (Bytes × Bool) × Option AugGlue.ErrKind) :=
  r.map fun r => (r.1.parsed.map fun kv => (kv.1, kv.2.isNone), r.2)

example : obs (loadFile exEnv ⟨[], []⟩ b!"a.s") = some ([(b!"a.s", true)], some .nonGo) := by decide
example : obs (loadFile exEnv ⟨[], []⟩ b!"a.go") = some ([(b!"a.go", true)], some .read) := by decide
example : obs (loadFile exEnv ⟨[], [(b!"a.go", none)]⟩ b!"a.go") = some ([(b!"a.go", true)], none) := by decide

/-! ### Declarations with a malformed receiver list (finding F10)

The source `func () f(x int) { panic(x) }` (an empty receiver list; go/parser accepts it without
error) — the tree below is what `ast.Inspect` reports on go/parser's tree of it.  The Go code
(`augmentCall`: `if f.Recv != nil && len(f.Recv.List) != 1 { return }`, tied in group Aug as
`recvBad`) leaves the call as it is: `Processed = []` (checked on the real code).  So does the
glue model: `types k = none` for such a declaration (`GlueAug.typesOf`), `Parsed.funcAt` then
answers "no function" and the call is left alone; `GlueAug.tie_acOf_isModel` proves `AcIsModel`
of the translated `augmentCall`.  (A model that gave the type names of every declaration found
would render `Processed = ["1"]` here; the third example shows that rendering for a well-formed
declaration.) -/

def f10Src : Bytes := b!"package p\n\nfunc () f(x int) {\n\tpanic(x)\n}\n"

def f10Tree : FA.Node :=
  ⟨1, false, 0, [⟨9, false, 0, []⟩, ⟨12, true, 0, [⟨17, false, 0, []⟩, ⟨20, false, 0, []⟩,
    ⟨12, false, 0, [⟨21, false, 0, [⟨22, false, 0, [⟨22, false, 0, []⟩, ⟨24, false, 0, []⟩]⟩]⟩]⟩,
    ⟨29, false, 0, [⟨32, false, 0, [⟨32, false, 0, [⟨32, false, 0, []⟩, ⟨38, false, 0, []⟩]⟩]⟩]⟩]⟩]⟩

def f10Call : Call :=
  { fn := { name := [102] }, args := { values := [Arg.scalar [] 1 false false false] },
    localSrcPath := [97, 46, 103, 111], line := 4 }

def f10Snapshot : Snapshot :=
  { goroutines := [{ sig := { stack := { calls := [f10Call] } } }] }

def processedOf (gs : List Goroutine) : List (List (List Bytes)) :=
  gs.map fun g => g.sig.stack.calls.map fun c => c.args.processed

/-- the code (the translated `augment`, with the augmentCall of group Aug on a declaration whose
receiver list is not of length 1: the call unchanged) -/
example : (augment (modelEnv (fun _ => some f10Src) (fun _ _ => some f10Tree)
      (fun s => some (AugGlue.lineToByteOffsets s)) (fun c _ => some c)) f10Snapshot).map
    (fun r => (processedOf r.1.goroutines, r.2)) = some ([[[]]], none) := by decide +kernel

/-- the glue model on the same input: the declaration's receiver list is malformed, `types` is
`none` for it, and the call is left as it is — as in the code -/
example : (AugGlue.augment ⟨fun _ => [], fun _ => []⟩
      (oracleOf (fun _ => some f10Src) (fun _ => some f10Tree) (fun _ => none))
      f10Snapshot.goroutines).toOption.map (fun r => (processedOf r.1, r.2)) =
    some ([[[]]], none) := by decide +kernel

/-- and with a well-formed declaration of one `int` parameter at the same place the value is
rendered (the refinement is not about an oracle that always answers `none`) -/
example : (AugGlue.augment ⟨fun _ => [], fun _ => []⟩
      (oracleOf (fun _ => some f10Src) (fun _ => some f10Tree) (fun _ => some ([b!"int"], false)))
      f10Snapshot.goroutines).toOption.map (fun r => (processedOf r.1, r.2)) =
    some ([[[b!"1"]]], none) := by decide +kernel

end PP.TrG

#print axioms PP.TrG.errorSites_pinned
#print axioms PP.TrG.tie_getFuncAST
#print axioms PP.TrG.tie_loadFile
#print axioms PP.TrG.tie_augmentGoroutine
#print axioms PP.TrG.tie_augment
#print axioms PP.TrG.loadFile_refines
#print axioms PP.TrG.tie_loadFile_model
#print axioms PP.TrG.tie_augmentGoroutine_model
#print axioms PP.TrG.tie_augment_model
