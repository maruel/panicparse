import PP.Extracted
/-
C14 tie: the write set of the functions reachable — by calls or references, in
the call graph the extractor computes from the source (`stackRenderReachable`)
— from Aggregate, ToHTML, the String methods the template calls and the console
writers.  `Extracted.stackWriteSet` / `internalWriteSet` list every write whose
target is reached through an indirection (slice or map element, pointer
dereference, explicit or implied), with the origin of its root variable; a
local initialised from part of a parameter inherits the parameter's origin, so
`out := a.Values; out[i] = x` counts as a write through the receiver, while
assigning a field of a struct *copy* does not.  Pinned is the part that matters: the writes whose root is
NOT a value created inside the same call (`make`, a composite literal, a local
array, a call result).  There are exactly two groups: the per-bucket counters
owned by Aggregate's own map (`c.ids`, `c.first`, reached through a range
variable over that map), and the `data` map that ToHTML allocates and hands to
toHTML.  Nothing is written through a receiver or a caller-supplied snapshot,
and nothing reachable sorts or assigns into the snapshot.  Refactorings that
only change writes to freshly created values do not touch these pins.
-/
namespace PP.Tie

theorem pin_stack_non_fresh_writes : PP.Extracted.stackNonFreshWrites =
    ["Snapshot.Aggregate | range", "toHTML | param"] := rfl

theorem pin_internal_non_fresh_writes : PP.Extracted.internalNonFreshWrites = [] := rfl

/-- `ScanSnapshot` hands `opts.LocalGOPATHs` to the snapshot by reference (`LocalGOPATHs:
opts.LocalGOPATHs`), and the same `Opts` value may be used by many goroutines at once: no
function of the package assigns an element of, sorts, copies over or appends to that slice (or
a local alias of it).  The model's `findRoots` takes the list by value, so this is what makes
"the options are not modified" true of the code. -/
theorem pin_gopaths_never_written : PP.Extracted.stackGopathsWrites = [] := rfl

end PP.Tie
