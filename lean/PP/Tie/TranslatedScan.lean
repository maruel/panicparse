import PP.TranslatedScan
import PP.Go.PreludeRoots
import PP.Model.Re
import PP.Lemmas.PrintLemmas
import PP.Lemmas.RootsUpd
/-
Agreement theorems for group Scan (tie A of DESIGN.md): byte-level helpers of
the scanner (`atou`, `trimLeftSpace`, `isFramesElidedLine`) and of path rebasing
(`hasPrefix`, `hasSrcPrefix`, `isRootedIn`) from stack/context.go, and from
stack.go `Call.updateLocations`, `Stack.updateLocations`,
`Signature.updateLocations` and `Call.init`.  They are translated on every run
(`PP/TranslatedScan.lean`) and proved equal to the hand-written model functions
the theorems of C01 / C03 / C18 are about.  `os.Stat` (isFile) is an oracle of
the environment; the equations hold for every oracle.  Go's range over the map
in `hasPrefix` / `hasSrcPrefix` is an existence test, so the association list the
model uses gives the same result in any order (the theorem is stated for every list).
-/
namespace PP.TrS
open PP PP.Go

def modelEnv (fs : FS) : Env where
  isFile := fs.isFile
  isFramesElidedLine line := some (PP.isFramesElidedLine line)
  trimLeftSpace s := some (PP.trimLeftSpace s)
  atou s := some (match PP.atou s with | some n => (n, true) | none => (0, false))
  hasPrefix p s := some (mapHasPrefix p s)
  hasSrcPrefix p s := some (PP.hasSrcPrefix p s)
  isRootedIn root parts := some (PP.isRootedIn fs root parts)
  Call_updateLocations c goroot lg gomods gopaths := some (c.updateLocations goroot lg gomods gopaths)
  Stack_updateLocations s goroot lg gomods gopaths := some (s.updateLocations goroot lg gomods gopaths)
  Signature_updateLocations s goroot lg gomods gopaths := some (s.updateLocations goroot lg gomods gopaths)
  Call_init c srcPath line := some (c.init srcPath line, ())

variable (fs : FS)

@[simp] theorem mE_isFile (p : Bytes) : (modelEnv fs).isFile p = fs.isFile p := rfl
@[simp] theorem mE_isFramesElidedLine (l : Bytes) :
    (modelEnv fs).isFramesElidedLine l = some (PP.isFramesElidedLine l) := rfl
@[simp] theorem mE_trimLeftSpace (l : Bytes) : (modelEnv fs).trimLeftSpace l = some (PP.trimLeftSpace l) := rfl
@[simp] theorem mE_atou (l : Bytes) :
    (modelEnv fs).atou l = some (match PP.atou l with | some n => (n, true) | none => (0, false)) := rfl
@[simp] theorem mE_hasPrefix (p : Bytes) (m : AMap) : (modelEnv fs).hasPrefix p m = some (mapHasPrefix p m) := rfl
@[simp] theorem mE_hasSrcPrefix (p : Bytes) (m : AMap) : (modelEnv fs).hasSrcPrefix p m = some (PP.hasSrcPrefix p m) := rfl
@[simp] theorem mE_isRootedIn (root : Bytes) (parts : List Bytes) :
    (modelEnv fs).isRootedIn root parts = some (PP.isRootedIn fs root parts) := rfl

theorem tie_isFramesElidedLine (l : Bytes) :
    TrS.isFramesElidedLine (modelEnv fs) l = (modelEnv fs).isFramesElidedLine l := by
  simp [TrS.isFramesElidedLine, PP.isFramesElidedLine]

theorem goSlice_from {α : Type} (s : List α) (i : Nat) (h : i ≤ s.length) :
    goSlice s i (len s) = some (s.drop i) := by
  simp [goSlice, len, h]

theorem goSlice_to {α : Type} (s : List α) (i : Nat) (h : i ≤ s.length) :
    goSlice s 0 i = some (s.take i) := by
  simp [goSlice, h]

theorem drop_cons_of {α : Type} {s : List α} {k : Nat} {x : α} {xs : List α} (hs : s.drop k = x :: xs) :
    k < s.length ∧ s[k]? = some x ∧ s.drop (k + 1) = xs := by
  have hk : k < s.length := by
    by_cases hh : k < s.length
    · exact hh
    · rw [List.drop_eq_nil_of_le (by omega)] at hs; cases hs
  rw [List.drop_eq_getElem_cons hk] at hs
  exact ⟨hk, by rw [List.getElem?_eq_getElem hk, (List.cons.inj hs).1], (List.cons.inj hs).2⟩

theorem dropWhile_of_all {α : Type} (p : α → Bool) : ∀ (xs : List α), xs.all p = true → xs.dropWhile p = []
  | [], _ => rfl
  | x :: xs, h => by
    simp only [List.all_cons, Bool.and_eq_true] at h
    simp [h.1, dropWhile_of_all p xs h.2]

/-- Go's test `ch != '\t' && ch != ' '` -/
theorem not_blank (x : UInt8) : ((x != 9) && (x != 32)) = !isBlank x := by
  rw [isBlank, Bool.not_or, Bool.and_comm]
  rfl

theorem loop_trimLeftSpace (s : Bytes) :
    ∀ (xs : Bytes) (k : Nat), s.drop k = xs →
    forRange (trimLeftSpace_loop1 (modelEnv fs) s) xs k () =
    if xs.all isBlank then some (Step.cont ()) else some (Step.ret (xs.dropWhile isBlank))
  | [], _, _ => by simp
  | x :: xs, k, hs => by
    obtain ⟨hk, _, hd⟩ := drop_cons_of hs
    rw [forRange_cons]
    simp only [trimLeftSpace_loop1, List.all_cons, List.dropWhile_cons, not_blank]
    cases hb : isBlank x with
    | true => exact loop_trimLeftSpace s xs (k + 1) hd
    | false => simp only [Bool.not_false, if_true, goSlice_from s k (by omega), Option.bind_some, hs, Bool.false_and,
        Bool.false_eq_true, if_false]

theorem tie_trimLeftSpace (s : Bytes) : TrS.trimLeftSpace (modelEnv fs) s = (modelEnv fs).trimLeftSpace s := by
  simp only [TrS.trimLeftSpace, mE_trimLeftSpace, PP.trimLeftSpace]
  rw [loop_trimLeftSpace fs s s 0 rfl]
  by_cases h : s.all isBlank = true
  · simp only [h, if_true, after_cont, Option.some.injEq]
    exact (dropWhile_of_all _ _ h).symm
  · simp [h]

/-- Go's digit test on a byte: `ch -= '0'; ch > 9` (below `'0'` the subtraction wraps around) -/
theorem byte_digit (c : UInt8) : decide (c - 48 > 9) = !Bytes.isDigit c := by
  have := c.toNat_lt
  rw [Bytes.isDigit, Bool.eq_iff_iff]
  simp only [decide_eq_true_eq, Bool.not_eq_true', Bool.and_eq_false_iff, decide_eq_false_iff_not,
    UInt8.lt_iff_toNat_lt, UInt8.le_iff_toNat_le, UInt8.toNat_sub, gt_iff_lt]
  simp
  omega

theorem byte_digit_val (c : UInt8) (h : Bytes.isDigit c = true) : (c - 48).toNat = c.toNat - 48 := by
  simp only [Bytes.isDigit, Bool.and_eq_true, decide_eq_true_eq] at h
  rw [UInt8.toNat_sub_of_le _ _ h.1]
  rfl

theorem loop_atou (s : Bytes) (l : Nat) :
    ∀ (xs : Bytes) (k n : Nat),
    forRange (atou_loop1 (modelEnv fs) s l) xs k n =
    if xs.all Bytes.isDigit then some (Step.cont (xs.foldl (fun n c => n * 10 + (c.toNat - 48)) n))
    else some (Step.ret (0, false))
  | [], _, _ => by simp
  | x :: xs, k, n => by
    rw [forRange_cons]
    simp only [atou_loop1, byte_digit, List.all_cons, List.foldl_cons]
    by_cases hd : Bytes.isDigit x = true
    · simp only [hd, Bool.not_true, Bool.false_eq_true, if_false, Bool.true_and, byte_digit_val x hd]
      exact loop_atou s l xs (k + 1) _
    · simp [hd]

theorem tie_atou (s : Bytes) : TrS.atou (modelEnv fs) s = (modelEnv fs).atou s := by
  simp only [TrS.atou, mE_atou, PP.atou, loop_atou, len, digitsVal, Bool.false_and, Bool.false_or, Bool.true_and]
  by_cases h1 : (decide (0 < s.length) && decide (s.length < 19)) = true
  · by_cases h2 : s.all Bytes.isDigit = true
    · simp [h1, h2]
    · simp [h1, h2]
  · simp [h1]

theorem goSlice_mid {α : Type} (s : List α) (l n : Nat) (h : l + n ≤ s.length) :
    goSlice s l (l + n) = some ((s.drop l).take n) := by
  simp only [goSlice, Nat.le_add_right, h, and_self, if_true, Option.some.injEq]
  rw [List.drop_take]; simp

theorem head?_drop {α : Type} (s : List α) (l : Nat) : (s.drop l).head? = s[l]? := by
  simp [List.head?_drop]

/-- the test `hasPrefix` makes on one key of the map -/
def keyTest (p key : Bytes) : Bool :=
  decide (p.length > key.length + 1) && p.take key.length == key && (p.drop key.length).head? == some 47

theorem step_hasPrefix (E : Env) (p : Bytes) (m : AMap) (i : Nat) (x : Bytes) :
    hasPrefix_loop1 E p m (len p) i x () = some (if keyTest p x then .ret true else .cont ()) := by
  unfold hasPrefix_loop1 keyTest
  dsimp only [len]
  by_cases h1 : p.length > x.length + 1
  · rw [decide_eq_true h1, if_pos rfl, goSlice_to p x.length (by omega), Option.bind_some, Option.bind_some,
      Bool.true_and, head?_drop]
    cases h2 : (p.take x.length == x) with
    | false => rfl
    | true =>
      rw [if_pos rfl, List.getElem?_eq_getElem (by omega), Option.bind_some, Option.bind_some, Bool.true_and]
      cases h3 : (p[x.length] == 47) <;> simp [h3]
  · rw [decide_eq_false h1]
    rfl

theorem tie_hasPrefix (p : Bytes) (m : AMap) : TrS.hasPrefix (modelEnv fs) p m = (modelEnv fs).hasPrefix p m := by
  show after (forRange _ (m.map Prod.fst) 0 ()) _ = some (m.any fun kv => keyTest p kv.1)
  rw [forRange_any _ (keyTest p) true (step_hasPrefix (modelEnv fs) p m), List.any_map]
  show after (some (if (m.any fun kv => keyTest p kv.1) then _ else _)) _ = _
  cases m.any fun kv => keyTest p kv.1 <;> rfl

/-- one of the two tests `hasSrcPrefix` makes on a key: the key, then the separator -/
def sepTest (p key sep : Bytes) : Bool :=
  decide (p.length > key.length + sep.length) && p.take key.length == key &&
    (p.drop key.length).take sep.length == sep

theorem srcPrefix_branch (p x sep : Bytes) :
    ((if decide (p.length > x.length + sep.length) then (goSlice p 0 x.length).bind fun t3 => some (t3 == x)
      else some false).bind fun t2 =>
      if t2 then (goSlice p x.length (x.length + sep.length)).bind fun t4 => some (t4 == sep) else some false) =
    some (sepTest p x sep) := by
  unfold sepTest
  by_cases h1 : p.length > x.length + sep.length
  · rw [decide_eq_true h1, if_pos rfl, goSlice_to p x.length (by omega), Option.bind_some, Option.bind_some,
      Bool.true_and]
    cases h2 : (p.take x.length == x) with
    | false => rfl
    | true => rw [if_pos rfl, goSlice_mid p x.length sep.length (by omega), Option.bind_some, Bool.true_and]
  · rw [decide_eq_false h1]
    rfl

theorem step_hasSrcPrefix (E : Env) (p : Bytes) (m : AMap) (i : Nat) (x : Bytes) :
    hasSrcPrefix_loop1 E p m (len p) i x () =
      some (if sepTest p x srcSep || sepTest p x pkgmodSep then .ret true else .cont ()) := by
  unfold hasSrcPrefix_loop1
  dsimp only [len]
  -- `erw`: the translated text has the separators and their lengths as literals
  erw [srcPrefix_branch p x srcSep, Option.bind_some]
  cases sepTest p x srcSep with
  | true => rfl
  | false =>
    rw [if_neg (by decide)]
    erw [srcPrefix_branch p x pkgmodSep, Option.bind_some, Bool.false_or]
    cases sepTest p x pkgmodSep <;> rfl

theorem tie_hasSrcPrefix (p : Bytes) (m : AMap) :
    TrS.hasSrcPrefix (modelEnv fs) p m = (modelEnv fs).hasSrcPrefix p m := by
  show after (forRange _ (m.map Prod.fst) 0 ()) _ =
    some (m.any fun kv => sepTest p kv.1 srcSep || sepTest p kv.1 pkgmodSep)
  rw [forRange_any _ (fun x => sepTest p x srcSep || sepTest p x pkgmodSep) true
    (step_hasSrcPrefix (modelEnv fs) p m), List.any_map]
  show after (some (if (m.any fun kv => sepTest p kv.1 srcSep || sepTest p kv.1 pkgmodSep) then _ else _)) _ = _
  cases m.any fun kv => sepTest p kv.1 srcSep || sepTest p kv.1 pkgmodSep <;> rfl

theorem loop_isRootedIn (root : Bytes) (parts : List Bytes) :
    ∀ (is : List Nat) (k : Nat), (∀ i ∈ is, i ≤ parts.length) →
    forRange (isRootedIn_loop1 (modelEnv fs) root parts) is k () =
    match is.find? (fun i => fs.isFile (pathJoin [root, pathJoin (parts.drop i)])) with
    | some i => some (Step.ret (pathJoin (parts.take i)))
    | none => some (Step.cont ())
  | [], _, _ => by simp
  | i :: is, k, h => by
    have hi : i ≤ parts.length := h i (by simp)
    rw [forRange_cons]
    simp only [isRootedIn_loop1, goSlice_from parts i hi, goSlice_to parts i hi, Option.bind_some, mE_isFile,
      List.find?_cons]
    by_cases hf : fs.isFile (pathJoin [root, pathJoin (parts.drop i)]) = true
    · simp [hf]
    · simp only [hf, Bool.false_eq_true, if_false]
      exact loop_isRootedIn root parts is (k + 1) (fun j hj => h j (by simp [hj]))

theorem tie_isRootedIn (root : Bytes) (parts : List Bytes) :
    TrS.isRootedIn (modelEnv fs) root parts = (modelEnv fs).isRootedIn root parts := by
  simp only [TrS.isRootedIn, mE_isRootedIn, PP.isRootedIn, len]
  rw [loop_isRootedIn fs root parts _ 0 (by
    intro i hi
    simp only [List.mem_range'_1] at hi
    omega)]
  cases (List.range' 1 (parts.length - 1)).find? (fun i => fs.isFile (pathJoin [root, pathJoin (parts.drop i)])) <;> simp

#print axioms PP.TrS.tie_isFramesElidedLine
#print axioms PP.TrS.tie_trimLeftSpace
#print axioms PP.TrS.tie_atou
#print axioms PP.TrS.tie_hasPrefix
#print axioms PP.TrS.tie_hasSrcPrefix
#print axioms PP.TrS.tie_isRootedIn

/-! ### (*Call).updateLocations (stack.go) -/

theorem hasPrefix_len {s p : Bytes} (h : Bytes.hasPrefix s p = true) : p.length ≤ s.length := by
  obtain ⟨t, e⟩ := (hasPrefix_iff _ _).mp h
  rw [e]; simp

/-- the block every successful branch runs, once the relative path is known -/
theorem branch_tail (c : Call) (rel loc_path : Bytes) (l : Loc) :
    ((match Bytes.lastIndexByte ({ c with relSrcPath := rel, localSrcPath := loc_path } : Call).relSrcPath 47 with
      | some i =>
        (goSlice ({ c with relSrcPath := rel, localSrcPath := loc_path } : Call).relSrcPath 0 i).bind fun t =>
        some ({ ({ c with relSrcPath := rel, localSrcPath := loc_path } : Call) with importPath := t } : Call)
      | none => some ({ c with relSrcPath := rel, localSrcPath := loc_path } : Call)).bind fun c1 =>
      (if (c1.location == Loc.unknown) then some ({ c1 with location := l } : Call) else some c1)) =
    some ({ c with relSrcPath := rel, localSrcPath := loc_path, importPath := importOfRel rel c.importPath,
                   location := setLoc c l } : Call) := by
  simp only [importOfRel, setLoc]
  cases hl : Bytes.lastIndexByte rel 47 with
  | none => by_cases hu : c.location = Loc.unknown <;> simp [hu]
  | some i =>
    have hi := (PP.lastIndexByte_eq_some hl).2.2
    by_cases hu : c.location = Loc.unknown <;>
      simp [hu, goSlice_to rel i (Nat.le_of_lt hi)]

theorem gomod_tail (c : Call) (rel pkg : Bytes) :
    ((match Bytes.lastIndexByte ({ c with relSrcPath := rel, localSrcPath := c.remoteSrcPath } : Call).relSrcPath 47 with
      | some i =>
        (goSlice ({ c with relSrcPath := rel, localSrcPath := c.remoteSrcPath } : Call).relSrcPath 0 i).bind fun t =>
        some ({ ({ c with relSrcPath := rel, localSrcPath := c.remoteSrcPath } : Call) with
                importPath := ((pkg ++ ([47] : List UInt8)) ++ t) } : Call)
      | none => some ({ ({ c with relSrcPath := rel, localSrcPath := c.remoteSrcPath } : Call) with importPath := pkg } : Call)).bind
      fun c1 => (if (c1.location == Loc.unknown) then some ({ c1 with location := Loc.goMod } : Call) else some c1)) =
    some ({ c with relSrcPath := rel, localSrcPath := c.remoteSrcPath, importPath := gomodImport pkg rel,
                   location := setLoc c .goMod } : Call) := by
  simp only [gomodImport, setLoc]
  cases hl : Bytes.lastIndexByte rel 47 with
  | none => by_cases hu : c.location = Loc.unknown <;> simp [hu]
  | some i =>
    have hi := (PP.lastIndexByte_eq_some hl).2.2
    by_cases hu : c.location = Loc.unknown <;>
      simp [hu, goSlice_to rel i (Nat.le_of_lt hi)]

/-- The block every successful branch runs once the relative and the local path are set: the
import path from the directory of the relative path (`f` of it; `d` when there is none), the class
unless it is set already, then `k`. -/
theorem tail_block {ρ : Type} (c : Call) (rel lp d : Bytes) (f : Bytes → Bytes) (l : Loc) (k : Call → Option ρ) :
    ((match Bytes.lastIndexByte rel 47 with
      | some i => (goSlice rel 0 i).bind fun t =>
          some ({ c with relSrcPath := rel, localSrcPath := lp, importPath := f t } : Call)
      | none => some ({ c with relSrcPath := rel, localSrcPath := lp, importPath := d } : Call)).bind fun c1 =>
      (if c1.location == Loc.unknown then some ({ c1 with location := l } : Call) else some c1).bind k) =
    k { c with relSrcPath := rel, localSrcPath := lp,
               importPath := (match Bytes.lastIndexByte rel 47 with | some i => f (rel.take i) | none => d),
               location := setLoc c l } := by
  cases hl : Bytes.lastIndexByte rel 47 with
  | none => by_cases hu : c.location = Loc.unknown <;> simp [hu, setLoc]
  | some i =>
    have hi := (PP.lastIndexByte_eq_some hl).2.2
    by_cases hu : c.location = Loc.unknown <;> simp [hu, setLoc, goSlice_to rel i (Nat.le_of_lt hi)]

/-- one iteration of the walk over the GOPATHs is `tryGopath` (the loop is translated twice, once
under `if goroot != ""` with the prefix in scope) -/
theorem step_gopath (E : Env) (c : Call) (goroot lg : Bytes) (gomods gopaths : AMap) (i : Nat) (x : Bytes) :
    Call_updateLocations_loop3 E c goroot lg gomods gopaths i x c =
      some ((c.tryGopath x (gopaths.get x)).elim (.cont c) fun c' => .ret (c', true)) := by
  unfold Call_updateLocations_loop3 Call.tryGopath
  dsimp only
  rw [show ([47, 115, 114, 99, 47] : List UInt8) = srcSep from rfl,
    show ([47, 112, 107, 103, 47, 109, 111, 100, 47] : List UInt8) = pkgmodSep from rfl]
  by_cases h1 : Bytes.hasPrefix c.remoteSrcPath (x ++ srcSep) = true
  · rw [if_pos h1, if_pos h1, goSlice_from _ _ (hasPrefix_len h1)]
    exact tail_block c _ _ c.importPath id _ _
  · rw [if_neg h1, if_neg h1]
    by_cases h2 : Bytes.hasPrefix c.remoteSrcPath (x ++ pkgmodSep) = true
    · rw [if_pos h2, if_pos h2, goSlice_from _ _ (hasPrefix_len h2)]
      exact tail_block c _ _ c.importPath id _ _
    · rw [if_neg h2, if_neg h2]
      rfl

theorem step_gomod (E : Env) (c : Call) (goroot lg : Bytes) (gomods gopaths : AMap) (i : Nat) (x : Bytes) :
    Call_updateLocations_loop4 E c goroot lg gomods gopaths i x c =
      some ((c.tryGomod x (gomods.get x)).elim (.cont c) fun c' => .ret (c', true)) := by
  unfold Call_updateLocations_loop4 Call.tryGomod
  dsimp only
  by_cases h1 : Bytes.hasPrefix c.remoteSrcPath (x ++ b!"/") = true
  · rw [if_pos h1, if_pos h1, goSlice_from _ _ (by simpa using hasPrefix_len h1)]
    exact tail_block c _ _ _ (fun t => gomods.get x ++ [47] ++ t) _ _
  · rw [if_neg h1, if_neg h1]
    rfl

/-- the two walks of `updateLocations`, then `return false` -/
theorem walks (E : Env) (c : Call) (goroot lg : Bytes) (gomods gopaths : AMap) :
    (after (forRange (Call_updateLocations_loop3 E c goroot lg gomods gopaths) (sortedByLen gopaths) 0 c) fun c =>
      after (forRange (Call_updateLocations_loop4 E c goroot lg gomods gopaths) (sortedByLen gomods) 0 c) fun c =>
        some (c, false)) =
    some (match (match c.gopathLoop gopaths (sortedByLen gopaths) with
        | some c' => some c'
        | none => c.gomodLoop gomods (sortedByLen gomods)) with
      | some c' => (c', true)
      | none => (c, false)) := by
  rw [forRange_search _ (fun k => c.tryGopath k (gopaths.get k)) (·, true) c (step_gopath E c goroot lg gomods gopaths),
    ← gopathLoop_eq]
  cases c.gopathLoop gopaths (sortedByLen gopaths) with
  | some c' => rfl
  | none =>
    show after (forRange _ _ 0 c) _ = some (match c.gomodLoop gomods (sortedByLen gomods) with
      | some c' => (c', true)
      | none => (c, false))
    rw [forRange_search _ (fun k => c.tryGomod k (gomods.get k)) (·, true) c
      (step_gomod E c goroot lg gomods gopaths), ← gomodLoop_eq]
    cases c.gomodLoop gomods (sortedByLen gomods) <;> rfl

theorem tie_Call_updateLocations (c : Call) (goroot lg : Bytes) (gomods gopaths : AMap) :
    Call_updateLocations (modelEnv fs) c goroot lg gomods gopaths =
      (modelEnv fs).Call_updateLocations c goroot lg gomods gopaths := by
  show _ = some (c.updateLocations goroot lg gomods gopaths)
  unfold Call_updateLocations Call.updateLocations Call.updateLocations?
  by_cases h0 : (c.remoteSrcPath == ([] : List UInt8)) = true
  · rw [if_pos h0, if_pos h0]
  rw [if_neg h0, if_neg h0]
  by_cases hg : (goroot != ([] : List UInt8)) = true
  · rw [if_pos hg]
    dsimp only
    rw [show ([47, 115, 114, 99, 47] : List UInt8) = srcSep from rfl]
    by_cases h1 : Bytes.hasPrefix c.remoteSrcPath (goroot ++ srcSep) = true
    · rw [if_pos h1, goSlice_from _ _ (hasPrefix_len h1), Call.tryGoroot, if_pos (by rw [hg, h1]; rfl)]
      exact tail_block c _ _ c.importPath id _ _
    · rw [if_neg h1, Call.tryGoroot, if_neg (by rw [hg, Bool.true_and]; exact h1)]
      exact walks (modelEnv fs) c goroot lg gomods gopaths
  · rw [if_neg hg, Call.tryGoroot, if_neg (by rw [Bool.not_eq_true] at hg; rw [hg]; simp)]
    exact walks (modelEnv fs) c goroot lg gomods gopaths

/-! ### (*Stack).updateLocations, (*Signature).updateLocations -/

/-- one iteration of the loop over `s.Calls` rewrites `s.Calls[i]` in place -/
theorem step_Stack_upd (s0 : Stack) (goroot lg : Bytes) (gomods gopaths : AMap) (e r : Bool) (pre xs : List Call)
    (x y : Call) :
    Stack_updateLocations_loop1 (modelEnv fs) s0 goroot lg gomods gopaths pre.length y
      (({ calls := pre ++ x :: xs, elided := e } : Stack), r) =
    some (Step.cont (({ calls := pre ++ (x.updateLocations goroot lg gomods gopaths).1 :: xs, elided := e } : Stack),
      (x.updateLocations goroot lg gomods gopaths).2 && r)) := by
  simp only [Stack_updateLocations_loop1, getElem?_append_cons_self, Option.bind_some, set_append_cons_self]
  rfl

theorem loop_Stack_upd (s0 : Stack) (goroot lg : Bytes) (gomods gopaths : AMap) (e : Bool) :
    ∀ (xs pre : List Call) (r : Bool),
    forRange (Stack_updateLocations_loop1 (modelEnv fs) s0 goroot lg gomods gopaths) xs pre.length
      (({ calls := pre ++ xs, elided := e } : Stack), r) =
      some (Step.cont (({ calls := pre ++ xs.map (fun c => (c.updateLocations goroot lg gomods gopaths).1), elided := e } : Stack),
        (xs.all fun c => (c.updateLocations goroot lg gomods gopaths).2) && r))
  | [], pre, r => by simp
  | x :: xs, pre, r => by
    have ih := loop_Stack_upd s0 goroot lg gomods gopaths e xs (pre ++ [(x.updateLocations goroot lg gomods gopaths).1])
      ((x.updateLocations goroot lg gomods gopaths).2 && r)
    rw [List.length_append, List.length_singleton, List.append_assoc, List.singleton_append] at ih
    rw [forRange_cons, step_Stack_upd]
    show forRange _ xs (pre.length + 1) _ = _
    rw [ih, List.map_cons, List.all_cons, List.append_assoc, List.singleton_append, Bool.and_assoc,
      Bool.and_left_comm]

theorem tie_Stack_updateLocations (s : Stack) (goroot lg : Bytes) (gomods gopaths : AMap) :
    Stack_updateLocations (modelEnv fs) s goroot lg gomods gopaths =
      (modelEnv fs).Stack_updateLocations s goroot lg gomods gopaths := by
  show after (forRange _ s.calls ([] : List Call).length
    (({ calls := [] ++ s.calls, elided := s.elided } : Stack), true)) _ = some (s.updateLocations goroot lg gomods gopaths)
  rw [loop_Stack_upd fs s goroot lg gomods gopaths s.elided s.calls [] true, after_cont]
  simp [Stack.updateLocations, List.all_map, Function.comp_def]

theorem tie_Signature_updateLocations (s : Signature) (goroot lg : Bytes) (gomods gopaths : AMap) :
    Signature_updateLocations (modelEnv fs) s goroot lg gomods gopaths =
      (modelEnv fs).Signature_updateLocations s goroot lg gomods gopaths := by
  have h1 : ∀ st : Stack, (modelEnv fs).Stack_updateLocations st goroot lg gomods gopaths =
      some (st.updateLocations goroot lg gomods gopaths) := fun _ => rfl
  have hm : (modelEnv fs).Signature_updateLocations s goroot lg gomods gopaths =
      some (s.updateLocations goroot lg gomods gopaths) := rfl
  rw [hm]
  simp only [Signature_updateLocations, h1, Option.bind_some, Signature.updateLocations]

end PP.TrS

#print axioms PP.TrS.tie_Stack_updateLocations
#print axioms PP.TrS.tie_Signature_updateLocations

#print axioms PP.TrS.tie_Call_updateLocations

/-! ### `Call.init` (stack.go): the file name, the last directory and the
`_test/_testmain.go` special case of a frame's position line -/
namespace PP.TrS
open PP PP.Go
variable (fs : FS)

theorem tie_Call_init (c : Call) (srcPath : Bytes) (line : Nat) :
    TrS.Call_init (modelEnv fs) c srcPath line = (modelEnv fs).Call_init c srcPath line := by
  show _ = some (c.init srcPath line, ())
  unfold TrS.Call_init Call.init
  dsimp only
  by_cases hs : (srcPath != []) = true
  · rw [if_pos hs, if_pos hs]
    cases h1 : Bytes.lastIndexByte srcPath 47 with
    | none => simp only [ite_some_some, Option.bind_some]; rfl
    | some i =>
      have hi := (lastIndexByte_eq_some h1).2.2
      simp only [goSlice_from srcPath (i + 1) (by omega), goSlice_to srcPath i (by omega), Option.bind_some]
      cases h2 : Bytes.lastIndexByte (List.take i srcPath) 47 with
      | none => simp only [ite_some_some, Option.bind_some]; rfl
      | some j =>
        have hj := (lastIndexByte_eq_some h2).2.2
        simp only [List.length_take] at hj
        simp only [goSlice_from srcPath (j + 1) (by omega), ite_some_some, Option.bind_some]; rfl
  · rw [if_neg hs, if_neg hs]
    rfl

end PP.TrS

#print axioms PP.TrS.tie_Call_init
