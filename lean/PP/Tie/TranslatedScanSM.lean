import PP.TranslatedScanSM
import PP.Lemmas.ScanInv
/-
Agreement theorems for group ScanSM (tie A of DESIGN.md): the scanner state
machine `(*scanningState).scan` of stack/context.go and its helpers `parseFunc`,
`parseFile`, translated from the Go source on every run
(`PP/TranslatedScanSM.lean`, by `extract/translate_scansm.go`) and proved equal to
the hand-written model `PP/Model/Scan.lean` (`scanBytes` = `scan ∘ classify`,
`parseFunc`, `parseFile`) that the scanner theorems (C01, C02, C03, C07, C08, C10)
are about.

`tie_scan` holds for EVERY state `s : S` and every line — no representation
invariant is needed: where the Go code panics (nil `cur`, index out of range,
`panic("internal failure…")`) the translated term is `none` and the model yields
`Except.error` (`liftR`); `scan_safe` (PP/Props/C03.lean) shows separately
that none of this happens on states reachable from the initial one.

What is trusted (see `PP/Go/PreludeScanSM.lean` and the header of
`extract/translate_scansm.go`): the hand matchers for the regular expressions,
`parseUint0`, `splitOn`, and the data abstraction (slices as lists, nil = empty;
a slice of distinct pointers as the list of the pointees; `state` as `St`).
Called as model functions here and tied in their own groups: `funcInit`
(= `(*Func).Init` on a zero receiver; group Func, `TrF.tie_Func_Init_zero`),
`parseArgs` (group Args, `TrAr.tie_parseArgs`), `Call.init`, `atou`,
`trimLeftSpace`, `isFramesElidedLine` (group Scan, `TrS.tie_*`).
-/
set_option linter.unusedSimpArgs false
set_option linter.unusedVariables false
namespace PP.TrSM
open PP PP.Go Bytes

/-- the error formats of the Go source and the tags of the model's `Err` the translator maps them to
(`"="`: `"%s on line: %q"` wraps an error and keeps its tag).  Breaks when an error message of
`scan` / `parseFunc` / `parseFile` is added, removed or reworded. -/
theorem pin_errorSites : errorSites = [
    ("%s on line: %q", "="),
    ("expected a file after a created line, got: %q", "fileAfterCreated"),
    ("expected a file after a function, got: %q", "fileAfterFunc"),
    ("expected a file after a race function, got: %q", "raceFile"),
    ("expected a function after a goroutine header, got: %q", "funcAfterHeader"),
    ("expected a function after a race operation or a race file, got: %q", "raceFuncOrFile"),
    ("expected a function after a race operation, got: %q", "raceFunc"),
    ("expected an empty line after a race file, got: %q", "raceEmptyAfterFile"),
    ("expected an operator or goroutine, got: %q", "raceOpOrGoroutine"),
    ("expected empty line after unavailable stack, got: %q", "emptyAfterUnavail"),
    ("expected race condition, got: %q", "raceExpected"),
    ("failed to parse address on line: %q", "raceAddr"),
    ("failed to parse goroutine id on line: %q", "raceId"),
    ("failed to parse int on line: %q", "fileInt"),
    ("inconsistent indentation: %q, expected %q", "indent"),
    ("internal error", "internal"),
    ("unexpected goroutine ID on line: %q", "raceUnknownGoroutine")] := rfl

/-- the model's result as the translated `scan` returns it: the receiver afterwards,
the processed flag and the error tag; a Go panic (`none`) for `Except.error` -/
def liftR : R → Option (S × (Bool × Option Err))
  | .ok (s, b, e) => some (s, (b, e))
  | .error _ => none

/-- the model's `parseFunc` as the translated function returns it: the Call (zero on entry) afterwards,
`found`, the error -/
def parseFuncResult (line : Bytes) : Call × (Bool × Option Err) :=
  match PP.parseFunc line with
  | none => ({}, (false, none))
  | some (c, e) => (c, (true, e))

/-- the model's `parseFile` as the translated function returns it -/
def parseFileResult (c : Call) (line : Bytes) : Call × (Bool × Option Err) :=
  match PP.parseFile line with
  | none => (c, (false, none))
  | some none => (c, (true, some .fileInt))
  | some (some pl) => (c.init pl.1 pl.2, (true, none))

def modelEnv : Env where
  parseFunc line := some (parseFuncResult line)
  parseFile c line := some (parseFileResult c line)
  scan s line := liftR (scanBytes s line)

@[simp] theorem mE_parseFunc (line : Bytes) : modelEnv.parseFunc line = some (parseFuncResult line) := rfl
@[simp] theorem mE_parseFile (c : Call) (line : Bytes) : modelEnv.parseFile c line = some (parseFileResult c line) := rfl
-- unfolding `modelEnv` first: `rfl` alone starts by unfolding `scanBytes` and `scan`
@[simp] theorem mE_scan (s : S) (line : Bytes) : modelEnv.scan s line = liftR (scanBytes s line) := by
  unfold modelEnv; rfl

/-! ### parseFunc, parseFile -/

theorem funcInitZ_ok {n : Bytes} {f : Func} (h : funcInit n = .ok f) : funcInitZ n = (f, none) := by
  simp [funcInitZ, h]
theorem funcInitZ_error {n : Bytes} {e : FErr} (h : funcInit n = .error e) :
    funcInitZ n = ({}, some (Err.ofFErr e)) := by
  simp [funcInitZ, h]
theorem goParseArgs_ok {b : Bytes} {a : Args} (h : PP.parseArgs b = .ok a) : goParseArgs b = (a, none) := by
  simp [goParseArgs, h]
theorem goParseArgs_error {b : Bytes} {e : ArgErr} (h : PP.parseArgs b = .error e) :
    goParseArgs b = ({}, some (Err.ofArgErr e)) := by
  simp [goParseArgs, h]
theorem goAtou_some {b : Bytes} {n : Nat} (h : atou b = some n) : goAtou b = (n, true) := by
  simp [goAtou, h]
theorem goAtou_none {b : Bytes} (h : atou b = none) : goAtou b = (0, false) := by
  simp [goAtou, h]

theorem tie_parseFunc (line : Bytes) : TrSM.parseFunc modelEnv line = modelEnv.parseFunc line := by
  match hm : matchFunc line with
  | none => simp [TrSM.parseFunc, parseFuncResult, PP.parseFunc, reFuncSubmatch, hm]
  | some (name, args) =>
    match hf : funcInit name with
    | .error e => simp [TrSM.parseFunc, parseFuncResult, PP.parseFunc, reFuncSubmatch, hm, hf, funcInitZ_error hf]
    | .ok f =>
      match ha : PP.parseArgs args with
      | .error e =>
        simp [TrSM.parseFunc, parseFuncResult, PP.parseFunc, reFuncSubmatch, hm, hf, ha, funcInitZ_ok hf, goParseArgs_error ha]
      | .ok a =>
        simp [TrSM.parseFunc, parseFuncResult, PP.parseFunc, reFuncSubmatch, hm, hf, ha, funcInitZ_ok hf, goParseArgs_ok ha]

theorem tie_parseFile (c : Call) (line : Bytes) : TrSM.parseFile modelEnv c line = modelEnv.parseFile c line := by
  match hm : matchFile line with
  | none => simp [TrSM.parseFile, parseFileResult, PP.parseFile, reFileSubmatch, hm]
  | some m =>
    match ha : atou m.line with
    | none => simp [TrSM.parseFile, parseFileResult, PP.parseFile, reFileSubmatch, hm, ha, goAtou_none ha]
    | some n => simp [TrSM.parseFile, parseFileResult, PP.parseFile, reFileSubmatch, hm, ha, goAtou_some ha]


/-! ### scan: the switch, state by state (`scan_join2` is the `switch s.state` of the Go function) -/

/-- the record `classify` builds from the stripped line -/
def lineOf (t : Bytes) (eol ind : Bool) : Line :=
  { hasEOL := eol, indentOK := ind, empty := t.isEmpty,
    header := parseHeader t,
    sep := t == Extracted.raceHeaderFooter,
    warn := t == Extracted.raceHeader,
    unavail := matchUnavail t,
    func := PP.parseFunc t,
    funcL := PP.parseFunc (PP.trimLeftSpace t),
    file := PP.parseFile t,
    created := (matchCreated t).map (fun n => match funcInit n with | .ok f => .ok f | .error e => .error (Err.ofFErr e)),
    elidedMark := PP.isFramesElidedLine t,
    raceOp := parseRaceOp (matchRaceOp t) Extracted.writeCap,
    racePrev := parseRaceOp (matchRacePrev t) Extracted.writeLow,
    raceGor := (matchRaceGoroutine t).map (fun (d, st) => (atou d, st)) }

@[simp] theorem liftR_ok (s : S) (b : Bool) (e : Option Err) : liftR (.ok (s, b, e)) = some (s, (b, e)) := rfl
@[simp] theorem liftR_error (p : Panic) : liftR (.error p) = none := rfl

@[simp] theorem liftR_ite (c : Prop) [Decidable c] (a b : R) :
    liftR (if c then a else b) = if c then liftR a else liftR b := by
  split <;> rfl

@[simp] theorem ptrLast_nil {α : Type} : ptrLast ([] : List α) = 0 := rfl
@[simp] theorem ptrLast_snoc {α : Type} (init : List α) (g : α) : ptrLast (init ++ [g]) = init.length := by
  simp [ptrLast]
@[simp] theorem get_snoc {α : Type} (init : List α) (g : α) : (init ++ [g])[init.length]? = some g := by
  simp
@[simp] theorem set_snoc {α : Type} (init : List α) (g g' : α) : (init ++ [g]).set init.length g' = init ++ [g'] := by
  simp
@[simp] theorem modifyLast_nil (f : Goroutine → Goroutine) : modifyLast [] f = none := rfl
@[simp] theorem initLast_nil (pl : Bytes × Nat) : initLast [] pl = none := rfl
attribute [local simp] modifyLast_snoc initLast_snoc

@[simp] theorem goSub_succ_one (n : Nat) : goSub (n + 1) 1 = some n := by simp [goSub]
@[simp] theorem goSub_zero_one : goSub 0 1 = none := by simp [goSub]
theorem list_cases {α : Type} (l : List α) : l = [] ∨ ∃ init x, l = init ++ [x] := by
  rcases List.eq_nil_or_concat l with h | ⟨init, g, h⟩
  · exact Or.inl h
  · exact Or.inr ⟨init, g, by simpa using h⟩

/-! ### reading a translated branch from its head

`simp` normalises a continuation before it looks at what is bound to it, so in a chain of binds over
`s.gs[cur]?` every continuation is visited once per bind above it.  The lemmas below resolve a bind from its head; used as `↓` (pre)
rules they let `simp only` run down a branch once.  The `sw_<state>` of the states with a long branch
start by selecting the branch of the switch (`simp only [scan_join2, ↓reduceIte, beq_iff_eq, reduceCtorEq]`
decides the tests `s.st == St.X` and nothing else) and rewrite the model side with the equation of
that state; the short branches are left to `simp`. -/

theorem bind_last_nil {α β : Type} (f : α → Option β) :
    (([] : List α)[ptrLast ([] : List α)]?).bind f = none := rfl
theorem bind_last_snoc {α β : Type} (init : List α) (g g0 : α) (f : α → Option β) :
    ((init ++ [g])[ptrLast (init ++ [g0])]?).bind f = f g := by simp
theorem set_last_snoc {α : Type} (init : List α) (g g0 g' : α) :
    (init ++ [g]).set (ptrLast (init ++ [g0])) g' = init ++ [g'] := by simp
theorem bind_goSub_snoc {α β : Type} (cs : List α) (c : α) (f : Nat → Option β) :
    (goSub (len (cs ++ [c])) 1).bind f = f cs.length := by simp [len]
theorem bind_goSub_nil {α β : Type} (f : Nat → Option β) :
    (goSub (len ([] : List α)) 1).bind f = none := by simp [len]
theorem bind_get_snoc {α β : Type} (cs : List α) (c : α) (f : α → Option β) :
    ((cs ++ [c])[cs.length]?).bind f = f c := by simp
theorem bind_parseFile {β : Type} (c : Call) (t : Bytes) (f : _ → Option β) :
    (modelEnv.parseFile c t).bind f = f (parseFileResult c t) := rfl
theorem bind_parseFunc {β : Type} (t : Bytes) (f : _ → Option β) :
    (modelEnv.parseFunc t).bind f = f (parseFuncResult t) := rfl
theorem bind_head_nil {α β : Type} (f : α → Option β) : (([] : List α)[0]?).bind f = none := rfl
theorem bind_head_cons {α β : Type} (c : α) (cs : List α) (f : α → Option β) :
    ((c :: cs)[0]?).bind f = f c := rfl
theorem parseFuncResult_none {l : Bytes} (h : PP.parseFunc l = none) : parseFuncResult l = ({}, false, none) := by
  rw [parseFuncResult, h]
theorem parseFuncResult_some {l : Bytes} {c : Call} {e : Option Err} (h : PP.parseFunc l = some (c, e)) :
    parseFuncResult l = (c, true, e) := by
  rw [parseFuncResult, h]
theorem bind_getElem {α β : Type} {l : List α} {i : Nat} (h : i < l.length) (f : α → Option β) :
    (l[i]?).bind f = f l[i] := by rw [List.getElem?_eq_getElem h]; rfl
theorem bind_getElem_none {α β : Type} {l : List α} {i : Nat} (h : ¬ i < l.length) (f : α → Option β) :
    (l[i]?).bind f = none := by rw [List.getElem?_eq_none (by omega)]; rfl

/-- the translated `if found { cur.Stack.Calls = append(cur.Stack.Calls, c); s.state = next; … } else …`
is the model's `funcStep` -/
theorem funcBlock (gs : List Goroutine) (gi : Nat) (pfx l : Bytes) (st next : St)
    (orElse : Option (S × Bool × Option Err)) (orElseM : R) (h : orElse = liftR orElseM) :
    (if (parseFuncResult l).2.1 = true then
      gs[ptrLast gs]?.bind fun t1 => gs[ptrLast gs]?.bind fun t2 =>
        some (⟨next, gs.set (ptrLast gs)
            (setStack t2 fun s => { s with calls := t1.sig.stack.calls ++ [(parseFuncResult l).1] }), gi, pfx⟩,
          (parseFuncResult l).2.2.isNone, (parseFuncResult l).2.2)
     else orElse) = liftR (funcStep ⟨st, gs, gi, pfx⟩ (PP.parseFunc l) next orElseM) := by
  rcases hr : PP.parseFunc l with _ | ⟨c, e⟩
  · rw [parseFuncResult_none hr]; exact h
  · rw [parseFuncResult_some hr]
    rcases list_cases gs with rfl | ⟨init, g, rfl⟩
    · rw [funcStep_nil rfl]; rfl
    · rw [funcStep_snoc rfl]
      simp only [↓reduceIte, ↓bind_last_snoc, ↓set_last_snoc]
      rfl

/-- the translated file-line branch of `gotFunc` / `gotRaceOperationFunc` is `fileStep` -/
theorem fileBlock (gs : List Goroutine) (gi : Nat) (pfx t : Bytes) (eol : Bool) (st next : St) (orElse : Err) :
    (gs[ptrLast gs]?.bind fun t23 => gs[ptrLast gs]?.bind fun t24 =>
      (goSub (len t24.sig.stack.calls) 1).bind fun t25 => t23.sig.stack.calls[t25]?.bind fun t26 =>
      (modelEnv.parseFile t26 t).bind fun t27 =>
      gs[ptrLast gs]?.bind fun t28 => gs[ptrLast gs]?.bind fun t29 =>
      (goSub (len t29.sig.stack.calls) 1).bind fun t30 => t28.sig.stack.calls[t30]?.bind fun _ =>
        let gs' := gs.set (ptrLast gs) (setStack t28 fun s => { s with calls := s.calls.set t30 t27.1 })
        if t27.2.2.isSome = true then some ((⟨st, gs', gi, pfx⟩ : S), false, t27.2.2)
        else if (!t27.2.1) = true then some (⟨st, gs', gi, pfx⟩, false, some orElse)
        else some (⟨next, gs', gi, pfx⟩, true, none)) =
      liftR (fileStep ⟨st, gs, gi, pfx⟩ (lineOf t eol true) next orElse) := by
  rw [fileStep]
  rcases list_cases gs with rfl | ⟨init, g, rfl⟩
  · rw [bind_last_nil, needLastCall_nil rfl]; rfl
  · simp only [↓bind_last_snoc]
    rcases list_cases g.sig.stack.calls with h | ⟨cs, c, h⟩
    · rw [h, bind_goSub_nil, needLastCall_snoc rfl, h]; rfl
    · rw [h]
      simp only [↓bind_goSub_snoc, ↓bind_get_snoc, ↓bind_parseFile]
      simp [lineOf, needLastCall, parseFileResult, setStack, h]
      generalize PP.parseFile t = r
      -- on a line that is no file line the Go code writes the last call back unchanged
      rcases r with _ | _ | ⟨p, n⟩ <;> simp <;> rw [← h]

/-- the same for a frame of a creation stack (`gotRaceGoroutineHeader`, `gotRaceGoroutineFile`) and `raceFuncStep` -/
theorem raceFuncBlock (gs : List Goroutine) (gi : Nat) (pfx t : Bytes) (eol : Bool) (st : St) :
    (if (parseFuncResult (PP.trimLeftSpace t)).2.1 = true then
      gs[gi]?.bind fun t1 => gs[gi]?.bind fun t2 =>
        some (⟨.gotRaceGoroutineFunc, gs.set gi
            (setCreated t2 fun s => { s with calls := t1.sig.createdBy.calls ++ [(parseFuncResult (PP.trimLeftSpace t)).1] }),
            gi, pfx⟩,
          (parseFuncResult (PP.trimLeftSpace t)).2.2.isNone, (parseFuncResult (PP.trimLeftSpace t)).2.2)
     else some (⟨st, gs, gi, pfx⟩, false, some Err.raceFuncOrFile)) =
      liftR (raceFuncStep ⟨st, gs, gi, pfx⟩ (lineOf t eol true)) := by
  rw [raceFuncStep]
  dsimp only [lineOf]
  rcases hr : PP.parseFunc (PP.trimLeftSpace t) with _ | ⟨c, e⟩
  · rw [parseFuncResult_none hr]; rfl
  · rw [parseFuncResult_some hr]
    dsimp only
    by_cases h : gi < gs.length
    · rw [modifyAt_lt _ _ _ h]
      simp only [↓reduceIte, ↓bind_getElem h]
      rfl
    · rw [modifyAt, dif_neg h, bind_getElem_none h]; rfl

theorem sw_gotRoutineHeader (gs : List Goroutine) (gi : Nat) (pfx line t : Bytes) (eol : Bool) :
    scan_join2 modelEnv ⟨.gotRoutineHeader, gs, gi, pfx⟩ line (ptrLast gs) t =
      liftR (PP.scan ⟨.gotRoutineHeader, gs, gi, pfx⟩ (lineOf t eol true)) := by
  simp only [scan_join2, ↓reduceIte, beq_iff_eq, reduceCtorEq]
  rw [scan_gotRoutineHeader rfl rfl]
  show _ = liftR (if matchUnavail t = true then _ else _)
  by_cases hu : matchUnavail t = true
  · rw [if_pos hu, if_pos hu]
    rcases list_cases gs with rfl | ⟨init, g, rfl⟩
    · rfl
    · rw [bind_last_snoc, set_last_snoc, modifyLast_snoc]; rfl
  · rw [if_neg hu, if_neg hu, bind_parseFunc]
    rcases list_cases gs with rfl | ⟨init, g, rfl⟩
    · show _ = liftR (match PP.parseFunc t with | some _ => _ | none => _)
      rcases hr : PP.parseFunc t with _ | ⟨c, e⟩
      · rw [parseFuncResult_none hr]; rfl
      · rw [parseFuncResult_some hr]; rfl
    · simp only [List.reverse_append, List.reverse_cons, List.reverse_nil, List.nil_append, List.cons_append]
      exact funcBlock _ gi pfx _ _ _ _ _ rfl

theorem sw_done (gs : List Goroutine) (gi : Nat) (pfx line t : Bytes) :
    scan_join2 modelEnv ⟨.done, gs, gi, pfx⟩ line (ptrLast gs) t =
      liftR (PP.scan ⟨.done, gs, gi, pfx⟩ (lineOf t true true)) := by
  simp [scan_join2, PP.scan, lineOf]

theorem sw_gotFileCreated (gs : List Goroutine) (gi : Nat) (pfx line t : Bytes) (eol : Bool) :
    scan_join2 modelEnv ⟨.gotFileCreated, gs, gi, pfx⟩ line (ptrLast gs) t =
      liftR (PP.scan ⟨.gotFileCreated, gs, gi, pfx⟩ (lineOf t eol true)) := by
  simp [scan_join2, PP.scan, lineOf]

theorem sw_gotRaceHeader1 (gs : List Goroutine) (gi : Nat) (pfx line t : Bytes) (eol : Bool) :
    scan_join2 modelEnv ⟨.gotRaceHeader1, gs, gi, pfx⟩ line (ptrLast gs) t =
      liftR (PP.scan ⟨.gotRaceHeader1, gs, gi, pfx⟩ (lineOf t eol true)) := by
  simp [scan_join2, PP.scan, lineOf]

theorem sw_gotFunc (gs : List Goroutine) (gi : Nat) (pfx line t : Bytes) (eol : Bool) :
    scan_join2 modelEnv ⟨.gotFunc, gs, gi, pfx⟩ line (ptrLast gs) t =
      liftR (PP.scan ⟨.gotFunc, gs, gi, pfx⟩ (lineOf t eol true)) := by
  simp only [scan_join2, ↓reduceIte, beq_iff_eq, reduceCtorEq]
  rw [scan_gotFunc rfl rfl]
  exact fileBlock gs gi pfx t eol _ _ _

theorem sw_gotRaceOperationFunc (gs : List Goroutine) (gi : Nat) (pfx line t : Bytes) (eol : Bool) :
    scan_join2 modelEnv ⟨.gotRaceOperationFunc, gs, gi, pfx⟩ line (ptrLast gs) t =
      liftR (PP.scan ⟨.gotRaceOperationFunc, gs, gi, pfx⟩ (lineOf t eol true)) := by
  simp only [scan_join2, ↓reduceIte, beq_iff_eq, reduceCtorEq]
  rw [scan_gotRaceOperationFunc rfl rfl]
  exact fileBlock gs gi pfx t eol _ _ _

theorem sw_gotCreated (gs : List Goroutine) (gi : Nat) (pfx line t : Bytes) (eol : Bool) :
    scan_join2 modelEnv ⟨.gotCreated, gs, gi, pfx⟩ line (ptrLast gs) t =
      liftR (PP.scan ⟨.gotCreated, gs, gi, pfx⟩ (lineOf t eol true)) := by
  simp only [scan_join2, ↓reduceIte, beq_iff_eq, reduceCtorEq]
  rw [scan_gotCreated rfl rfl]
  rcases list_cases gs with rfl | ⟨init, g, rfl⟩
  · rw [bind_last_nil, needCreated0_nil rfl]; rfl
  · simp only [↓bind_last_snoc]
    rcases h : g.sig.createdBy.calls with _ | ⟨c, cs⟩
    · rw [bind_head_nil, needCreated0_snoc rfl, h]; rfl
    · simp only [↓bind_head_cons, ↓bind_parseFile]
      simp [lineOf, needCreated0, parseFileResult, setCreated, h]
      generalize PP.parseFile t = r
      rcases r with _ | _ | ⟨p, n⟩ <;> simp <;> rw [← h]

theorem sw_gotRaceOperationHeader (gs : List Goroutine) (gi : Nat) (pfx line t : Bytes) (eol : Bool) :
    scan_join2 modelEnv ⟨.gotRaceOperationHeader, gs, gi, pfx⟩ line (ptrLast gs) t =
      liftR (PP.scan ⟨.gotRaceOperationHeader, gs, gi, pfx⟩ (lineOf t eol true)) := by
  simp only [scan_join2, ↓reduceIte, beq_iff_eq, reduceCtorEq]
  rw [scan_gotRaceOperationHeader rfl rfl, bind_parseFunc]
  exact funcBlock gs gi pfx _ _ _ _ _ rfl

theorem sw_gotRaceOperationFile (gs : List Goroutine) (gi : Nat) (pfx line t : Bytes) (eol : Bool) :
    scan_join2 modelEnv ⟨.gotRaceOperationFile, gs, gi, pfx⟩ line (ptrLast gs) t =
      liftR (PP.scan ⟨.gotRaceOperationFile, gs, gi, pfx⟩ (lineOf t eol true)) := by
  simp only [scan_join2, ↓reduceIte, beq_iff_eq, reduceCtorEq]
  rw [scan_gotRaceOperationFile rfl rfl]
  rcases t with _ | ⟨b, t⟩
  · rfl
  · rw [if_neg (by simp [len]), if_neg (show ¬ (lineOf (b :: t) eol true).empty = true by simp [lineOf]), bind_parseFunc]
    exact funcBlock gs gi pfx _ _ _ _ _ rfl


theorem sw_gotUnavail (gs : List Goroutine) (gi : Nat) (pfx line t : Bytes) (eol : Bool) :
    scan_join2 modelEnv ⟨.gotUnavail, gs, gi, pfx⟩ line (ptrLast gs) t =
      liftR (PP.scan ⟨.gotUnavail, gs, gi, pfx⟩ (lineOf t eol true)) := by
  simp only [scan_join2, ↓reduceIte, beq_iff_eq, reduceCtorEq]
  rw [scan_gotUnavail rfl rfl]
  rcases t with _ | ⟨b, t⟩
  · rfl
  · rw [if_neg (by simp [len]), if_neg (show ¬ (lineOf (b :: t) eol true).empty = true by simp [lineOf])]
    dsimp only [lineOf]
    rw [reCreatedSubmatch]
    rcases matchCreated (b :: t) with _ | n
    · rfl
    · simp only [Option.map_some, Option.isSome_some, ↓reduceIte, subm_some, ↓bind_head_cons]
      rcases list_cases gs with rfl | ⟨init, g, rfl⟩
      · rw [createdStep_nil rfl]; rfl
      · simp only [↓bind_last_snoc, ↓set_last_snoc]
        rw [show ([[], n] : List Bytes)[1]? = some n from rfl, Option.bind_some,
          show (List.replicate 1 ({} : Call))[0]? = some {} from rfl, Option.bind_some]
        rcases hf : funcInit n with e | f
        · rw [funcInitZ_error hf, createdStep_snoc_error rfl]; rfl
        · rw [funcInitZ_ok hf, createdStep_snoc_ok rfl]; rfl

theorem sw_gotFileFunc (gs : List Goroutine) (gi : Nat) (pfx line t : Bytes) (eol : Bool) :
    scan_join2 modelEnv ⟨.gotFileFunc, gs, gi, pfx⟩ line (ptrLast gs) t =
      liftR (PP.scan ⟨.gotFileFunc, gs, gi, pfx⟩ (lineOf t eol true)) := by
  simp only [scan_join2, ↓reduceIte, beq_iff_eq, reduceCtorEq]
  rw [scan_gotFileFunc rfl rfl]
  dsimp only [lineOf]
  rw [reCreatedSubmatch]
  rcases matchCreated t with _ | n
  · simp only [Option.map_none, Option.isSome_none, Bool.false_eq_true, ↓reduceIte]
    show _ = liftR (if isFramesElidedLine t = true then _ else _)
    by_cases hel : isFramesElidedLine t = true
    · rw [if_pos hel, if_pos hel]
      rcases list_cases gs with rfl | ⟨init, g, rfl⟩
      · rfl
      · rw [bind_last_snoc, set_last_snoc, modifyLast_snoc]; rfl
    · rw [if_neg hel, if_neg hel, bind_parseFunc]
      exact funcBlock gs gi pfx _ _ _ _ _ (by rcases t with _ | ⟨b, t⟩ <;> rfl)
  · simp only [Option.map_some, Option.isSome_some, ↓reduceIte, subm_some]
    rcases list_cases gs with rfl | ⟨init, g, rfl⟩
    · rw [createdStep_nil rfl]; rfl
    · simp only [↓bind_last_snoc, ↓set_last_snoc]
      rw [show ([[], n] : List Bytes)[1]? = some n from rfl, Option.bind_some,
        show (List.replicate 1 ({} : Call))[0]? = some {} from rfl, Option.bind_some]
      rcases hf : funcInit n with e | f
      · rw [funcInitZ_error hf, createdStep_snoc_error rfl]; rfl
      · rw [funcInitZ_ok hf, createdStep_snoc_ok rfl]
        rfl

theorem sw_gotRaceHeader2 (gs : List Goroutine) (gi : Nat) (pfx line t : Bytes) (eol : Bool) :
    scan_join2 modelEnv ⟨.gotRaceHeader2, gs, gi, pfx⟩ line (ptrLast gs) t =
      liftR (PP.scan ⟨.gotRaceHeader2, gs, gi, pfx⟩ (lineOf t eol true)) := by
  simp [scan_join2, PP.scan, lineOf, reRaceOperationHeaderSubmatch, parseRaceOp]
  generalize matchRaceOp t = m
  rcases m with _ | ⟨k, a, d⟩ <;> simp
  rcases parseUint0 a with _ | addr <;> simp
  rcases hd : atou d with _ | n <;> simp [goAtou, hd]

theorem sw_gotRaceGoroutineFunc (gs : List Goroutine) (gi : Nat) (pfx line t : Bytes) (eol : Bool) :
    scan_join2 modelEnv ⟨.gotRaceGoroutineFunc, gs, gi, pfx⟩ line (ptrLast gs) t =
      liftR (PP.scan ⟨.gotRaceGoroutineFunc, gs, gi, pfx⟩ (lineOf t eol true)) := by
  simp only [scan_join2, ↓reduceIte, beq_iff_eq, reduceCtorEq]
  rw [scan_gotRaceGoroutineFunc rfl rfl]
  dsimp only
  by_cases h : gi < gs.length
  · rw [dif_pos h]
    simp only [↓bind_getElem h]
    rcases list_cases gs[gi].sig.createdBy.calls with hc | ⟨cs, c, hc⟩
    · rw [hc, bind_goSub_nil]; rfl
    · rw [hc]
      simp only [↓bind_goSub_snoc, ↓bind_get_snoc, ↓bind_parseFile]
      simp [lineOf, parseFileResult, setCreated, hc]
      generalize PP.parseFile t = r
      -- on a line that is no file line the Go code writes the last call back unchanged
      rcases r with _ | _ | ⟨p, n⟩ <;> simp <;> (rw [← hc]; exact List.set_getElem_self h)
  · rw [dif_neg h, bind_getElem_none h]; rfl

theorem sw_gotRaceGoroutineHeader (gs : List Goroutine) (gi : Nat) (pfx line t : Bytes) (eol : Bool) :
    scan_join2 modelEnv ⟨.gotRaceGoroutineHeader, gs, gi, pfx⟩ line (ptrLast gs) t =
      liftR (PP.scan ⟨.gotRaceGoroutineHeader, gs, gi, pfx⟩ (lineOf t eol true)) := by
  simp only [scan_join2, ↓reduceIte, beq_iff_eq, reduceCtorEq]
  rw [scan_gotRaceGoroutineHeader rfl rfl, bind_parseFunc]
  exact raceFuncBlock gs gi pfx t eol _

theorem sw_gotRaceGoroutineFile (gs : List Goroutine) (gi : Nat) (pfx line t : Bytes) (eol : Bool) :
    scan_join2 modelEnv ⟨.gotRaceGoroutineFile, gs, gi, pfx⟩ line (ptrLast gs) t =
      liftR (PP.scan ⟨.gotRaceGoroutineFile, gs, gi, pfx⟩ (lineOf t eol true)) := by
  simp only [scan_join2, ↓reduceIte, beq_iff_eq, reduceCtorEq]
  rw [scan_gotRaceGoroutineFile rfl rfl]
  rcases t with _ | ⟨b, t⟩
  · rfl
  · rw [if_neg (by simp [len]), if_neg (show ¬ (lineOf (b :: t) eol true).empty = true by simp [lineOf])]
    show _ = liftR (if ((b :: t) == Extracted.raceHeaderFooter) = true then _ else _)
    by_cases hs : b :: t = Extracted.raceHeaderFooter
    · rw [if_pos hs, if_pos (beq_iff_eq.mpr hs)]; rfl
    · rw [if_neg hs, if_neg (fun h => hs (beq_iff_eq.mp h)), bind_parseFunc]
      exact raceFuncBlock gs gi pfx _ eol _

/-! ### the header loop -/

def stepH (acc : Nat × Bool) (it : Bytes) : Nat × Bool :=
  if it == Extracted.lockedToThread then (acc.1, true)
  else match matchMinutes it with
    | some d => ((atou d).getD 0, acc.2)
    | none => acc

theorem goAtou_fst (d : Bytes) : (goAtou d).1 = (atou d).getD 0 := by
  unfold goAtou; cases atou d <;> rfl

theorem loop1_body (E : Env) (s : S) (line : Bytes) (cur : Nat) (t : Bytes) (m : Option (List Bytes)) (id : Nat) (ok : Bool)
    (items : List Bytes) (k j : Nat) (st : Nat × Bool) (h : j < items.length) :
    scan_loop1 E s line cur t m id ok items k j st = some (.cont (stepH st items[j])) := by
  match hm : matchMinutes items[j] with
  | none => simp [scan_loop1, List.getElem?_eq_getElem h, stepH, reMinutesSubmatch, hm]; split <;> rfl
  | some d => simp [scan_loop1, List.getElem?_eq_getElem h, stepH, reMinutesSubmatch, hm, goAtou_fst]; split <;> rfl

theorem loop1_run (E : Env) (s : S) (line : Bytes) (cur : Nat) (t : Bytes) (m : Option (List Bytes)) (id : Nat) (ok : Bool)
    (items : List Bytes) : ∀ (n j k : Nat) (st : Nat × Bool), j + n ≤ items.length →
    forRange (scan_loop1 E s line cur t m id ok items) (List.range' j n) k st =
      some (.cont (((items.drop j).take n).foldl stepH st))
  | 0, j, k, st, _ => by simp
  | n + 1, j, k, st, h => by
    have hj : j < items.length := by omega
    rw [List.range'_succ, forRange_cons, loop1_body E s line cur t m id ok items k j st hj]
    simp only []
    rw [loop1_run E s line cur t m id ok items n (j + 1) (k + 1) _ (by omega), List.drop_eq_getElem_cons hj]
    simp only [List.take_succ_cons, List.foldl_cons]

theorem foldl_stepH (l : List Bytes) (a : Nat) (b : Bool) :
    l.foldl stepH (a, b) =
      (l.foldl (fun acc it =>
        if it == Extracted.lockedToThread then acc
        else match matchMinutes it with
          | some d => (atou d).getD 0
          | none => acc) a, b || l.any (· == Extracted.lockedToThread)) := by
  induction l generalizing a b with
  | nil => simp
  | cons x l ih =>
    simp only [List.foldl_cons, List.any_cons, stepH]
    split
    · rw [ih]; simp [*]
    · cases matchMinutes x <;> simp [ih, *]

theorem loop2_eq : @scan_loop2 = @scan_loop1 := rfl
theorem join4_eq : @scan_join4 = @scan_join3 := rfl
theorem loop4_eq : @scan_loop4 = @scan_loop3 := rfl

theorem splitOn_go_ne_nil (sep : Bytes) (fuel : Nat) : ∀ (s cur : Bytes), splitOn.go sep fuel s cur ≠ [] := by
  induction fuel with
  | zero => intro s cur; simp [splitOn.go]
  | succ f ih =>
    intro s cur
    cases s with
    | nil => simp [splitOn.go]
    | cons c t =>
      simp only [splitOn.go]
      split
      · simp
      · exact ih _ _

theorem splitOn_ne_nil (s sep : Bytes) : splitOn s sep ≠ [] := splitOn_go_ne_nil sep _ _ _

theorem splitOn_cons (s sep : Bytes) : ∃ x rest, splitOn s sep = x :: rest := by
  rcases hs : splitOn s sep with _ | ⟨x, rest⟩
  · exact absurd hs (splitOn_ne_nil _ _)
  · exact ⟨x, rest, rfl⟩

theorem header_loop (E : Env) (s : S) (line : Bytes) (cur : Nat) (t : Bytes) (m : Option (List Bytes)) (id : Nat) (ok : Bool)
    (x : Bytes) (rest : List Bytes) :
    forRange (scan_loop1 E s line cur t m id ok (x :: rest)) (List.range' 1 rest.length) 0 (0, false) =
      some (.cont (rest.foldl (fun acc it =>
        if it == Extracted.lockedToThread then acc
        else match matchMinutes it with
          | some d => (atou d).getD 0
          | none => acc) 0, rest.any (· == Extracted.lockedToThread))) := by
  rw [loop1_run E s line cur t m id ok (x :: rest) _ 1 0 (0, false) (by simp; omega)]
  simp [foldl_stepH]

@[simp] theorem len_beq_zero {α : Type} (l : List α) : (len l == 0) = l.isEmpty := by
  cases l <;> simp [len]

theorem sw_looking (gs : List Goroutine) (gi : Nat) (pfx line t : Bytes) :
    scan_join2 modelEnv ⟨.looking, gs, gi, pfx⟩ line (ptrLast gs) t =
      liftR (PP.scan ⟨.looking, gs, gi, pfx⟩ (lineOf t true true)) := by
  simp only [scan_join2, ↓reduceIte, beq_iff_eq, reduceCtorEq]
  rw [scan_looking rfl rfl rfl]
  dsimp only [lineOf]
  rw [reRoutineHeaderSubmatch, parseHeader]
  rcases matchHeader t with _ | m
  · simp [scan_join3]
  · simp only [Option.map_some, Option.isSome_some, ↓reduceIte, subm_some]
    rw [show ([[], m.indent, m.id, m.status] : List Bytes)[2]? = some m.id from rfl, Option.bind_some]
    rcases hid : atou m.id with _ | id
    · rw [goAtou_none hid]; simp [scan_join3]
    · rw [goAtou_some hid]
      dsimp only
      rw [show ([[], m.indent, m.id, m.status] : List Bytes)[3]? = some m.status from rfl, Option.bind_some]
      obtain ⟨x, rest, hit⟩ := splitOn_cons m.status Extracted.commaSpace
      rw [hit, if_pos rfl]
      show after (forRange (scan_loop1 _ _ _ _ _ _ _ _ (x :: rest)) (List.range' 1 rest.length) 0 (0, false)) _ = _
      rw [header_loop, len_beq_zero]
      rfl

theorem sw_betweenRoutine (gs : List Goroutine) (gi : Nat) (pfx line t : Bytes) (eol : Bool) :
    scan_join2 modelEnv ⟨.betweenRoutine, gs, gi, pfx⟩ line (ptrLast gs) t =
      liftR (PP.scan ⟨.betweenRoutine, gs, gi, pfx⟩ (lineOf t eol true)) := by
  simp only [scan_join2, ↓reduceIte, beq_iff_eq, reduceCtorEq]
  rw [scan_betweenRoutine rfl rfl]
  dsimp only [lineOf]
  rw [reRoutineHeaderSubmatch, parseHeader]
  rcases matchHeader t with _ | m
  · simp [join4_eq, scan_join3]
  · simp only [Option.map_some, Option.isSome_some, ↓reduceIte, subm_some]
    rw [show ([[], m.indent, m.id, m.status] : List Bytes)[2]? = some m.id from rfl, Option.bind_some]
    rcases hid : atou m.id with _ | id
    · rw [goAtou_none hid]; simp [join4_eq, scan_join3]
    · rw [goAtou_some hid]
      dsimp only
      rw [show ([[], m.indent, m.id, m.status] : List Bytes)[3]? = some m.status from rfl, Option.bind_some]
      obtain ⟨x, rest, hit⟩ := splitOn_cons m.status Extracted.commaSpace
      rw [hit]
      rw [if_pos rfl, loop2_eq]
      show after (forRange (scan_loop1 _ _ _ _ _ _ _ _ (x :: rest)) (List.range' 1 rest.length) 0 (0, false)) _ = _
      rw [header_loop, len_beq_zero]
      rfl

/-! ### the goroutine lookup loop -/

def updState (stt : Bytes) (g : Goroutine) : Goroutine := { g with sig := { g.sig with state := stt } }

theorem loop3_run (E : Env) (line : Bytes) (cur : Nat) (t d stt : Bytes) (id : Nat) (ok : Bool)
    (st0 : St) (gs : List Goroutine) (gi : Nat) (pfx : Bytes) :
    ∀ (l pre : List Goroutine), gs = pre ++ l →
    forRangeB (scan_loop3 E line cur t (some [[], d, stt]) id ok) l pre.length ((⟨st0, gs, gi, pfx⟩ : S), false) =
      some (.cont (match l.findIdx? (fun g => g.id == id) with
        | some i => (match modifyAt gs (pre.length + i) (updState stt) with
            | some gs' => ((⟨st0, gs', pre.length + i, pfx⟩ : S), true)
            | none => ((⟨st0, gs, gi, pfx⟩ : S), false))
        | none => ((⟨st0, gs, gi, pfx⟩ : S), false)))
  | [], pre, _ => by simp
  | x :: l, pre, h => by
    have hx : gs[pre.length]? = some x := by simp [h]
    have hlt : pre.length < gs.length := by simp [h]
    have hxx : gs[pre.length] = x := by simp [h]
    rw [forRangeB_cons]
    by_cases hp : x.id = id
    · simp [scan_loop3, hx, hp, List.findIdx?_cons, modifyAt, hlt, hxx, updState]
    · have ih := loop3_run E line cur t d stt id ok st0 gs gi pfx l (pre ++ [x]) (by simp [h])
      simp only [List.length_append, List.length_singleton] at ih
      simp [scan_loop3, hx, hp, List.findIdx?_cons, ih]
      cases l.findIdx? (fun g => g.id == id) <;> simp [Nat.add_assoc, Nat.add_comm 1]

theorem find_loop (E : Env) (line : Bytes) (cur : Nat) (t d stt : Bytes) (id : Nat) (ok : Bool)
    (st0 : St) (gs : List Goroutine) (gi : Nat) (pfx : Bytes) :
    forRangeB (scan_loop3 E line cur t (some [[], d, stt]) id ok) gs 0 ((⟨st0, gs, gi, pfx⟩ : S), false) =
      some (.cont (match gs.findIdx? (fun g => g.id == id) with
        | some i => (match modifyAt gs i (updState stt) with
            | some gs' => ((⟨st0, gs', i, pfx⟩ : S), true)
            | none => ((⟨st0, gs, gi, pfx⟩ : S), false))
        | none => ((⟨st0, gs, gi, pfx⟩ : S), false))) := by
  have := loop3_run E line cur t d stt id ok st0 gs gi pfx gs [] rfl
  simpa using this

theorem sw_betweenRaceGoroutines (gs : List Goroutine) (gi : Nat) (pfx line t : Bytes) (eol : Bool) :
    scan_join2 modelEnv ⟨.betweenRaceGoroutines, gs, gi, pfx⟩ line (ptrLast gs) t =
      liftR (PP.scan ⟨.betweenRaceGoroutines, gs, gi, pfx⟩ (lineOf t eol true)) := by
  simp only [scan_join2, ↓reduceIte, beq_iff_eq, reduceCtorEq]
  rw [scan_betweenRaceGoroutines rfl rfl, raceGorStep]
  dsimp only [lineOf]
  rw [reRaceGoroutineSubmatch]
  rcases matchRaceGoroutine t with _ | ⟨d, stt⟩
  · rfl
  · simp only [Option.map_some, Option.isSome_some, ↓reduceIte, subm_some]
    rw [show ([[], d, stt] : List Bytes)[1]? = some d from rfl, Option.bind_some]
    rcases hd : atou d with _ | id
    · rw [goAtou_none hd]; rfl
    · rw [goAtou_some hd]
      dsimp only
      rw [loop4_eq, find_loop]
      generalize hf : List.findIdx? _ gs = r
      rcases r with _ | i
      · rfl
      · have hi := PP.findIdx?_lt hf
        dsimp only
        rw [modifyAt_lt _ _ _ hi, modifyAt_lt _ _ _ hi]
        rfl

theorem sw_betweenRaceOperations (gs : List Goroutine) (gi : Nat) (pfx line t : Bytes) (eol : Bool) :
    scan_join2 modelEnv ⟨.betweenRaceOperations, gs, gi, pfx⟩ line (ptrLast gs) t =
      liftR (PP.scan ⟨.betweenRaceOperations, gs, gi, pfx⟩ (lineOf t eol true)) := by
  simp only [scan_join2, ↓reduceIte, beq_iff_eq, reduceCtorEq]
  rw [scan_betweenRaceOperations rfl rfl]
  dsimp only [lineOf]
  rw [reRacePreviousOperationHeaderSubmatch, parseRaceOp.eq_def]
  rcases matchRacePrev t with _ | ⟨k, a, d⟩
  · simp only [Option.map_none, Option.isSome_none, Bool.false_eq_true, ↓reduceIte]
    rw [raceGorStep]
    dsimp only [lineOf]
    rw [reRaceGoroutineSubmatch]
    rcases matchRaceGoroutine t with _ | ⟨d, stt⟩
    · rfl
    · simp only [Option.map_some, Option.isSome_some, ↓reduceIte, subm_some]
      rw [show ([[], d, stt] : List Bytes)[1]? = some d from rfl, Option.bind_some]
      rcases hd : atou d with _ | id
      · rw [goAtou_none hd]; rfl
      · rw [goAtou_some hd]
        dsimp only
        rw [find_loop]
        generalize hf : List.findIdx? _ gs = r
        rcases r with _ | i
        · rfl
        · have hi := PP.findIdx?_lt hf
          dsimp only
          rw [modifyAt_lt _ _ _ hi, modifyAt_lt _ _ _ hi]
          rfl
  · simp only [Option.map_some, Option.isSome_some, ↓reduceIte, subm_some]
    rw [show ([[], k, a, d] : List Bytes)[1]? = some k from rfl, show ([[], k, a, d] : List Bytes)[2]? = some a from rfl,
      show ([[], k, a, d] : List Bytes)[3]? = some d from rfl]
    simp only [Option.bind_some]
    rcases parseUint0 a with _ | addr
    · rfl
    · dsimp only
      rcases hd : atou d with _ | n
      · rw [goAtou_none hd]; rfl
      · rw [goAtou_some hd]
        simp only [len, List.length_append, List.length_singleton, Nat.add_sub_cancel]
        rfl

/-! ### the whole function -/

theorem tie_join2 (s : S) (line t : Bytes) (eol : Bool) (h : eol = true ∨ (s.st ≠ .looking ∧ s.st ≠ .done)) :
    scan_join2 modelEnv s line (ptrLast s.gs) t = liftR (PP.scan s (lineOf t eol true)) := by
  obtain ⟨st, gs, gi, pfx⟩ := s
  cases st
  case looking =>
    have : eol = true := by rcases h with h | h; exact h; exact absurd rfl h.1
    subst this; exact sw_looking gs gi pfx line t
  case done =>
    have : eol = true := by rcases h with h | h; exact h; exact absurd rfl h.2
    subst this; exact sw_done gs gi pfx line t
  case betweenRoutine => exact sw_betweenRoutine gs gi pfx line t eol
  case gotRoutineHeader => exact sw_gotRoutineHeader gs gi pfx line t eol
  case gotFunc => exact sw_gotFunc gs gi pfx line t eol
  case gotCreated => exact sw_gotCreated gs gi pfx line t eol
  case gotFileFunc => exact sw_gotFileFunc gs gi pfx line t eol
  case gotFileCreated => exact sw_gotFileCreated gs gi pfx line t eol
  case gotUnavail => exact sw_gotUnavail gs gi pfx line t eol
  case gotRaceHeader1 => exact sw_gotRaceHeader1 gs gi pfx line t eol
  case gotRaceHeader2 => exact sw_gotRaceHeader2 gs gi pfx line t eol
  case gotRaceOperationHeader => exact sw_gotRaceOperationHeader gs gi pfx line t eol
  case gotRaceOperationFunc => exact sw_gotRaceOperationFunc gs gi pfx line t eol
  case gotRaceOperationFile => exact sw_gotRaceOperationFile gs gi pfx line t eol
  case betweenRaceOperations => exact sw_betweenRaceOperations gs gi pfx line t eol
  case gotRaceGoroutineHeader => exact sw_gotRaceGoroutineHeader gs gi pfx line t eol
  case gotRaceGoroutineFunc => exact sw_gotRaceGoroutineFunc gs gi pfx line t eol
  case gotRaceGoroutineFile => exact sw_gotRaceGoroutineFile gs gi pfx line t eol
  case betweenRaceGoroutines => exact sw_betweenRaceGoroutines gs gi pfx line t eol

/-- the indentation step of `classify` -/
def indentOf (pfx tr : Bytes) : Bool × Bytes :=
  if tr.length != 0 && pfx.length != 0 then
    if hasPrefix tr pfx then (true, tr.drop pfx.length) else (false, tr)
  else (true, tr)

theorem classify_eq (pfx raw : Bytes) :
    classify pfx raw = lineOf (indentOf pfx (stripEOL raw).1).2 (stripEOL raw).2 (indentOf pfx (stripEOL raw).1).1 := by
  -- unfolding `classify` first, as for `mE_scan`
  unfold classify; rfl

theorem hasPrefix_length : ∀ (s p : Bytes), hasPrefix s p = true → p.length ≤ s.length
  | _, [], _ => by simp
  | [], _ :: _, h => by simp [hasPrefix] at h
  | a :: as, p :: ps, h => by
    simp [hasPrefix] at h
    have := hasPrefix_length as ps h.2
    simp; omega

theorem firstCond (s : S) (eol : Bool) (h : eol = true ∨ (s.st ≠ .looking ∧ s.st ≠ .done)) :
    (!eol && (s.st == .looking || s.st == .done)) = false := by
  rcases h with h | ⟨h1, h2⟩
  · simp [h]
  · simp [h1, h2]

theorem tie_join1 (s : S) (line tr : Bytes) (eol : Bool) (h : eol = true ∨ (s.st ≠ .looking ∧ s.st ≠ .done)) :
    scan_join1 modelEnv s line (ptrLast s.gs) tr =
      liftR (PP.scan s (lineOf (indentOf s.pfx tr).2 eol (indentOf s.pfx tr).1)) := by
  unfold scan_join1 indentOf
  by_cases hc : (tr.length != 0 && s.pfx.length != 0) = true
  · by_cases hp : hasPrefix tr s.pfx = true
    · have hl := hasPrefix_length _ _ hp
      simp only [len, hc, hp, if_true, Bool.not_true, Bool.false_eq_true, if_false]
      rw [show goSlice tr s.pfx.length tr.length = some (tr.drop s.pfx.length) by simp [goSlice, hl]]
      exact tie_join2 s line _ eol h
    · have hf := firstCond s eol h
      simp only [len, hc, hp, if_true, if_false, Bool.not_false]
      simp [PP.scan, lineOf, hf]
  · simp only [len, hc, if_false]
    exact tie_join2 s line _ eol h

theorem hasSuffix_length {s suf : Bytes} (h : hasSuffix s suf = true) : suf.length ≤ s.length := by
  simp [hasSuffix] at h; exact h.1

theorem tie_scan (s : S) (line : Bytes) : TrSM.scan modelEnv s line = modelEnv.scan s line := by
  simp only [mE_scan, scanBytes, classify_eq]
  unfold TrSM.scan stripEOL
  by_cases h1 : hasSuffix line Extracted.crlf = true
  · have hl : 2 ≤ line.length := hasSuffix_length h1
    simp only [h1, if_true, len]
    rw [show goSub line.length 2 = some (line.length - 2) by simp [goSub, hl]]
    simp only [Option.bind_some]
    rw [show goSlice line 0 (line.length - 2) = some (line.take (line.length - 2)) by simp [goSlice]]
    exact tie_join1 s line _ true (Or.inl rfl)
  · by_cases h2 : hasSuffix line Extracted.lf = true
    · have hl : 1 ≤ line.length := hasSuffix_length h2
      simp only [h1, h2, if_true, if_false, len]
      rw [show goSub line.length 1 = some (line.length - 1) by simp [goSub, hl]]
      simp only [Option.bind_some]
      rw [show goSlice line 0 (line.length - 1) = some (line.take (line.length - 1)) by simp [goSlice]]
      exact tie_join1 s line _ true (Or.inl rfl)
    · simp only [h1, h2, if_false]
      by_cases h3 : (s.st == St.looking || s.st == St.done) = true
      · simp [h3, PP.scan, lineOf]
      · simp only [h3, if_false]
        refine tie_join1 s line _ false (Or.inr ?_)
        simp at h3
        exact h3

/-! ### non-vacuity: the translated function computes (with the model as callee) -/

example : (TrSM.scan modelEnv {} b!"goroutine 1 [running]:\n").map (fun r => (r.1.st, r.1.gs.length, r.2.1)) =
    some (.gotRoutineHeader, 1, true) := by decide

example : (TrSM.scan modelEnv { st := .gotRoutineHeader, gs := [{}] } b!"main.main()\n").map
    (fun r => (r.1.st, r.1.gs.map (·.sig.stack.calls.length), r.2)) = some (.gotFunc, [1], true, none) := by decide

/-- a nil dereference of `cur` is a panic -/
example : TrSM.scan modelEnv { st := .gotFunc } b!"\t/a/b.go:1\n" = none := by decide

example : (TrSM.scan modelEnv { st := .gotRaceHeader2 } b!"bad\n").map (·.2) = some (false, some .raceExpected) := by decide

#print axioms PP.TrSM.pin_errorSites
#print axioms PP.TrSM.tie_parseFunc
#print axioms PP.TrSM.tie_parseFile
#print axioms PP.TrSM.tie_scan

end PP.TrSM
