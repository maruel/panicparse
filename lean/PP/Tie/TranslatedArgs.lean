import PP.TranslatedArgs
/-
Agreement theorems for group Args (tie A of DESIGN.md): `parseArgs` (stack/context.go),
translated from the Go source on every run (`PP/TranslatedArgs.lean`, by extract/translate_args.go) and proved equal to the
hand-written model `PP.parseArgs` (`PP/Model/Args.lean`) the theorems of C01, C03 and C15 are about.

The model keeps a zipper (`List Frame`, innermost open aggregate first); the Go code mutates the
root `args` in place through a stack of pointers (here: paths).  `enc` encodes a model state as
the Go state `(args, stack, depth)`; `Sim` is the simulation every level of the proof states: run on the
encoding of a well-formed model state (`WF`: between one and six open aggregates, the size of the Go array),
the translated code falls through with the encoding of the model's next state, again well-formed, or
returns the model's error.
-/
namespace PP.TrAr
open PP PP.Go PP.Go.Ar

mutual
/-- the model's `Arg` as the Go struct -/
def embArg : Arg → GArg
  | .scalar n v p o i => { name := n, value := v, isPtr := p, isOffsetTooLarge := o, isInaccurate := i }
  | .agg fs e => { isAggregate := true, fields := { values := embArgL fs, elided := e } }
def embArgL : List Arg → List GArg
  | [] => []
  | a :: as => embArg a :: embArgL as
end

def embArgs (a : Args) : GArgs := { values := embArgL a.values, processed := a.processed, elided := a.elided }

/-- a model result as the Go result pair `(Args, error)`; on an error Go returns `Args{}` -/
def liftR : Except ArgErr Args → Option (GArgs × Option ArgErr)
  | .ok a => some (embArgs a, none)
  | .error e => some ({}, some e)

def trimResult (r : Nat × Bytes × Nat) : Int × Bytes × Int := (Int.ofNat r.1, r.2.1, Int.ofNat r.2.2)

def modelEnv : Env where
  trimCurlyBrackets s := some (trimResult (PP.trimCurlyBrackets s))   -- tied in group Func: TrF.tie_trimCurlyBrackets
  parseArgs line := liftR (PP.parseArgs line)

@[simp] theorem mE_trimCurlyBrackets (s : Bytes) :
    modelEnv.trimCurlyBrackets s = some (trimResult (PP.trimCurlyBrackets s)) := rfl
@[simp] theorem mE_parseArgs (line : Bytes) : modelEnv.parseArgs line = liftR (PP.parseArgs line) := rfl

theorem embArgL_cons (a : Arg) (as : List Arg) : embArgL (a :: as) = embArg a :: embArgL as := by
  rw [embArgL]

theorem embArgL_nil : embArgL [] = [] := by rw [embArgL]

theorem embArgL_append (a b : List Arg) : embArgL (a ++ b) = embArgL a ++ embArgL b := by
  induction a with
  | nil => rw [embArgL_nil]; rfl
  | cons x xs ih => rw [List.cons_append, embArgL_cons, embArgL_cons, ih, List.cons_append]

theorem embArgL_length (a : List Arg) : (embArgL a).length = a.length := by
  induction a with
  | nil => rw [embArgL_nil]; rfl
  | cons x xs ih => rw [embArgL_cons, List.length_cons, List.length_cons, ih]

/-! ### the encoding of a model state as a Go state -/

def gOf (f : Frame) : GArgs := { values := embArgL f.1, elided := f.2 }
def aggOf (g : GArgs) : GArg := { isAggregate := true, fields := g }

theorem embArg_agg (vs : List Arg) (e : Bool) : embArg (.agg vs e) = aggOf (gOf (vs, e)) := by
  rw [embArg]; rfl

/-- plug the innermost Args `g` into its parents `t` (innermost parent first) -/
def gplug (g : GArgs) : List Frame → GArgs
  | [] => g
  | (pvs, pe) :: t => gplug { values := embArgL pvs ++ [aggOf g], elided := pe } t

/-- path from the root to the innermost open Args -/
def pathOf : List Frame → List Nat
  | [] => []
  | (pvs, _) :: t => pathOf t ++ [pvs.length]

/-- the pointer stack `[6]*Args`: entries `0..depth` point along the path, the others are nil -/
def mkStack (p : List Nat) : List Ptr :=
  (List.range 6).map fun j => if j ≤ p.length then some (p.take j) else none

def enc : List Frame → GArgs × List Ptr × Int
  | [] => ({}, [], 0)
  | top :: t => (gplug (gOf top) t, mkStack (pathOf t), Int.ofNat t.length)

theorem pathOf_length (t : List Frame) : (pathOf t).length = t.length := by
  induction t with
  | nil => rfl
  | cons f t ih =>
    obtain ⟨pvs, pe⟩ := f
    rw [pathOf, List.length_append, ih]; rfl

theorem modArgs_append (root : GArgs) (p q : List Nat) (f : GArgs → Option GArgs) :
    modArgs root (p ++ q) f = modArgs root p (fun a => modArgs a q f) := by
  induction p generalizing root with
  | nil => rfl
  | cons i p ih =>
    rw [List.cons_append, modArgs, modArgs]
    cases root.values[i]? with
    | none => rfl
    | some a => simp only []; rw [ih]

theorem getArgs_append (root : GArgs) (p q : List Nat) :
    getArgs root (p ++ q) = (getArgs root p).bind (fun a => getArgs a q) := by
  induction p generalizing root with
  | nil => rfl
  | cons i p ih =>
    rw [List.cons_append, getArgs, getArgs]
    cases root.values[i]? with
    | none => rfl
    | some a => simp only []; rw [ih]

theorem set_snoc {α : Type} (l : List α) (a b : α) : (l ++ [a]).set l.length b = l ++ [b] := by
  rw [List.set_append_right _ _ (Nat.le_refl _), Nat.sub_self]; rfl

theorem modArgs_snoc (l : List GArg) (g : GArgs) (pr : List Bytes) (pe : Bool) (f : GArgs → Option GArgs) :
    modArgs { values := l ++ [aggOf g], processed := pr, elided := pe } [l.length] f =
      match f g with
      | none => none
      | some g' => some { values := l ++ [aggOf g'], processed := pr, elided := pe } := by
  rw [modArgs]
  simp only [List.getElem?_concat_length, modArgs]
  have hg : (aggOf g).fields = g := rfl
  rw [hg]
  cases f g with
  | none => rfl
  | some g' =>
    simp only [set_snoc]
    rfl

theorem getArgs_snoc (l : List GArg) (g : GArgs) (pr : List Bytes) (pe : Bool) :
    getArgs { values := l ++ [aggOf g], processed := pr, elided := pe } [l.length] = some g := by
  rw [getArgs]
  simp only [List.getElem?_concat_length, getArgs]
  rfl

theorem modArgs_gplug (g : GArgs) (t : List Frame) (f : GArgs → Option GArgs) :
    modArgs (gplug g t) (pathOf t) f =
      match f g with
      | none => none
      | some g' => some (gplug g' t) := by
  induction t generalizing g f with
  | nil =>
    show f g = _
    cases f g <;> rfl
  | cons fr t ih =>
    obtain ⟨pvs, pe⟩ := fr
    rw [gplug, pathOf, modArgs_append, ih, ← embArgL_length pvs, modArgs_snoc]
    cases f g <;> rfl

theorem getArgs_gplug (g : GArgs) (t : List Frame) : getArgs (gplug g t) (pathOf t) = some g := by
  induction t generalizing g with
  | nil => rfl
  | cons fr t ih =>
    obtain ⟨pvs, pe⟩ := fr
    rw [gplug, pathOf, getArgs_append, ih, Option.bind_some, ← embArgL_length pvs, getArgs_snoc]

/-- closing an aggregate does not change the plugged value -/
theorem gplug_close (vs pvs : List Arg) (e pe : Bool) (t : List Frame) :
    gplug (gOf (vs, e)) ((pvs, pe) :: t) = gplug (gOf (pvs ++ [Arg.agg vs e], pe)) t := by
  rw [gplug, gOf, gOf, embArgL_append, embArgL_cons, embArgL_nil, embArg_agg]; rfl

theorem mkStack_length (p : List Nat) : (mkStack p).length = 6 := by
  unfold mkStack; rw [List.length_map, List.length_range]

theorem mkStack_getElem? (p : List Nat) (j : Nat) :
    (mkStack p)[j]? = if j < 6 then some (if j ≤ p.length then some (p.take j) else none) else none := by
  unfold mkStack
  rw [List.getElem?_map]
  by_cases h : j < 6
  · rw [List.getElem?_range h, if_pos h]; rfl
  · rw [if_neg h, List.getElem?_eq_none (by rw [List.length_range]; omega)]; rfl

/-- `n` is `p.length`, kept as a variable: in an encoded state the depth is written as the length of the model's
stack (`pathOf_length`) -/
theorem arrGet_mkStack (p : List Nat) (n : Nat) (hn : p.length = n) (h : n ≤ 5) :
    arrGet (mkStack p) (Int.ofNat n) = some (some p) := by
  subst hn
  unfold arrGet
  have h0 : (0 : Int) ≤ Int.ofNat p.length := Int.natCast_nonneg _
  rw [if_pos h0]
  show (mkStack p)[p.length]? = _
  rw [mkStack_getElem?, if_pos (by omega), if_pos (Nat.le_refl _), List.take_length]

theorem live_ok (p : List Nat) :
    ((mkStack p).map Ptr.depth ++ [Ptr.depth (some p)]).all (fun d => decide (d ≤ p.length)) = true := by
  rw [List.all_eq_true]
  intro d hd
  apply decide_eq_true
  rcases List.mem_append.mp hd with hd | hd
  · obtain ⟨q, hq, rfl⟩ := List.mem_map.mp hd
    obtain ⟨j, _, rfl⟩ := List.mem_map.mp hq
    split
    · exact List.length_take_le' _ _
    · exact Nat.zero_le _
  · rw [List.mem_singleton.mp hd]
    exact Nat.le_refl _

theorem arrSet_ofNat {α : Type} (a : List α) (n : Nat) (v : α) (h : n < a.length) :
    arrSet a (Int.ofNat n) v = some (a.set n v) := by
  unfold arrSet
  have : (0 : Int) ≤ Int.ofNat n ∧ (Int.ofNat n).toNat < a.length := ⟨Int.natCast_nonneg _, h⟩
  rw [if_pos this]; rfl

theorem mkStack_push (p : List Nat) (x n : Nat) (hn : p.length = n) (h : n + 1 < 6) :
    (mkStack p).set (n + 1) (some (p ++ [x])) = mkStack (p ++ [x]) := by
  subst hn
  apply List.ext_getElem?
  intro j
  rw [List.getElem?_set, mkStack_getElem?, mkStack_getElem?, mkStack_length, List.length_append,
    List.length_singleton]
  by_cases h1 : p.length + 1 = j
  · subst h1
    rw [if_pos rfl, if_pos h, if_pos h, if_pos (Nat.le_refl _)]
    rw [← List.length_singleton (a := x), ← List.length_append, List.take_length]
  · rw [if_neg h1]
    by_cases h2 : j < 6
    · rw [if_pos h2, if_pos h2]
      by_cases h3 : j ≤ p.length
      · rw [if_pos h3, if_pos (by omega), List.take_append_of_le_length h3]
      · rw [if_neg h3, if_neg (by omega)]
    · rw [if_neg h2, if_neg h2]

theorem mkStack_pop (p : List Nat) (x n : Nat) (hn : p.length = n) (h : n + 1 < 6) :
    (mkStack (p ++ [x])).set (n + 1) none = mkStack p := by
  subst hn
  have hk : p.length + 1 < (mkStack p).length := by rw [mkStack_length]; exact h
  have hn : (mkStack p)[p.length + 1] = none := by
    have := mkStack_getElem? p (p.length + 1)
    rw [List.getElem?_eq_getElem hk, if_pos h, if_neg (Nat.not_succ_le_self _)] at this
    exact Option.some.inj this
  rw [← mkStack_push p x _ rfl h, List.set_set]
  conv => lhs; rw [← hn]
  exact List.set_getElem_self hk

/-! ### the pointer operations on an encoded state -/

theorem ptrAppendValues_gplug (g : GArgs) (t : List Frame) (x : GArg) :
    ptrAppendValues (gplug g t) ((mkStack (pathOf t)).map Ptr.depth ++ [Ptr.depth (some (pathOf t))])
      (some (pathOf t)) x = some (gplug { g with values := g.values ++ [x] } t) := by
  unfold ptrAppendValues
  simp only []
  rw [if_pos (live_ok _), modArgs_gplug]

theorem ptrModArgs_gplug (g : GArgs) (t : List Frame) (f : GArgs → GArgs) :
    ptrModArgs (gplug g t) (some (pathOf t)) f = some (gplug (f g) t) := by
  unfold ptrModArgs
  simp only []
  rw [modArgs_gplug]

theorem ptrLenValues_gplug (g : GArgs) (t : List Frame) :
    ptrLenValues (gplug g t) (some (pathOf t)) = some (ilen g.values) := by
  unfold ptrLenValues
  simp only []
  rw [getArgs_gplug]; rfl

theorem ptrAddrValuesIdx_gplug (g : GArgs) (t : List Frame) (n : Nat) (h : n < g.values.length) :
    ptrAddrValuesIdx (gplug g t) (some (pathOf t)) (Int.ofNat n) = some (some (pathOf t, n)) := by
  unfold ptrAddrValuesIdx
  simp only []
  rw [getArgs_gplug]
  have : (0 : Int) ≤ Int.ofNat n ∧ (Int.ofNat n).toNat < g.values.length := ⟨Int.natCast_nonneg _, h⟩
  simp only []
  rw [if_pos this]; rfl

theorem pargMod_gplug (g : GArgs) (t : List Frame) (i : Nat) (f : GArg → GArg) :
    pargMod (gplug g t) (some (pathOf t, i)) f =
      match g.values[i]? with
      | none => none
      | some x => some (gplug { g with values := g.values.set i (f x) } t) := by
  unfold pargMod
  simp only []
  rw [modArgs_gplug]
  cases g.values[i]? <;> rfl

theorem forCount_zero {σ ρ : Type} (body : Int → σ → Option (Step σ ρ)) (st : σ) :
    forCount body (Int.ofNat 0) st = some (.cont st) := rfl

theorem forCount_succ {σ ρ : Type} (body : Int → σ → Option (Step σ ρ))
    (hb : ∀ i st, body i st = body 0 st) (n : Nat) (st : σ) :
    forCount body (Int.ofNat (n + 1)) st =
      match body 0 st with
      | none => none
      | some (.ret r) => some (.ret r)
      | some (.cont st') => forCount body (Int.ofNat n) st' := by
  have h : (fun j (_ : Unit) s => body (Int.ofNat (j + 1)) s) = fun i _ s => body (Int.ofNat i) s := by
    funext j _ s; rw [hb, hb (Int.ofNat j)]
  unfold forCount
  show forRange _ (() :: List.replicate n ()) 0 st = _
  rw [forRange_cons]
  simp only [forRange_shift, h]
  rfl

theorem enc_cons (top : Frame) (t : List Frame) :
    enc (top :: t) = (gplug (gOf top) t, mkStack (pathOf t), Int.ofNat t.length) := rfl

/-! ### `for i := 0; i < opened; i++` (`parseArgs_loop2`): one more open aggregate per round -/

theorem open_args (g : GArgs) (t : List Frame) :
    pargMod (gplug { g with values := g.values ++ [{}] } t) (some (pathOf t, g.values.length))
      (fun x => { x with isAggregate := true }) =
      some (gplug { g with values := g.values ++ [aggOf {}] } t) := by
  rw [pargMod_gplug]
  simp only [List.getElem?_concat_length, set_snoc]
  rfl

theorem arrSet_push_enc (t : List Frame) (k : Nat) (h : t.length + 1 < 6) :
    arrSet (mkStack (pathOf t)) (Int.ofNat t.length + 1) (some (pathOf t ++ [k])) =
      some (mkStack (pathOf t ++ [k])) := by
  show arrSet _ (Int.ofNat (t.length + 1)) _ = _
  rw [arrSet_ofNat _ _ _ (by rw [mkStack_length]; omega), mkStack_push _ _ _ (pathOf_length t) h]

theorem gOf_nil : gOf ([], false) = {} := by
  unfold gOf; simp only [embArgL_nil]

theorem ilen_snoc_sub {α : Type} (l : List α) (x : α) : ilen (l ++ [x]) - (1 : Int) = Int.ofNat l.length := by
  simp only [ilen, List.length_append, List.length_singleton, Int.ofNat_eq_natCast]; omega

theorem loop2_step (line s : Bytes) (o : Int) (a : Bytes) (c i : Int) (top : Frame) (t : List Frame)
    (h : t.length + 1 ≤ 6) :
    parseArgs_loop2 modelEnv line s o a c i (enc (top :: t)) =
      if t.length + 1 ≥ 6 then some (.ret ({}, some ArgErr.depth))
      else some (.cont (enc (([], false) :: top :: t))) := by
  obtain ⟨vs, e⟩ := top
  unfold parseArgs_loop2
  rw [enc_cons]
  simp only []
  rw [arrGet_mkStack _ _ (pathOf_length t) (Nat.le_of_succ_le_succ h), Option.bind_some, ptrAppendValues_gplug, Option.bind_some,
    ptrLenValues_gplug, Option.bind_some]
  simp only []
  rw [ilen_snoc_sub, ptrAddrValuesIdx_gplug _ _ _ (List.length_append ▸ Nat.lt_succ_self _),
    Option.bind_some, open_args, Option.bind_some]
  by_cases hd : t.length + 1 ≥ 6
  · rw [if_pos hd, if_pos (by apply decide_eq_true; simp only [Int.ofNat_eq_natCast]; omega)]
  · rw [if_neg hd, if_neg (by simp only [decide_eq_true_eq, Int.ofNat_eq_natCast]; omega)]
    simp only [pargAddrFields, Option.bind_some]
    rw [arrSet_push_enc t _ (Nat.lt_of_not_le hd), Option.bind_some, enc_cons, gplug, gOf_nil]
    have hv : (gOf (vs, e)).values.length = vs.length := embArgL_length vs
    rw [hv]
    rfl

theorem openN_zero (st : List Frame) : argItem.openN 0 st = .ok st := by rw [argItem.openN]

theorem openN_succ (n : Nat) (st : List Frame) :
    argItem.openN (n + 1) st =
      if st.length ≥ 6 then .error .depth else argItem.openN n (([], false) :: st) := by
  rw [argItem.openN]; rfl

/-- the model's stack of open aggregates is never empty and never deeper than the array `[6]*Args` -/
def WF (st : List Frame) : Prop := 0 < st.length ∧ st.length ≤ 6

/-- the translated code, run on the encoding of a model state, does what the model does: falls through with the
encoding of the model's next state (which is again well-formed), or returns the model's error -/
def Sim (x : Option (Step (GArgs × List Ptr × Int) (GArgs × Option ArgErr))) : Except ArgErr (List Frame) → Prop
  | .ok st' => x = some (.cont (enc st')) ∧ WF st'
  | .error e => x = some (.ret ({}, some e))

theorem open_loop (line s : Bytes) (o : Int) (a : Bytes) (c : Int) (n : Nat) (st : List Frame) (h : WF st) :
    Sim (forCount (parseArgs_loop2 modelEnv line s o a c) (Int.ofNat n) (enc st)) (argItem.openN n st) := by
  induction n generalizing st with
  | zero => rw [openN_zero]; exact ⟨rfl, h⟩
  | succ n ih =>
    rw [forCount_succ _ (fun _ _ => rfl), openN_succ]
    cases st with
    | nil => exact absurd h.1 (Nat.lt_irrefl _)
    | cons top t =>
      rw [loop2_step _ _ _ _ _ _ _ _ h.2, List.length_cons]
      by_cases hd : t.length + 1 ≥ 6
      · rw [if_pos hd, if_pos hd]; exact rfl
      · rw [if_neg hd, if_neg hd]
        exact ih (([], false) :: top :: t) ⟨Nat.succ_pos _, Nat.succ_le_of_lt (Nat.lt_of_not_le hd)⟩

/-! ### `for i := 0; i < closed; i++` (`parseArgs_loop3`): pops the pointer stack, leaves `args` alone -/

theorem closeN_zero (st : List Frame) : argItem.closeN 0 st = .ok st := by rw [argItem.closeN]

theorem closeN_succ2 (n : Nat) (vs pvs : List Arg) (e pe : Bool) (t : List Frame) :
    argItem.closeN (n + 1) ((vs, e) :: (pvs, pe) :: t) =
      argItem.closeN n ((pvs ++ [Arg.agg vs e], pe) :: t) := by
  rw [argItem.closeN]

theorem closeN_succ1 (n : Nat) (top : Frame) : argItem.closeN (n + 1) [top] = .error .close := by
  rw [argItem.closeN]
  intro _ _ _ _ _ h; cases h

theorem loop3_step2 (line : Bytes) (g : GArgs) (s : Bytes) (o : Int) (a : Bytes) (c i : Int)
    (pvs : List Arg) (pe : Bool) (t : List Frame) (h : t.length + 1 < 6) :
    parseArgs_loop3 modelEnv line g s o a c i (mkStack (pathOf ((pvs, pe) :: t)), Int.ofNat (t.length + 1)) =
      some (.cont (mkStack (pathOf t), Int.ofNat t.length)) := by
  unfold parseArgs_loop3
  simp only []
  have hsub : Int.ofNat (t.length + 1) - 1 = Int.ofNat t.length := Int.add_sub_cancel (t.length : Int) 1
  rw [arrSet_ofNat _ _ _ (by rw [mkStack_length]; exact h), Option.bind_some, pathOf,
    mkStack_pop _ _ _ (pathOf_length t) h, hsub, if_neg (by simp only [decide_eq_true_eq, Int.ofNat_eq_natCast]; omega)]

theorem loop3_step1 (line : Bytes) (g : GArgs) (s : Bytes) (o : Int) (a : Bytes) (c i : Int) :
    parseArgs_loop3 modelEnv line g s o a c i (mkStack (pathOf []), Int.ofNat 0) =
      some (.ret ({}, some ArgErr.close)) := rfl

/-- the closing loop works on the pointer stack only; the root it leaves alone is the encoding of the model's
state: closing an aggregate does not change the plugged value (`gplug_close`) -/
theorem close_loop (line : Bytes) (g : GArgs) (s : Bytes) (o : Int) (a : Bytes) (c : Int) (n : Nat)
    (top : Frame) (t : List Frame) (h2 : t.length + 1 ≤ 6) :
    match argItem.closeN n (top :: t) with
    | .ok st' =>
      forCount (parseArgs_loop3 modelEnv line g s o a c) (Int.ofNat n) (mkStack (pathOf t), Int.ofNat t.length)
        = some (.cont (enc st').2) ∧ WF st' ∧ (enc st').1 = gplug (gOf top) t
    | .error e =>
      forCount (parseArgs_loop3 modelEnv line g s o a c) (Int.ofNat n) (mkStack (pathOf t), Int.ofNat t.length)
        = some (.ret ({}, some e)) := by
  induction n generalizing top t with
  | zero => rw [closeN_zero]; exact ⟨rfl, ⟨Nat.succ_pos _, h2⟩, rfl⟩
  | succ n ih =>
    rw [forCount_succ _ (fun _ _ => rfl)]
    obtain ⟨vs, e⟩ := top
    cases t with
    | nil => rw [closeN_succ1]; exact rfl
    | cons p t =>
      obtain ⟨pvs, pe⟩ := p
      have h2' : t.length + 1 < 6 := h2
      rw [closeN_succ2, List.length_cons, loop3_step2 _ _ _ _ _ _ _ _ _ _ h2', gplug_close]
      exact ih _ t (Nat.le_of_lt h2')

/-! ### the body of the loop over the items (`parseArgs_loop1`) is the model's `argItem` -/

/-- the value part of `argItem` -/
def midM (a : Bytes) (st : List Frame) : Except ArgErr (List Frame) :=
  if a.length > 0 then
    if a == Extracted.threeDots then
      match st with
      | (vs, _) :: t => .ok ((vs, true) :: t)
      | [] => .ok st
    else if a == Extracted.underscore then .ok (pushVal (.scalar [] 0 false true false) st)
    else
      let inacc := Bytes.hasSuffix a Extracted.inaccurateQuestionMark
      let a' := if inacc then a.take (a.length - Extracted.inaccurateQuestionMark.length) else a
      match parseUint0 a' with
      | none => .error .int
      | some v => .ok (pushVal (.scalar [] v (isPtrValue v) false inacc) st)
  else .ok st

theorem argItem_eq (st : List Frame) (item : Bytes) :
    argItem st item =
      match argItem.openN (PP.trimCurlyBrackets item).1 st with
      | .error e => .error e
      | .ok st =>
        match midM (PP.trimCurlyBrackets item).2.1 st with
        | .error e => .error e
        | .ok st => argItem.closeN (PP.trimCurlyBrackets item).2.2 st := by
  unfold argItem
  -- with the triple taken apart first the two sides agree by unfolding alone; left whole, `rfl` has to push
  -- the projections through the `match` on it
  rcases PP.trimCurlyBrackets item with ⟨o, a, c⟩
  rfl

theorem tail_tie (line : Bytes) (s : Bytes) (o : Int) (a : Bytes) (n : Nat)
    (top' : Frame) (t : List Frame) (h2 : t.length + 1 ≤ 6)
    (K : List Ptr × Int → Option (Step (GArgs × List Ptr × Int) (GArgs × Option ArgErr)))
    (hK : ∀ stk d, K (stk, d) = some (.cont (gplug (gOf top') t, stk, d))) :
    Sim (seqS (forCount (parseArgs_loop3 modelEnv line (gplug (gOf top') t) s o a (Int.ofNat n)) (Int.ofNat n)
        (mkStack (pathOf t), Int.ofNat t.length)) K) (argItem.closeN n (top' :: t)) := by
  have hC := close_loop line (gplug (gOf top') t) s o a (Int.ofNat n) n top' t h2
  cases hc : argItem.closeN n (top' :: t) with
  | error e => rw [hc] at hC; rw [hC]; exact rfl
  | ok st' =>
    rw [hc] at hC
    obtain ⟨h1, hW, h3⟩ := hC
    rw [h1]
    refine ⟨?_, hW⟩
    show K ((enc st').2.1, (enc st').2.2) = _
    rw [hK, ← h3]

theorem ilen_pos {α : Type} (a : List α) : decide (ilen a > (0 : Int)) = decide (a.length > 0) :=
  decide_eq_decide.mpr Int.natCast_pos

theorem gOf_push (vs : List Arg) (e : Bool) (x : Arg) :
    ({ gOf (vs, e) with values := (gOf (vs, e)).values ++ [embArg x] } : GArgs) = gOf (vs ++ [x], e) := by
  unfold gOf
  simp only [embArgL_append, embArgL_cons, embArgL_nil]

theorem embArg_scalar (v : Nat) (p o i : Bool) :
    embArg (.scalar [] v p o i) = { value := v, isPtr := p, isOffsetTooLarge := o, isInaccurate := i } := by
  rw [embArg]

theorem sliceTo_suffix (a suf : Bytes) (h : Bytes.hasSuffix a suf = true) :
    sliceTo a (ilen a - ilen suf) = some (a.take (a.length - suf.length)) := by
  unfold Bytes.hasSuffix at h
  rw [Bool.and_eq_true, decide_eq_true_eq] at h
  show sliceTo a ((a.length : Int) - (suf.length : Int)) = _
  rw [← Int.ofNat_sub h.1]
  unfold sliceTo
  rw [if_pos ⟨Int.natCast_nonneg _, Nat.sub_le _ _⟩]
  rfl

theorem midM_empty (a : Bytes) (st : List Frame) (ha : ¬ a.length > 0) : midM a st = .ok st := by
  unfold midM; rw [if_neg ha]

theorem midM_dots (a : Bytes) (vs : List Arg) (e : Bool) (t : List Frame) (ha : a.length > 0)
    (h3 : (a == Extracted.threeDots) = true) : midM a ((vs, e) :: t) = .ok ((vs, true) :: t) := by
  unfold midM; rw [if_pos ha, if_pos h3]

theorem midM_us (a : Bytes) (vs : List Arg) (e : Bool) (t : List Frame) (ha : a.length > 0)
    (h3 : (a == Extracted.threeDots) = false) (hu : (a == Extracted.underscore) = true) :
    midM a ((vs, e) :: t) = .ok ((vs ++ [.scalar [] 0 false true false], e) :: t) := by
  unfold midM; rw [if_pos ha, if_neg (by rw [h3]; exact Bool.false_ne_true), if_pos hu]; rfl

theorem midM_val (a : Bytes) (vs : List Arg) (e : Bool) (t : List Frame) (ha : a.length > 0)
    (h3 : (a == Extracted.threeDots) = false) (hu : (a == Extracted.underscore) = false) :
    midM a ((vs, e) :: t) =
      match parseUint0 (if Bytes.hasSuffix a Extracted.inaccurateQuestionMark then
          a.take (a.length - Extracted.inaccurateQuestionMark.length) else a) with
      | none => .error .int
      | some v => .ok ((vs ++ [.scalar [] v (isPtrValue v) false
          (Bytes.hasSuffix a Extracted.inaccurateQuestionMark)], e) :: t) := by
  unfold midM
  rw [if_pos ha, if_neg (by rw [h3]; exact Bool.false_ne_true), if_neg (by rw [hu]; exact Bool.false_ne_true)]
  rfl

theorem slice_step {τ ρ : Type} (a : Bytes) (K : Bytes → Option (Step τ ρ)) :
    seqS (if Bytes.hasSuffix a Extracted.inaccurateQuestionMark = true then
        (sliceTo a (ilen a - ilen Extracted.inaccurateQuestionMark)).bind fun a => some (Step.cont a)
      else some (Step.cont a)) K =
    K (if Bytes.hasSuffix a Extracted.inaccurateQuestionMark then
        a.take (a.length - Extracted.inaccurateQuestionMark.length) else a) := by
  cases hI : Bytes.hasSuffix a Extracted.inaccurateQuestionMark with
  | true => rw [if_pos rfl, if_pos rfl, sliceTo_suffix a _ hI]; rfl
  | false => rw [if_neg Bool.false_ne_true, if_neg Bool.false_ne_true]; rfl

theorem loop1_tie (line : Bytes) (i : Nat) (s : Bytes) (st : List Frame) (h : WF st) :
    Sim (parseArgs_loop1 modelEnv line i s (enc st)) (argItem st s) := by
  rw [argItem_eq]
  unfold parseArgs_loop1
  rw [mE_trimCurlyBrackets]
  generalize PP.trimCurlyBrackets s = r
  obtain ⟨o, a, c⟩ := r
  simp only [trimResult, Option.bind_some]
  have hO := open_loop line s (Int.ofNat o) a (Int.ofNat c) o st h
  cases hO' : argItem.openN o st with
  | error e => rw [hO'] at hO; rw [hO]; exact rfl
  | ok st1 =>
    rw [hO'] at hO
    obtain ⟨hO, i1, i2⟩ := hO
    rw [hO]
    cases st1 with
    | nil => exact absurd i1 (Nat.lt_irrefl _)
    | cons top1 t1 =>
    obtain ⟨vs, e⟩ := top1
    simp only [seqS_cont, enc_cons]
    rw [ilen_pos]
    have h2' : t1.length + 1 ≤ 6 := i2
    have hlen : t1.length ≤ 5 := Nat.le_of_succ_le_succ i2
    by_cases ha : a.length > 0
    · rw [if_pos (decide_eq_true ha), arrGet_mkStack _ _ (pathOf_length t1) hlen, Option.bind_some]
      cases h3 : (a == Extracted.threeDots) with
      | true =>
        rw [if_pos rfl, ptrModArgs_gplug, Option.bind_some]
        simp only [seqS_cont]
        rw [midM_dots a vs e t1 ha h3]
        exact tail_tie line s _ a c (vs, true) t1 h2' _ (fun _ _ => rfl)
      | false =>
        rw [if_neg Bool.false_ne_true]
        cases hu : (a == Extracted.underscore) with
        | true =>
          rw [if_pos rfl, ptrAppendValues_gplug, Option.bind_some]
          simp only [seqS_cont]
          rw [midM_us a vs e t1 ha h3 hu, ← embArg_scalar 0 false true false, gOf_push]
          exact tail_tie line s _ a c _ t1 h2' _ (fun _ _ => rfl)
        | false =>
          rw [if_neg Bool.false_ne_true, slice_step, midM_val a vs e t1 ha h3 hu]
          generalize (if Bytes.hasSuffix a Extracted.inaccurateQuestionMark then
            a.take (a.length - Extracted.inaccurateQuestionMark.length) else a) = a'
          cases hp : parseUint0 a' with
          | none => exact rfl
          | some v =>
            simp only []
            rw [ptrAppendValues_gplug, Option.bind_some]
            simp only [seqS_cont]
            rw [← embArg_scalar v _ false _, gOf_push]
            exact tail_tie line s _ a' c _ t1 h2' _ (fun _ _ => rfl)
    · rw [midM_empty a _ ha, if_neg (by rw [decide_eq_false ha]; exact Bool.false_ne_true)]
      simp only [seqS_cont]
      exact tail_tie line s _ a c (vs, e) t1 h2' _ (fun _ _ => rfl)

theorem go_nil (st : List Frame) : parseArgs.go [] st = .ok st := by rw [parseArgs.go]

theorem go_cons (it : Bytes) (rest : List Bytes) (st : List Frame) :
    parseArgs.go (it :: rest) st =
      match argItem st it with
      | .error e => .error e
      | .ok st => parseArgs.go rest st := by
  rw [parseArgs.go]
  cases argItem st it <;> rfl

theorem outer_tie (line : Bytes) (items : List Bytes) (i : Nat) (st : List Frame) (h : WF st) :
    Sim (forRange (parseArgs_loop1 modelEnv line) items i (enc st)) (parseArgs.go items st) := by
  induction items generalizing i st with
  | nil => rw [go_nil]; exact ⟨rfl, h⟩
  | cons it rest ih =>
    have h1 := loop1_tie line i it st h
    rw [forRange_cons, go_cons]
    cases hA : argItem st it with
    | error e => rw [hA] at h1; rw [h1]; exact rfl
    | ok st1 =>
      rw [hA] at h1
      rw [h1.1]
      exact ih (i + 1) st1 h1.2

theorem tie_parseArgs (line : Bytes) : TrAr.parseArgs modelEnv line = modelEnv.parseArgs line := by
  unfold TrAr.parseArgs
  have h0 : arrSet (List.replicate 6 (none : Ptr)) (0 : Int) ptrRoot = some (mkStack []) := rfl
  simp only [h0, Option.bind_some]
  have he : ((({} : GArgs), mkStack [], (0 : Int)) : GArgs × List Ptr × Int) = enc [([], false)] := by
    rw [enc_cons, gplug, gOf_nil]; rfl
  have hG := outer_tie line (Bytes.splitOn line Extracted.commaSpace) 0 [([], false)] ⟨by decide, by decide⟩
  rw [he, mE_parseArgs]
  unfold PP.parseArgs
  simp only []
  cases hg : parseArgs.go (Bytes.splitOn line Extracted.commaSpace) [([], false)] with
  | error e => rw [hg] at hG; rw [hG]; rfl
  | ok st' =>
    rw [hg] at hG
    rw [hG.1]
    rcases st' with _ | ⟨⟨vs, e⟩, _ | ⟨p, t⟩⟩
    · exact absurd hG.2.1 (Nat.lt_irrefl _)
    · rfl
    · rfl

theorem parseArgs_no_panic (line : Bytes) : TrAr.parseArgs modelEnv line ≠ none := by
  rw [tie_parseArgs, mE_parseArgs]
  cases PP.parseArgs line <;> exact Option.some_ne_none _

theorem pin_errorSites : errorSites =
    [("nested aggregate-typed arguments exceeded depth limit", ArgErr.depth),
     ("failed to parse int", ArgErr.int),
     ("unmatched closing curly bracket", ArgErr.close),
     ("unmatched opening curly bracket", ArgErr.open_)] := rfl

/-! ### the embedding is injective; non-vacuity -/

mutual
theorem embArg_inj : ∀ (a b : Arg), embArg a = embArg b → a = b
  | .scalar n v p o i, .scalar n' v' p' o' i', h => by
    rw [embArg, embArg] at h
    simp only [GArg.mk.injEq] at h
    obtain ⟨_, h1, h2, h3, h4, h5, _⟩ := h
    rw [h1, h2, h3, h4, h5]
  | .scalar n v p o i, .agg fs e, h | .agg fs e, .scalar n v p o i, h => by
    rw [embArg, embArg] at h
    simp only [GArg.mk.injEq] at h
    exact absurd h.1 (by decide)
  | .agg fs e, .agg fs' e', h => by
    rw [embArg, embArg] at h
    simp only [GArg.mk.injEq, GArgsOf.mk.injEq] at h
    obtain ⟨_, _, _, _, _, _, h1, _, h2⟩ := h
    rw [embArgL_inj fs fs' h1, h2]
theorem embArgL_inj : ∀ (a b : List Arg), embArgL a = embArgL b → a = b
  | [], [], _ => rfl
  | [], _ :: _, h => by rw [embArgL_nil, embArgL_cons] at h; cases h
  | _ :: _, [], h => by rw [embArgL_nil, embArgL_cons] at h; cases h
  | a :: as, b :: bs, h => by
    rw [embArgL_cons, embArgL_cons] at h
    injection h with h1 h2
    rw [embArg_inj a b h1, embArgL_inj as bs h2]
end

example : TrAr.parseArgs modelEnv b!"0x1, {0x2, ...}, _" =
    some ({ values := [{ value := 1 }, { isAggregate := true, fields := { values := [{ value := 2 }], elided := true } },
       { isOffsetTooLarge := true }] }, none) := by rfl

example : TrAr.parseArgs modelEnv b!"{0x2" = some ({}, some ArgErr.open_) := by rfl
example : TrAr.parseArgs modelEnv b!"{{{{{{0x2" = some ({}, some ArgErr.depth) := by rfl
example : TrAr.parseArgs modelEnv b!"0x2}" = some ({}, some ArgErr.close) := by rfl
example : TrAr.parseArgs modelEnv b!"zz" = some ({}, some ArgErr.int) := by rfl

#print axioms tie_parseArgs
#print axioms parseArgs_no_panic
#print axioms pin_errorSites
#print axioms embArg_inj

end PP.TrAr
