import PP.Tie.TranslatedGlue
import PP.Tie.TranslatedAug
import PP.Props.C19b
import PP.Props.C19c
/-
The hypothesis `TrG.AcIsModel` of the glue refinement (`tie_augment_model`,
`tie_augmentGoroutine_model`) discharged from the agreement theorem of group Aug: the environment
function `ac` of the translated glue is the *translated* `augmentCall` of stack/source.go (run
with enough fuel for the call it is given: the Go loop has no bound of its own), the declaration
of identity `k` being `decl k`, its type names `eat (decl k)` (`extractArgumentsType`).  The
result: `(*Snapshot).augment` as translated from the source, calling `augmentCall` as translated
from the source, is `AugGlue.augment` — the model the C19/C03 theorems are about — for every
snapshot, every file oracle, every parse oracle and every table of declarations, those with a
malformed receiver list (finding F10) included.
-/
namespace PP.GlueAug
open PP PP.Go PP.Bytes PP.Aug

variable (eat : TN.GoFuncDecl → List Bytes × Bool) (ff : FloatFmt) (decl : Nat → TN.GoFuncDecl)

/-- enough iterations for the loop of `augmentCall` on this call (`tie_augmentCall_enough`) -/
def fuelFor (c : Call) : Nat := (Aug.flatL c.args.values).length + c.args.values.length

/-- the glue's `augmentCall(&g.Stack.Calls[i], f)`: group Aug's translated function on the
declaration of identity `k` -/
def acOf (c : Call) (k : Nat) : Option Call :=
  TrAu.augmentCall (TrAu.modelEnv eat ff (fuelFor c)) c (decl k)

/-- what the glue model's `Parsed.funcAt` answers for the declaration of identity `k`: nothing
when `augmentCall` returns at once (receiver list present and not of length one), otherwise
`extractArgumentsType` of it -/
def typesOf (k : Nat) : Option (List Bytes × Bool) :=
  if TrAu.recvBad (decl k) then none else some (eat (decl k))

theorem applyModel_eq (c : Call) (t : List Bytes) (e : Bool) :
    TrAu.applyModel ff c t e = (AugGlue.applyAugment ff c t e).toOption := by
  unfold TrAu.applyModel AugGlue.applyAugment
  cases Aug.augmentCall ff t e c.args <;> rfl

/-- **`AcIsModel` holds of the translated `augmentCall`** -/
theorem tie_acOf_isModel : TrG.AcIsModel (typesOf eat decl) ff (acOf eat ff decl) := by
  intro call k
  unfold acOf typesOf
  rw [TrAu.tie_augmentCall_enough eat ff (fuelFor call) call (decl k) (Nat.le_refl _)]
  cases TrAu.recvBad (decl k) with
  | true => rfl
  | false => simp only [Bool.false_eq_true, if_false, applyModel_eq]

variable (rf : Bytes → Option Bytes) (pf' : Bytes → Option FA.Node)

/-- the translated `(*Snapshot).augment` over the translated `augmentCall` is the model's
`augment`, without a hypothesis on `augmentCall` -/
theorem tie_augment_full (s : Snapshot) :
    (TrG.augment (TrG.modelEnv rf (fun _ => pf') (fun s => some (AugGlue.lineToByteOffsets s))
        (acOf eat ff decl)) s).map (fun r => (r.1.goroutines, r.2)) =
      (AugGlue.augment ff (TrG.oracleOf rf pf' (typesOf eat decl)) s.goroutines).toOption :=
  TrG.tie_augment_model rf pf' (typesOf eat decl) ff (acOf eat ff decl) (tie_acOf_isModel eat ff decl) s

/-- the same for `(*cacheAST).augmentGoroutine` -/
theorem tie_augmentGoroutine_full (c : GCache) (g : Goroutine) :
    (TrG.augmentGoroutine (TrG.modelEnv rf (fun _ => pf') (fun s => some (AugGlue.lineToByteOffsets s))
        (acOf eat ff decl)) c g).map (TrG.absR (typesOf eat decl)) =
      (AugGlue.augmentGoroutine ff (TrG.oracleOf rf pf' (typesOf eat decl))
        (TrG.absCache (typesOf eat decl) c) g).toOption :=
  TrG.tie_augmentGoroutine_model rf pf' (typesOf eat decl) ff (acOf eat ff decl)
    (tie_acOf_isModel eat ff decl) c g

/-! ### C19's and C03's glue theorems, restated about the translated code -/

theorem augment_of_translated (s : Snapshot) (r : Snapshot × Option AugGlue.ErrKind)
    (h : TrG.augment (TrG.modelEnv rf (fun _ => pf') (fun s => some (AugGlue.lineToByteOffsets s))
        (acOf eat ff decl)) s = some r) :
    AugGlue.augment ff (TrG.oracleOf rf pf' (typesOf eat decl)) s.goroutines = .ok (r.1.goroutines, r.2) := by
  have ht := tie_augment_full eat ff decl rf pf' s
  rw [h] at ht
  rcases TrG.map_toOption_cases ht with ⟨h1, _⟩ | ⟨x, h1, h2⟩
  · cases h1
  · cases h1; exact h2

/-- **source analysis never changes the raw values** (C19), about the code as translated:
whatever `(*Snapshot).augment` returns — for every snapshot, every file system, every parser
answer, every declaration table — differs from the snapshot it was given in `Args.Processed`
only: same goroutines, same frames, same raw argument values -/
theorem tie_translated_augment_values_unchanged (s : Snapshot) (r : Snapshot × Option AugGlue.ErrKind)
    (h : TrG.augment (TrG.modelEnv rf (fun _ => pf') (fun s => some (AugGlue.lineToByteOffsets s))
        (acOf eat ff decl)) s = some r) :
    r.1.goroutines.map AugGlue.eraseProcessed = s.goroutines.map AugGlue.eraseProcessed :=
  AugGlue.augment_values_unchanged_snapshot ff _ s.goroutines r.1.goroutines r.2
    (augment_of_translated eat ff decl rf pf' s r h)

/-- **never a changed frame** (C19), about the code as translated: the snapshot returned has
as many goroutines, and each goroutine as many frames, as the one given -/
theorem tie_translated_augment_shape (s : Snapshot) (r : Snapshot × Option AugGlue.ErrKind)
    (h : TrG.augment (TrG.modelEnv rf (fun _ => pf') (fun s => some (AugGlue.lineToByteOffsets s))
        (acOf eat ff decl)) s = some r) :
    r.1.goroutines.length = s.goroutines.length ∧
    ∀ (i : Nat) (g g' : Goroutine), s.goroutines[i]? = some g → r.1.goroutines[i]? = some g' →
      g'.sig.stack.calls.length = g.sig.stack.calls.length :=
  AugGlue.augment_shape_snapshot ff _ s.goroutines r.1.goroutines r.2
    (augment_of_translated eat ff decl rf pf' s r h)

/-- **sources that do not match only leave arguments unaugmented** (C19), about the code as
translated: a frame whose file is missing, not Go, unparsable, too short, or has no enclosing
function at that line (`AugGlue.Mismatch`, with the five ways of `C19b`) comes out of the
translated `augment` exactly as it went in -/
theorem tie_translated_mismatch_leaves_unaugmented (s : Snapshot) (r : Snapshot × Option AugGlue.ErrKind)
    (h : TrG.augment (TrG.modelEnv rf (fun _ => pf') (fun s => some (AugGlue.lineToByteOffsets s))
        (acOf eat ff decl)) s = some r)
    (i j : Nat) (g g' : Goroutine) (x x' : Call)
    (hg : s.goroutines[i]? = some g) (hg' : r.1.goroutines[i]? = some g')
    (hx : g.sig.stack.calls[j]? = some x) (hx' : g'.sig.stack.calls[j]? = some x')
    (hm : AugGlue.Mismatch (TrG.oracleOf rf pf' (typesOf eat decl)) x) : x' = x :=
  AugGlue.mismatch_leaves_unaugmented_snapshot ff _ s.goroutines r.1.goroutines r.2
    (augment_of_translated eat ff decl rf pf' s r h) i j g g' x x' hg hg' hx hx' hm

/-- **mismatching or hostile sources never crash it** (C03/C19), about the code as translated:
when `extractArgumentsType` never yields an empty type list with the ellipsis flag (it cannot:
`Spec.flag_needs_type`), the translated `(*Snapshot).augment` over the translated `augmentCall`
does not panic — no index out of range, no nil map, no nil dereference — on any snapshot, with
any file system and any parser answer -/
theorem tie_translated_augment_no_panic (hea : ∀ k, eat (decl k) ≠ ([], true)) (s : Snapshot) :
    TrG.augment (TrG.modelEnv rf (fun _ => pf') (fun s => some (AugGlue.lineToByteOffsets s))
        (acOf eat ff decl)) s ≠ none := by
  intro hn
  have ht := tie_augment_full eat ff decl rf pf' s
  rw [hn] at ht
  obtain ⟨gs', e, hok⟩ := AugGlue.augment_total_snapshot ff
    (TrG.oracleOf rf pf' (typesOf eat decl)) (by
      intro src p hp name line hf
      obtain ⟨tree, _, rfl⟩ := Option.map_eq_some_iff.mp hp
      simp only [FA.toParsed] at hf
      split at hf
      · rename_i k _
        unfold typesOf at hf
        split at hf
        · cases hf
        · simp only [Option.some.injEq] at hf; exact hea k hf
      · cases hf) s.goroutines
  rw [hok] at ht
  simp [Except.toOption] at ht

/-- the same with `extractArgumentsType` of the model (`PP.TN`, tied to source.go by its harness
stream) in the place of the oracle: its answers never carry the flag without a type
(`Spec.flag_needs_type`), so no hypothesis is left — the source-analysis path, as
translated, is total for every snapshot, file system, parser answer and declaration table -/
theorem tie_translated_augment_no_panic_model (s : Snapshot) :
    TrG.augment (TrG.modelEnv rf (fun _ => pf') (fun s => some (AugGlue.lineToByteOffsets s))
        (acOf TN.extractArgumentsType ff decl)) s ≠ none :=
  tie_translated_augment_no_panic TN.extractArgumentsType ff decl rf pf' (by
    intro k hk
    have h2 : (TN.extractArgumentsType (decl k)).2 = true := by rw [hk]
    exact Spec.flag_needs_type (decl k) h2 (by rw [hk])) s

/-! ### non-vacuity: the composed translated functions compute, and both cases occur -/

/-- the file of `TrG.f10Src` with a well-formed declaration of one `int` parameter: the
translated `augment` over the translated `augmentCall` renders the value -/
example : (TrG.augment (TrG.modelEnv (fun _ => some TrG.f10Src) (fun _ _ => some TrG.f10Tree)
      (fun s => some (AugGlue.lineToByteOffsets s))
      (acOf (fun _ => ([b!"int"], false)) ⟨fun _ => [], fun _ => []⟩ (fun _ => ⟨none, []⟩))) TrG.f10Snapshot).map
    (fun r => (TrG.processedOf r.1.goroutines, r.2)) = some ([[[b!"1"]]], none) := by decide +kernel

/-- the same with the empty receiver list the file really has: the call is left alone -/
example : (TrG.augment (TrG.modelEnv (fun _ => some TrG.f10Src) (fun _ _ => some TrG.f10Tree)
      (fun s => some (AugGlue.lineToByteOffsets s))
      (acOf (fun _ => ([b!"int"], false)) ⟨fun _ => [], fun _ => []⟩ (fun _ => ⟨some [], []⟩))) TrG.f10Snapshot).map
    (fun r => (TrG.processedOf r.1.goroutines, r.2)) = some ([[[]]], none) := by decide +kernel

end PP.GlueAug

#print axioms PP.GlueAug.tie_acOf_isModel
#print axioms PP.GlueAug.tie_augment_full
#print axioms PP.GlueAug.tie_augmentGoroutine_full
#print axioms PP.GlueAug.tie_translated_augment_values_unchanged
#print axioms PP.GlueAug.tie_translated_augment_no_panic
#print axioms PP.GlueAug.tie_translated_augment_no_panic_model
#print axioms PP.GlueAug.tie_translated_augment_shape
#print axioms PP.GlueAug.tie_translated_mismatch_leaves_unaugmented
