import PP.Extracted
import PP.Model.Console
/- Pin for the console model: the order of the pathFormat constants. -/
namespace PP.Tie
theorem pin_pathFormatOrder : PP.Extracted.pathFormatOrder = ["fullPath", "relPath", "basePath"] := rfl
theorem pin_pathFormat_toNat :
    PP.Console.PathFormat.fullPath.toNat = 0 ∧ PP.Console.PathFormat.relPath.toNat = 1 ∧
    PP.Console.PathFormat.basePath.toNat = 2 := ⟨rfl, rfl, rfl⟩
end PP.Tie
