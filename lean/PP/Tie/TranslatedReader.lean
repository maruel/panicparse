import PP.TranslatedReader
import PP.Lemmas.ReaderLemmas
import PP.Tie.TranslatedScanSM
import PP.Lemmas.ScanLoop
import PP.Props.C09b
/-
Agreement theorems for group Reader (tie A of DESIGN.md): the line reader of stack/reader.go (`(*reader).fill`,
`buffered`, `readSlice`, `readLine`) and `ScanSnapshot` of stack/context.go, translated from the Go source on every run
(`PP/TranslatedReader.lean`, by `extract/translate_reader.go`) and tied to the hand-written models
`PP/Model/Reader.lean` (`fill`, `readSlice`, `readLine`) and `PP/Model/Loop.lean` (`scanB`, `finishSuffix`,
`scanSnapshot`) that the reader and loop theorems (C02, C07, C09, C10, C11) are about.

The translated code is ARRAY level (the fixed buffer `r.buf` as a list of length `bufN`, the indices `r.r`, `r.w`,
`copy` to slide the data to the front, the search offset `s`), the model is LIST level (`Rd.buf` = `r.buf[r.r:r.w]`).
So the tie is a REFINEMENT, not an equation:

* `absRd : RdA → Rd` is the abstraction function, `RdInv` the representation invariant
  (`0 ≤ r ≤ w ≤ bufN`, `len buf = bufN`, `r.err ≠ errBufferFull`); the array code reads the buffer only through
  windows given relative to `r.r` (`sliceI_win`) and moves `r.r` forward (`absRd_advance`): the passage from the Go
  `int`s to positions in the model's list is made in these two lemmas;
* one iteration of the loop of `readSlice` leaves through one of the model's three exits (`sliceExit`, `slice_exit`)
  or calls `fill` and searches on behind the bytes already searched (`slice_fill`);
* `tie_fill`, `tie_buffered`, `tie_readSlice`, `tie_readLine`: for every environment `E` whose callees refine the
  model (`FillRef E.fill`, `SliceRef … E.readSlice`), for EVERY scratch oracle and every fuel oracle, the translated
  function commutes with `absRd` on every state that satisfies `RdInv`: same line, same error, the invariant again,
  and the model's new state is the abstraction of the new array-level state; a Go panic (`none`) exactly where the
  model reports one (`RPanic.fillFull`);
* unbounded loops: the translated loops run on the fuel `E.fuel_f st`; the theorems line it up with the model's own
  fuel (`none` = out of fuel on both sides), and `readSlice_isSome` / `readLine_isSome` (PP/Lemmas/ReaderLemmas.lean)
  show how much suffices: `implEnv` passes exactly that, `impl_readLine_total` concludes that there the translated
  `readLine` returns;
* `implEnv` closes the knot: the call graph of the group is acyclic, so the environment in which every function IS
  the translated one exists by plain definition (`implEnv_fix`), and `impl_*` are the refinement theorems for it,
  without hypotheses.

* `ScanSnapshot`: `scan_loop` ties the translated loop to the model's `scanB` (for every fuel `F ≥ f + 1` the translated
  loop with fuel `F` yields what `scanB` yields with fuel `f`: same scanner state, same bytes forwarded to the writer, same
  error (`lerr`), same suffix, the reader state the abstraction of the array-level one; a Go panic where `scanB` reports
  `panicked`), `tie_ScanSnapshot` the whole function to `PP.scanSnapshot` — under `ScanEnvOK` (the callees `readLine`,
  `buffered` refine the model; `E.scan` IS the model's `scanBytes`, which group ScanSM proves of the translated `scan`:
  `TrSM.tie_scan`; the io.Writer never fails, as in the model), `E.nameArguments` = the model's, valid options with
  GuessPaths / AnalyzeSources off (what the model covers), a fresh writer; `tie_ScanSnapshot_nil`, `_invalid` the option
  gate; `impl_ScanSnapshot`, `impl_ScanSnapshot_total` the same for the closed environment, the latter with the model's
  totality and no-panic theorems: the translated function RETURNS the model's result.
  What is compared: the three Go results (`*Snapshot` = `snapOf o gs`, suffix with nil ≠ empty, error) and the writer;
  the model's ghost fields `consumed`, `unread`, `state` have no Go counterpart (the final io.Reader is existential).

What the slices returned by `readSlice` / `readLine` / `buffered` are: VALUES at the moment of return (they alias
`r.buf` in Go until the next `fill`): see the aliasing assumption in the header of extract/translate_reader.go;
`ScanSnapshot` is the only caller and is checked syntactically by the translator (its `d` is dead before the next
`readLine`; `suffix` is a copy).
-/
namespace PP.TrRd
open PP PP.Go

theorem sliceI_nat (s : Bytes) (lo hi : Nat) (h1 : lo ≤ hi) (h2 : hi ≤ s.length) :
    sliceI s (lo : Int) (hi : Int) = some ((s.take hi).drop lo) := by
  unfold sliceI
  rw [if_pos ⟨Int.natCast_nonneg _, Int.ofNat_le.mpr h1, Int.ofNat_le.mpr h2⟩]
  rfl

theorem overlay_length (d s : Bytes) : (overlay d s).length = d.length := by
  simp only [overlay, List.length_append, List.length_take, List.length_drop]; omega

theorem overlay_take (d c scr : Bytes) (h : c.length ≤ d.length) :
    (overlay d (c ++ scr)).take c.length = c := by
  unfold overlay
  have h1 : c.length ≤ ((c ++ scr).take d.length).length := by simp; omega
  rw [List.take_append_of_le_length h1, List.take_take, Nat.min_eq_left h, List.take_append_of_le_length (Nat.le_refl _), List.take_length]

theorem indexByte_of_cutNL_none {b : Bytes} (h : cutNL b = none) : indexByte b 10 = -1 := by
  fun_induction cutNL b with
  | case1 => rfl
  | case2 xs => cases h
  | case3 x xs hx l r hc ih => cases h
  | case4 x xs hx hc ih => simp [indexByte, hx, ih hc]

theorem indexByte_of_cutNL_some {b l r : Bytes} (h : cutNL b = some (l, r)) :
    0 ≤ indexByte b 10 ∧ indexByte b 10 + 1 = (l.length : Int) := by
  fun_induction cutNL b generalizing l with
  | case1 => cases h
  | case2 xs => cases h; exact ⟨Int.le_refl _, rfl⟩
  | case3 x xs hx l' r' hc ih =>
    cases h
    have := ih hc
    simp only [indexByte, hx, if_false, List.length_cons]
    rw [if_neg (Int.not_lt.mpr this.1)]
    omega
  | case4 x xs hx hc ih => cases h

theorem bufN_pos : 0 < bufN := by decide

/-- an `error` of the reader as the model's `r.err` -/
def unErr : Option SliceErr → Option RErr
  | some (.rerr e) => some e
  | _ => none

/-- the ABSTRACTION function: the list-level reader state of the model for an array-level state -/
def absRd (a : RdA) : Rd :=
  { buf := (a.buf.drop a.r.toNat).take (a.w.toNat - a.r.toNat), err := unErr a.err, src := a.rd }

/-- the representation invariant of the Go `reader` -/
structure RdInv (a : RdA) : Prop where
  r0 : 0 ≤ a.r
  rw : a.r ≤ a.w
  wN : a.w ≤ (bufN : Int)
  len : a.buf.length = bufN
  err : a.err ≠ some .bufferFull

/-- the indices as natural numbers -/
theorem RdInv.nat {a : RdA} (h : RdInv a) :
    ∃ rn wn : Nat, a.r = rn ∧ a.w = wn ∧ rn ≤ wn ∧ wn ≤ a.buf.length ∧ (absRd a).buf.length = wn - rn := by
  obtain ⟨rn, hr⟩ := Int.eq_ofNat_of_zero_le h.r0
  obtain ⟨wn, hw⟩ := Int.eq_ofNat_of_zero_le (Int.le_trans h.r0 h.rw)
  have h1 := h.rw
  have h2 := h.wN
  rw [hr, hw] at h1
  rw [hw, ← h.len, Int.ofNat_le] at h2
  refine ⟨rn, wn, hr, hw, Int.ofNat_le.mp h1, h2, ?_⟩
  simp only [absRd, hr, hw, Int.toNat_natCast]
  exact List.length_take_of_le (by rw [List.length_drop]; exact Nat.sub_le_sub_right h2 rn)

theorem absRd_length {a : RdA} (h : RdInv a) : ((absRd a).buf.length : Int) = a.w - a.r := by
  obtain ⟨rn, wn, hr, hw, h1, _, hl⟩ := h.nat
  rw [hl, hr, hw, Int.ofNat_sub h1]

theorem RdInv.w_eq {a : RdA} (hI : RdInv a) : a.w = a.r + ((absRd a).buf.length : Nat) := by
  have := absRd_length hI; omega

theorem RdInv.buf_le {a : RdA} (hI : RdInv a) : (absRd a).buf.length ≤ bufN := by
  have := absRd_length hI; have := hI.wN; have := hI.r0; omega

/-- a window of the array, given relative to `r.r`, is the same window of `r.buf[r.r:r.w]` -/
theorem sliceI_win {a : RdA} (hI : RdInv a) (x y : Nat) (hxy : x ≤ y) (hy : y ≤ (absRd a).buf.length)
    (lo hi : Int) (hlo : lo = a.r + x) (hhi : hi = a.r + y) :
    sliceI a.buf lo hi = some (((absRd a).buf.take y).drop x) := by
  obtain ⟨rn, wn, hr, hw, h1, h2, hl⟩ := hI.nat
  rw [hl] at hy
  simp only [absRd, hr, hw, Int.toNat_natCast]
  rw [hlo, hhi, hr, ← Int.natCast_add, ← Int.natCast_add,
    sliceI_nat _ _ _ (Nat.add_le_add_left hxy rn) (Nat.le_trans (Nat.add_le_of_le_sub' h1 hy) h2),
    List.take_take, Nat.min_eq_left hy, List.take_drop, List.drop_drop]

theorem unErr_eq_some {err : Option SliceErr} {x : RErr} (h : unErr err = some x) : err = some (.rerr x) := by
  unfold unErr at h
  split at h
  · cases h; rfl
  · cases h

theorem unErr_eq_none {err : Option SliceErr} (h : err ≠ some .bufferFull) : unErr err = none ↔ err = none := by
  cases err with
  | none => simp [unErr]
  | some e => cases e <;> simp_all [unErr]

theorem absRd_full {a : RdA} (hI : RdInv a) (h : (absRd a).buf.length = bufN) : (absRd a).buf = a.buf :=
  ((List.take_sublist _ _).trans (List.drop_sublist _ _)).eq_of_length (h.trans hI.len.symm)

/-- `r.r += k`: the abstraction loses its first `k` bytes -/
theorem absRd_advance {a : RdA} (hI : RdInv a) (k : Nat) (hk : k ≤ (absRd a).buf.length) (r' : Int)
    (hr' : r' = a.r + k) (e' : Option SliceErr) (he' : e' ≠ some .bufferFull) :
    RdInv { a with r := r', err := e' } ∧
    absRd { a with r := r', err := e' } = { buf := (absRd a).buf.drop k, err := unErr e', src := a.rd } := by
  obtain ⟨rn, wn, hr, hw, h1, h2, hl⟩ := hI.nat
  rw [hl] at hk
  subst hr'
  constructor
  · refine ⟨?_, ?_, hI.wN, hI.len, he'⟩ <;> simp only [hr, hw] <;> omega
  · simp only [absRd, hr, hw, ← Int.natCast_add, Int.toNat_natCast]
    rw [List.drop_take, List.drop_drop, Nat.sub_sub]

/-- REFINEMENT of `fill`: `g` does on the array-level state what the model's `fill` does on its abstraction
(a Go panic where the model reports one), and keeps the representation invariant -/
def FillRef (g : RdA → Option RdA) : Prop :=
  ∀ a, RdInv a →
    match PP.fill bufN 100 (absRd a) with
    | .error _ => g a = none
    | .ok r' => ∃ a', g a = some a' ∧ RdInv a' ∧ absRd a' = r'

theorem fillLoop_succ (N k : Nat) (r : Rd) (c : Bytes) (e : Option RErr) (s' : Src) :
    r.src.read (N - r.buf.length) = (c, e, s') →
    fillLoop N (k + 1) r =
      match e with
      | some e => { r with buf := r.buf ++ c, src := s', err := some e }
      | none => if c.length > 0 then { r with buf := r.buf ++ c, src := s' }
          else fillLoop N k { r with buf := r.buf ++ c, src := s' } := by
  intro h
  simp only [fillLoop, h]
  cases e <;> rfl

/-- one `Read` into the free part of the array, the data at the front: `n` bytes arrive behind the buffered ones,
whatever the `Read` scribbles behind them -/
theorem readInto_abs (scr : Bytes) {a : RdA} (hI : RdInv a) (hr : a.r = 0) (c : Bytes) (e : Option RErr) (s' : Src)
    (hrd : a.rd.read (bufN - (absRd a).buf.length) = (c, e, s')) :
    ∃ buf', readInto scr a.buf a.w a.rd = some (buf', (c.length : Int), e.map SliceErr.rerr, s') ∧
      ∀ err', err' ≠ some .bufferFull →
        RdInv { a with buf := buf', rd := s', w := a.w + c.length, err := err' } ∧
        absRd { a with buf := buf', rd := s', w := a.w + c.length, err := err' } =
          ⟨(absRd a).buf ++ c, unErr err', s'⟩ := by
  obtain ⟨rn, wn, hrn, hw, h1, h2, hBl⟩ := hI.nat
  obtain rfl : rn = 0 := Int.ofNat_inj.mp (hrn.symm.trans hr)
  rw [Nat.sub_zero] at hBl
  have hB : (absRd a).buf = a.buf.take wn := by simp only [absRd, hr, hw]; rfl
  rw [hBl, ← hI.len] at hrd
  have hc : c.length ≤ (a.buf.drop wn).length := by rw [List.length_drop]; exact (Src.read_spec hrd).2.1
  refine ⟨a.buf.take wn ++ overlay (a.buf.drop wn) (c ++ scr), ?_, fun err' he' => ⟨?_, ?_⟩⟩
  · unfold readInto
    rw [hw, sliceI_nat _ _ _ h2 (Nat.le_refl _), List.take_length, Option.bind_some, List.length_drop, hrd]
    rfl
  · have hl : (a.buf.take wn ++ overlay (a.buf.drop wn) (c ++ scr)).length = bufN := by
      rw [List.length_append, overlay_length, List.length_take_of_le h2, List.length_drop, ← hI.len]
      exact Nat.add_sub_of_le h2
    rw [List.length_drop] at hc
    exact ⟨hI.r0, by simp only [hr, hw]; omega, by have := hI.len; simp only [hw]; omega, hl, he'⟩
  · rw [hB]
    simp only [absRd, hr, hw, ← Int.natCast_add, Int.toNat_natCast, Int.toNat_zero, List.drop_zero, Nat.sub_zero]
    rw [List.take_append, List.length_take_of_le h2, Nat.add_sub_cancel_left, overlay_take _ _ _ hc,
      List.take_of_length_le (by rw [List.length_take_of_le h2]; exact Nat.le_add_right _ _)]

/-- the state `fill` returns for the outcome of its retry loop -/
def finFill : PP.Go.Step RdA RdA → RdA
  | .ret a => a
  | .cont a => { a with err := some (.rerr .noProgress) }

theorem fill_loop (E : Env) (k : Nat) (a : RdA) (hI : RdInv a) (hr : a.r = 0) :
    ∃ st, repeatN (fill_loop1 E) k a = some st ∧ RdInv (finFill st) ∧ (finFill st).r = 0 ∧
      absRd (finFill st) = fillLoop bufN k (absRd a) := by
  induction k generalizing a with
  | zero => exact ⟨.cont a, rfl, ⟨hI.r0, hI.rw, hI.wN, hI.len, fun h => nomatch h⟩, hr, rfl⟩
  | succ k ih =>
    rcases hrd : a.rd.read (bufN - (absRd a).buf.length) with ⟨c, e, s'⟩
    obtain ⟨buf', h1, h2⟩ := readInto_abs (E.scratch a.rd) hI hr c e s' hrd
    have hn : ¬ ((c.length : Int) < 0) := Int.not_lt.mpr (Int.natCast_nonneg _)
    rw [repeatN_succ, fillLoop_succ _ _ _ _ _ _ hrd]
    simp only [fill_loop1, h1, Option.bind_some, hn, if_false]
    cases e with
    | some x =>
      obtain ⟨g1, g2⟩ := h2 (some (.rerr x)) (fun h => nomatch h)
      exact ⟨.ret _, rfl, g1, hr, g2⟩
    | none =>
      obtain ⟨g1, g2⟩ := h2 a.err hI.err
      by_cases hc0 : c.length > 0
      · have : (c.length : Int) > 0 := Int.natCast_pos.mpr hc0
        simp only [Option.map_none, ne_eq, not_true, if_false, this, hc0, if_true]
        exact ⟨.ret _, rfl, g1, hr, g2⟩
      · have : ¬ (c.length : Int) > 0 := fun h => hc0 (Int.natCast_pos.mp h)
        simp only [Option.map_none, ne_eq, not_true, if_false, this, hc0]
        obtain ⟨st, e1, e2, e3, e4⟩ := ih _ g1 hr
        exact ⟨st, e1, e2, e3, by rw [e4, g2]; rfl⟩

/-- the slide of the buffered bytes to the front of the array is invisible in the abstraction -/
theorem fill_slide (a : RdA) (hI : RdInv a) :
    ∃ a1, ((if a.r > (0 : Int) then
        (sliceI a.buf a.r a.w).bind fun t1 =>
        let r : RdA := { a with buf := overlay a.buf t1 }
        let r : RdA := { r with w := (r.w - r.r) }
        let r : RdA := { r with r := (0 : Int) }
        some r
      else some a) = some a1) ∧ RdInv a1 ∧ a1.r = 0 ∧ absRd a1 = absRd a := by
  by_cases hr : a.r > 0
  · have hl := absRd_length hI
    have hw := hI.w_eq
    have hle := hI.buf_le
    rw [if_pos hr, sliceI_win hI 0 _ (Nat.zero_le _) (Nat.le_refl _) _ _ (Int.add_zero _).symm hw, List.take_length]
    refine ⟨_, rfl, ⟨Int.le_refl _, by simp only; omega, by simp only; omega,
      by simp only [overlay_length]; exact hI.len, hI.err⟩, rfl, ?_⟩
    have := overlay_take a.buf (absRd a).buf [] (by rw [hI.len]; exact hle)
    rw [List.append_nil] at this
    show (⟨List.take ((a.w - a.r).toNat - (0 : Int).toNat) (List.drop (0 : Int).toNat (overlay a.buf (absRd a).buf)),
      _, _⟩ : Rd) = _
    rw [← hl, Int.toNat_natCast, Int.toNat_zero, Nat.sub_zero, List.drop_zero, this]
    rfl
  · have h0 : a.r = 0 := Int.le_antisymm (Int.not_lt.mp hr) hI.r0
    exact ⟨a, if_neg hr, hI, h0, rfl⟩

theorem tie_fill (E : Env) : FillRef (TrRd.fill E) := by
  intro a hI
  obtain ⟨a1, e1, hI1, hr1, hA1⟩ := fill_slide a hI
  have hlen := absRd_length hI1
  rw [hr1, Int.sub_zero] at hlen
  unfold TrRd.fill
  rw [e1, ← hA1, Option.bind_some, PP.fill]
  by_cases hw : a1.w ≥ (bufN : Int)
  · rw [if_pos hw, if_pos (by omega)]
  · rw [if_neg hw, if_neg (by omega)]
    obtain ⟨st, e2, hI2, _, hA2⟩ := fill_loop E 100 a1 hI1 hr1
    rw [e2]
    cases st with
    | ret a' => exact ⟨a', rfl, hI2, hA2⟩
    | cont a' => exact ⟨_, rfl, hI2, hA2⟩

/-- the search of `readSlice` from an offset below which there is no newline -/
theorem indexByte_drop {B : Bytes} {sn : Nat} (hs : sn ≤ B.length) (hnl : cutNL (B.take sn) = none) :
    match cutNL B with
    | some (l, _) => 0 ≤ indexByte (B.drop sn) 10 ∧ indexByte (B.drop sn) 10 + sn + 1 = l.length
    | none => indexByte (B.drop sn) 10 = -1 := by
  have hcut := cutNL_append_none (B.drop sn) hnl
  rw [List.take_append_drop] at hcut
  rw [hcut]
  cases hc : cutNL (B.drop sn) with
  | none => exact indexByte_of_cutNL_none hc
  | some p =>
    obtain ⟨h0, h1⟩ := indexByte_of_cutNL_some hc
    refine ⟨h0, ?_⟩
    simp only [List.length_append, List.length_take_of_le hs]
    omega

/-- an iteration of `readSlice` that leaves through one of the model's exits -/
theorem slice_exit (E : Env) {a : RdA} {sn : Nat} (hI : RdInv a) (hs : sn ≤ (absRd a).buf.length)
    (hnl : cutNL ((absRd a).buf.take sn) = none) {f : Bytes} {e : Option SliceErr} {r' : Rd}
    (hx : sliceExit bufN (absRd a) = some (f, e, r')) :
    ∃ a', readSlice_loop1 E (a, (sn : Int)) = some (.ret (a', (f, e))) ∧ RdInv a' ∧ absRd a' = r' := by
  have hw := hI.w_eq
  have hi := indexByte_drop hs hnl
  simp only [readSlice_loop1]
  rw [sliceI_win hI sn _ hs (Nat.le_refl _) _ _ rfl hw, List.take_length]
  unfold sliceExit at hx
  split at hx
  · rename_i l rest hc
    cases hx
    rw [hc] at hi
    obtain ⟨p, _, _, hB⟩ := cutNL_some_spec hc
    have hl : f.length ≤ (absRd a).buf.length := by rw [hB, List.length_append]; exact Nat.le_add_right _ _
    simp only [Option.bind_some, ge_iff_le, hi.1, if_true]
    rw [sliceI_win hI 0 f.length (Nat.zero_le _) hl _ _ (Int.add_zero _).symm (by omega)]
    obtain ⟨g1, g2⟩ := absRd_advance hI f.length hl (a.r + (indexByte ((absRd a).buf.drop sn) 10 + sn + 1))
      (by omega) a.err hI.err
    refine ⟨_, ?_, g1, ?_⟩
    · rw [hB, List.take_left' rfl]; rfl
    · rw [g2, hB, List.drop_left' rfl]; rfl
  · rename_i hc
    rw [hc] at hi
    have hlt : ¬ (0 : Int) ≤ -1 := by decide
    simp only [Option.bind_some, ge_iff_le, hi, hlt, if_false]
    split at hx
    · rename_i x he
      cases hx
      have hne : a.err ≠ none := fun h => by rw [absRd, h] at he; cases he
      obtain ⟨g1, g2⟩ := absRd_advance hI _ (Nat.le_refl _) a.w hw none (by simp)
      rw [if_pos hne, sliceI_win hI 0 _ (Nat.zero_le _) (Nat.le_refl _) _ _ (Int.add_zero _).symm hw, List.take_length]
      refine ⟨_, ?_, g1, ?_⟩
      · rw [unErr_eq_some he]; rfl
      · rw [g2, List.drop_length]; rfl
    · rename_i he
      have hnone : a.err = none := (unErr_eq_none hI.err).mp he
      split at hx
      · rename_i hfull
        cases hx
        obtain ⟨g1, g2⟩ := absRd_advance hI _ (Nat.le_refl _) a.w hw a.err hI.err
        rw [if_neg (fun h => h hnone), if_pos (by omega)]
        refine ⟨_, ?_, g1, ?_⟩
        · rw [absRd_full hI hfull]
        · rw [g2, List.drop_length]; rfl
      · cases hx

/-- an iteration of `readSlice` at none of the model's exits: `fill`, and search on from the old end -/
theorem slice_fill (E : Env) {a : RdA} {sn : Nat} (hI : RdInv a) (hs : sn ≤ (absRd a).buf.length)
    (hnl : cutNL ((absRd a).buf.take sn) = none) (hx : sliceExit bufN (absRd a) = none) :
    readSlice_loop1 E (a, (sn : Int)) =
      (E.fill a).bind fun a' => some (.cont (a', ((absRd a).buf.length : Int))) := by
  obtain ⟨hc, he, hN⟩ := sliceExit_eq_none hx
  have hl := absRd_length hI
  have hw := hI.w_eq
  have hi := indexByte_drop hs hnl
  rw [hc] at hi
  have hlt : ¬ (0 : Int) ≤ -1 := by decide
  have hnone : ¬ a.err ≠ none := fun h => h ((unErr_eq_none hI.err).mp he)
  simp only [readSlice_loop1]
  rw [sliceI_win hI sn _ hs (Nat.le_refl _) _ _ rfl hw, List.take_length]
  simp only [Option.bind_some, ge_iff_le, hi, hlt, if_false, hnone]
  rw [if_neg (by omega), hl]

/-- the results of `readSlice` (array level) and of the model (list level) correspond: a Go panic — or the loop
out of fuel — where the model reports a panic or runs out of fuel, otherwise the same line and error, the
invariant, and the model's state as the abstraction of the array-level state -/
def SliceRel (x : Option (RdA × (Bytes × Option SliceErr)))
    (y : Option (Except RPanic (Bytes × Option SliceErr × Rd))) : Prop :=
  match y with
  | none => x = none
  | some (.error _) => x = none
  | some (.ok (l, e, r')) => ∃ a', x = some (a', (l, e)) ∧ RdInv a' ∧ absRd a' = r'

/-- REFINEMENT of `readSlice` (with the model's fuel) -/
def SliceRef (fuel : RdA → Nat) (g : RdA → Option (RdA × (Bytes × Option SliceErr))) : Prop :=
  ∀ a, RdInv a → SliceRel (g a) (PP.readSlice bufN 100 (fuel a) (absRd a))

/-- the loop of `readSlice`, started at a search offset below which the buffered bytes hold no newline -/
theorem readSlice_loop (E : Env) (hF : FillRef E.fill) (fuel : Nat) (a : RdA) (sn : Nat) (hI : RdInv a)
    (hs : sn ≤ (absRd a).buf.length) (hnl : cutNL ((absRd a).buf.take sn) = none) :
    SliceRel (after (loopFuel (readSlice_loop1 E) fuel (a, (sn : Int))) fun _ => none)
      (PP.readSlice bufN 100 fuel (absRd a)) := by
  induction fuel generalizing a sn with
  | zero => exact rfl
  | succ fuel ih =>
    rw [loopFuel_succ, readSlice_succ _ _ _ _ hI.buf_le]
    cases hx : sliceExit bufN (absRd a) with
    | some x =>
      obtain ⟨a', h1, h2, h3⟩ := slice_exit E hI hs hnl hx
      rw [h1]
      exact ⟨a', rfl, h2, h3⟩
    | none =>
      obtain ⟨hc, _, hN⟩ := sliceExit_eq_none hx
      have hF' := hF a hI
      rw [fill_of_lt 100 (Nat.lt_of_le_of_ne hI.buf_le hN)] at hF'
      obtain ⟨a', e1, hI', hA'⟩ := hF'
      rw [slice_fill E hI hs hnl hx, e1]
      have := ih a' (absRd a).buf.length hI'
        (by rw [hA']; exact (fillLoop_spec _ _ _).2.2.2.2.1)
        (by rw [hA', fillLoop_prefix]; exact hc)
      rwa [hA'] at this

theorem tie_readSlice (E : Env) (hF : FillRef E.fill) :
    SliceRef (fun a => E.fuel_readSlice (a, 0)) (TrRd.readSlice E) :=
  fun a hI => readSlice_loop E hF _ a 0 hI (Nat.zero_le _) rfl

/-- REFINEMENT of `buffered`: on a state that satisfies `RdInv`, `g` returns the model's buffer (no panic) -/
def BufRef (g : RdA → Option Bytes) : Prop := ∀ a, RdInv a → g a = some (absRd a).buf

theorem tie_buffered (E : Env) : BufRef (TrRd.buffered E) := by
  intro a hI
  have hw := hI.w_eq
  unfold TrRd.buffered
  rw [sliceI_win hI 0 _ (Nat.zero_le _) (Nat.le_refl _) _ _ (Int.add_zero _).symm hw, List.take_length]
  rfl

/-- the results of `readLine` correspond (as `SliceRel`; the error is never `errBufferFull`) -/
def LineRel (x : Option (RdA × (Bytes × Option SliceErr)))
    (y : Option (Except RPanic (Bytes × Option RErr × Rd))) : Prop :=
  match y with
  | none => x = none
  | some (.error _) => x = none
  | some (.ok (l, e, r')) => ∃ a', x = some (a', (l, e.map SliceErr.rerr)) ∧ RdInv a' ∧ absRd a' = r'

/-- REFINEMENT of `readLine` (with the model's fuel) -/
def LineRef (fuel : RdA → Nat) (g : RdA → Option (RdA × (Bytes × Option SliceErr))) : Prop :=
  ∀ a, RdInv a → LineRel (g a) (PP.readLine bufN 100 (fuel a) [] (absRd a))

theorem goAppendN_some (a x : Bytes) : goAppendN (some a) x = some (a ++ x) := by
  unfold goAppendN; split
  · rename_i h; rw [h, List.append_nil]
  · rfl

/-- what `readLine` returns when `readSlice` did not end in `errBufferFull`: the slice itself if nothing was
accumulated (`d` nil), else the accumulated bytes and the slice -/
theorem line_ret {σ : Type} (d : Option Bytes) (f : Bytes) (a' : RdA) (err : Option SliceErr) :
    (if d = none then some (StepB.ret (a', (f, err)) : StepB σ _)
      else some (.ret (a', ((goAppendN d f).getD [], err)))) = some (.ret (a', (d.getD [] ++ f, err))) := by
  cases d with
  | none => rfl
  | some acc => rw [if_neg (fun h => nomatch h), goAppendN_some]; rfl

/-- … and the accumulator it goes on with when it did -/
theorem line_acc {ρ : Type} (d : Option Bytes) (f : Bytes) (a' : RdA) :
    ((if d = none then some (some []) else some d).bind fun d =>
      some (StepB.cont (a', goAppendN d f) : StepB _ ρ)) = some (.cont (a', some (d.getD [] ++ f))) := by
  cases d with
  | none => rw [if_pos rfl, Option.bind_some, goAppendN_some]; rfl
  | some acc => rw [if_neg (fun h => nomatch h), Option.bind_some, goAppendN_some]; rfl

theorem readLine_loop (E : Env) (hS : SliceRef (fun _ => bufN + 2) E.readSlice) (fuel : Nat) (a : RdA) (d : Option Bytes)
    (hI : RdInv a) :
    LineRel (after (loopFuel (readLine_loop1 E) fuel (a, d)) fun _ => none)
      (PP.readLine bufN 100 fuel (d.getD []) (absRd a)) := by
  induction fuel generalizing a d with
  | zero => exact rfl
  | succ fuel ih =>
    have hS' := hS a hI
    rw [loopFuel_succ, PP.readLine]
    simp only [readLine_loop1]
    rcases hrs : PP.readSlice bufN 100 (bufN + 2) (absRd a) with _ | p | ⟨f, e, r'⟩ <;> rw [hrs] at hS'
    · rw [show E.readSlice a = none from hS']; rfl
    · rw [show E.readSlice a = none from hS']; rfl
    · obtain ⟨a', e1, hI', rfl⟩ := hS'
      rw [e1, Option.bind_some]
      rcases e with _ | x | _
      · rw [if_pos (fun h => nomatch h), line_ret]
        exact ⟨a', rfl, hI', rfl⟩
      · rw [if_pos (fun h => nomatch h), line_ret]
        exact ⟨a', rfl, hI', rfl⟩
      · rw [if_neg (fun h => h rfl)]
        rw [line_acc]
        exact ih a' (some (d.getD [] ++ f)) hI'

theorem tie_readLine (E : Env) (hS : SliceRef (fun _ => bufN + 2) E.readSlice) : 
    LineRef (fun a => E.fuel_readLine (a, none)) (TrRd.readLine E) := by
  intro a hI
  unfold TrRd.readLine
  exact readLine_loop E hS _ a none hI

/-! ### non-vacuity: the state `reader{rd: in}` satisfies the invariant and is the model's initial state -/

/-- `reader{rd: src}` (the array zeroed) -/
def initRdA (src : Src) : RdA := { buf := List.replicate bufN 0, rd := src }

theorem RdInv_init (src : Src) : RdInv (initRdA src) :=
  ⟨Int.le_refl _, Int.le_refl _, Int.natCast_nonneg _, List.length_replicate, fun h => nomatch h⟩

theorem absRd_init (src : Src) : absRd (initRdA src) = { src := src } := by
  simp [absRd, initRdA, unErr]

/-! ### `ScanSnapshot` (stack/context.go) against `PP.scanB` / `PP.scanSnapshot` (PP/Model/Loop.lean) -/

/-- the model's loop error as the Go `error` of `ScanSnapshot` -/
def lerr : LErr → GErr
  | .reader e => .slice (.rerr e)
  | .parse e => .parse e

/-- what `ScanSnapshot` needs of its environment -/
structure ScanEnvOK (E : Env) : Prop where
  line : LineRef (fun a => lineFuel (absRd a)) E.readLine
  buf : BufRef E.buffered
  scan : ∀ s d, E.scan s d = TrSM.liftR (scanBytes s d)
  write : ∀ w d, E.write w d = (d.length, none)

theorem combine_eq (e : Option RErr) (e1 : Option Err) :
    (if (e1.map GErr.parse ≠ none ∧ (((e.map SliceErr.rerr).map GErr.slice) = none ∨
        ((e.map SliceErr.rerr).map GErr.slice) = some (GErr.slice (SliceErr.rerr RErr.eof))))
      then e1.map GErr.parse else (e.map SliceErr.rerr).map GErr.slice) = (combineErr e e1).map lerr := by
  cases e1 with
  | none => cases e <;> simp [combineErr, lerr]
  | some p =>
    cases e with
    | none => simp [combineErr, lerr]
    | some r => cases r <;> simp [combineErr, lerr]

abbrev LoopSt := Bytes × ScanSt × RdA × Option GErr × Option Bytes
abbrev LoopRes := (Src × Bytes) × (Option Snapshot × Option Bytes × Option GErr)

/-- the loop of `ScanSnapshot` and the model's `scanB` correspond -/
def LoopRel (sn : Snapshot) (x : Option (PP.Go.Step LoopSt LoopRes)) (y : Option OutB) : Prop :=
  match y with
  | none => True
  | some o =>
    if o.panicked = true then x = none
    else ∃ a', x = some (.cont (o.fwd, ⟨o.s, sn⟩, a', o.err.map lerr, o.suffix)) ∧ RdInv a' ∧
      (absRd a').src = o.rd.src ∧ (o.suffix = none → absRd a' = o.rd)

/-- the loop leaves without another read once an error is recorded or the trace is complete -/
theorem loop_stop (E : Env) (F : Nat) (w : Bytes) (s : ScanSt) (a : RdA) (err : Option GErr) (suffix : Option Bytes)
    (h : err ≠ none ∨ s.sm.st = St.done) :
    loopFuel (ScanSnapshot_loop1 E) (F + 1) (w, s, a, err, suffix) = some (.cont (w, s, a, err, suffix)) := by
  have hb : ScanSnapshot_loop1 E (w, s, a, err, suffix) = some (.brk (w, s, a, err, suffix)) :=
    if_pos fun hc => h.elim (fun h => h hc.1) (fun h => hc.2 h)
  rw [loopFuel_succ, hb]

theorem LoopRel_stop (E : Env) (sn : Snapshot) (F : Nat) (hF : 1 ≤ F) (w : Bytes) (s : S) (a : RdA) (err : Option LErr)
    (cons : List Bytes) (hI : RdInv a) (h : err.isSome ∨ s.st = St.done) :
    LoopRel sn (loopFuel (ScanSnapshot_loop1 E) F (w, ⟨s, sn⟩, a, err.map lerr, none))
      (some { s := s, fwd := w, consumed := cons, err := err, suffix := none, rd := absRd a }) := by
  obtain ⟨F, rfl⟩ : ∃ F', F = F' + 1 := ⟨F - 1, by omega⟩
  rw [loop_stop E F _ _ _ _ _ (h.imp (fun h => by cases err <;> simp_all) id)]
  exact ⟨a, rfl, hI, rfl, fun _ => rfl⟩

theorem scan_loop (E : Env) (hE : ScanEnvOK E) (sn : Snapshot) (f : Nat) (sm : S) (w : Bytes) (cons : List Bytes)
    (a : RdA) (hI : RdInv a) (F : Nat) (hF : f + 1 ≤ F) :
    LoopRel sn (loopFuel (ScanSnapshot_loop1 E) F (w, ⟨sm, sn⟩, a, none, none))
      (scanB bufN 100 f sm w cons (absRd a)) := by
  induction f generalizing sm w cons a F with
  | zero => trivial
  | succ f ih =>
    rw [scanB]
    by_cases hd : sm.st = .done
    · rw [if_pos (beq_iff_eq.mpr hd)]
      exact LoopRel_stop E sn F (Nat.le_trans (Nat.le_add_left 1 _) hF) w sm a none cons hI (Or.inr hd)
    · obtain ⟨F, rfl⟩ : ∃ F', F = F' + 1 :=
        ⟨F - 1, (Nat.sub_add_cancel (Nat.le_trans (Nat.le_add_left 1 _) hF)).symm⟩
      rw [if_neg (fun h => hd (beq_iff_eq.mp h)), loopFuel_succ,
        show ScanSnapshot_loop1 E (w, ⟨sm, sn⟩, a, none, none) = _ from if_neg (fun h => h ⟨rfl, hd⟩)]
      have hL := hE.line a hI
      rcases hrl : PP.readLine bufN 100 (lineFuel (absRd a)) [] (absRd a) with _ | p | ⟨d, e, rd'⟩
      · trivial
      · rw [hrl] at hL
        rw [show E.readLine a = none from hL]
        rfl
      · rw [hrl] at hL
        obtain ⟨a', e1, hI', rfl⟩ := hL
        have hnext : ∀ (s' : S) (w' : Bytes) (c : List Bytes) (err : Option LErr),
            LoopRel sn (loopFuel (ScanSnapshot_loop1 E) F (w', ⟨s', sn⟩, a', err.map lerr, none))
              (if err.isSome then some { s := s', fwd := w', consumed := c, err := err, suffix := none, rd := absRd a' }
               else scanB bufN 100 f s' w' c (absRd a')) := by
          intro s' w' c err
          cases err with
          | none => exact ih s' w' c a' hI' F (Nat.le_of_succ_le_succ hF)
          | some x =>
            exact LoopRel_stop E sn F (Nat.le_trans (Nat.le_add_left 1 f) (Nat.le_of_succ_le_succ hF)) w' s' a' (some x) c hI'
              (Or.inl rfl)
        rw [e1, Option.bind_some]
        dsimp only
        by_cases hlen : d.length = 0
        · rw [if_neg (show ¬ lenInt d ≠ (0 : Int) from fun h => h (congrArg Int.ofNat hlen)),
            if_neg (fun h => bne_iff_ne.mp h hlen)]
          have := hnext sm w cons (e.map .reader)
          cases e <;> exact this
        · rw [if_pos (show lenInt d ≠ (0 : Int) from fun h => hlen (Int.ofNat_inj.mp h)),
            if_pos (bne_iff_ne.mpr hlen), hE.scan]
          rcases scanBytes sm d with p | ⟨s', l, e1'⟩
          · rfl
          · simp only [TrSM.liftR_ok, Option.bind_some, ← apply_ite some, combine_eq]
            cases l with
            | true => exact hnext s' w (cons ++ [d]) (combineErr e e1')
            | false =>
              by_cases hlk : s'.st = St.looking
              · rw [if_pos Bool.false_ne_true, if_neg (fun h => h hlk), if_neg (fun h => bne_iff_ne.mp h hlk)]
                simp only [goWrite, hE.write, List.take_length, ne_eq, not_true, false_and, if_false]
                exact hnext s' (w ++ d) cons (combineErr e e1')
              · rw [if_pos Bool.false_ne_true, if_pos hlk, if_pos (bne_iff_ne.mpr hlk), hE.buf a' hI',
                  Option.bind_some, goAppendN_some]
                exact ⟨a', rfl, hI', rfl, fun h => nomatch h⟩

/-- the `*Snapshot` `ScanSnapshot` returns for the goroutines of the model's result -/
def snapOf (o : Cli.Opts) (gs : List Goroutine) : Snapshot :=
  { goroutines := gs, localGOROOT := o.localGOROOT, localGOPATHs := o.localGOPATHs }

theorem tie_ScanSnapshot (E : Env) (hE : ScanEnvOK E)
    (hN : ∀ gs, E.nameArguments gs = some (PP.nameArguments gs))
    (o : Cli.Opts) (hv : E.isValid o = true) (hg : o.guessPaths = false) (ha : o.analyzeSources = false)
    (src : Src)
    (hf : src.rest.length + 3 ≤ E.fuel_ScanSnapshot
      ([], ⟨{}, { localGOROOT := o.localGOROOT, localGOPATHs := o.localGOPATHs }⟩, initRdA src, none, none)) :
    match PP.scanSnapshot bufN 100 o.nameArguments src with
    | none => True
    | some res =>
      if res.panicked = true then TrRd.ScanSnapshot E src [] (some o) = none
      else ∃ src', TrRd.ScanSnapshot E src [] (some o) =
        some ((src', res.fwd), (res.snap.map (snapOf o), res.suffix, res.err.map lerr)) := by
  unfold TrRd.ScanSnapshot PP.scanSnapshot
  simp only []
  rw [if_neg (by simp [hv])]
  generalize hX : loopFuel _ _ _ = X
  have hl : LoopRel { localGOROOT := o.localGOROOT, localGOPATHs := o.localGOPATHs } X
      (scanB bufN 100 (src.rest.length + 2) {} [] [] { src := src }) := by
    rw [← hX, ← absRd_init]
    exact scan_loop E hE _ _ _ _ _ (initRdA src) (RdInv_init src) _ hf
  cases hsb : scanB bufN 100 (src.rest.length + 2) {} [] [] { src := src } with
  | none => simp
  | some o' =>
    rw [hsb] at hl
    simp only [LoopRel] at hl
    by_cases hp : o'.panicked = true
    · rw [if_pos hp] at hl
      subst hl
      simp [hp]
    · rw [if_neg hp] at hl
      obtain ⟨a', rfl, hI', hsrc, hrd⟩ := hl
      simp only [after_cont]
      rw [if_neg hp]
      refine ⟨a'.rd, ?_⟩
      have hsuf : (if o'.s.st = St.done ∧ o'.suffix = none then (E.buffered a').bind fun t6 => some (some t6)
          else some o'.suffix) = some (finishSuffix o').1 := by
        unfold finishSuffix
        by_cases hc : o'.s.st = St.done ∧ o'.suffix = none
        · rw [if_pos hc, hE.buf a' hI', hrd hc.2]
          simp [hc.1, hc.2]
        · rw [if_neg hc]
          simp [hc]
      rw [hsuf]
      simp only [Option.bind_some]
      by_cases hgs : o'.s.gs = []
      · simp [hgs]
      · rw [if_pos hgs]
        simp only [hg, ha, hN]
        cases o.nameArguments <;> simp [hgs, snapOf, ScanSt.snapshot]

/-- the option gate: a nil `*Opts` -/
theorem tie_ScanSnapshot_nil (E : Env) (src : Src) (w : Bytes) :
    TrRd.ScanSnapshot E src w none = some ((src, w), (none, none, some GErr.invalidOpts)) := rfl

/-- the option gate: `isValid` says no; nothing is read, nothing is written -/
theorem tie_ScanSnapshot_invalid (E : Env) (src : Src) (w : Bytes) (o : Cli.Opts) (hv : E.isValid o = false) :
    TrRd.ScanSnapshot E src w (some o) = some ((src, w), (none, none, some GErr.invalidOpts)) := by
  unfold TrRd.ScanSnapshot
  simp [hv]

/-! ### the closed environment: every callee IS the translated function -/

/-- the oracles of `O` (scratch bytes, `scan`, `isValid`, the post-processing, the writer: all arbitrary), no callee yet, and
the fuel the model's lemmas show to suffice -/
def baseEnv (O : Env) : Env :=
  { O with fill := fun _ => none, buffered := fun _ => none, readSlice := fun _ => none, readLine := fun _ => none,
           ScanSnapshot := fun _ _ _ => none,
           fuel_readSlice := fun _ => bufN + 2, fuel_readLine := fun st => lineFuel (absRd st.1),
           fuel_ScanSnapshot := fun st => (absRd st.2.2.1).src.rest.length + 3 }

/-- the environment in which every function of the group is the translated one (built bottom-up along the acyclic
call graph fill ← readSlice ← readLine ← ScanSnapshot) -/
def implEnv (O : Env) : Env :=
  let E1 : Env := { baseEnv O with fill := TrRd.fill (baseEnv O), buffered := TrRd.buffered (baseEnv O) }
  let E2 : Env := { E1 with readSlice := TrRd.readSlice E1 }
  let E3 : Env := { E2 with readLine := TrRd.readLine E2 }
  { E3 with ScanSnapshot := TrRd.ScanSnapshot E3 }

/-- `implEnv` is a fixed point of the translated equations: each translated function uses of its environment only the
oracles and the callees below it in the call graph, and the construction leaves those alone -/
theorem implEnv_fix (O : Env) :
    (implEnv O).fill = TrRd.fill (implEnv O) ∧ (implEnv O).buffered = TrRd.buffered (implEnv O) ∧
    (implEnv O).readSlice = TrRd.readSlice (implEnv O) ∧ (implEnv O).readLine = TrRd.readLine (implEnv O) ∧
    (implEnv O).ScanSnapshot = TrRd.ScanSnapshot (implEnv O) :=
  ⟨rfl, rfl, rfl, rfl, rfl⟩

theorem impl_fill (O : Env) : FillRef (implEnv O).fill := tie_fill (baseEnv O)

theorem impl_buffered (O : Env) : BufRef (implEnv O).buffered := tie_buffered (baseEnv O)

theorem impl_readSlice (O : Env) : SliceRef (fun _ => bufN + 2) (implEnv O).readSlice :=
  tie_readSlice { baseEnv O with fill := TrRd.fill (baseEnv O), buffered := TrRd.buffered (baseEnv O) } (tie_fill (baseEnv O))

theorem impl_readLine (O : Env) : LineRef (fun a => lineFuel (absRd a)) (implEnv O).readLine :=
  tie_readLine
    { baseEnv O with fill := TrRd.fill (baseEnv O), buffered := TrRd.buffered (baseEnv O),
                       readSlice := (implEnv O).readSlice } (impl_readSlice O)

/-- the oracles `ScanSnapshot` is tied under: `scan` is the model's `scanBytes` (group ScanSM: `TrSM.tie_scan`), the
`io.Writer` never fails (as in the model), `nameArguments` is the model's -/
structure OraclesOK (O : Env) : Prop where
  scan : ∀ s d, O.scan s d = TrSM.liftR (scanBytes s d)
  write : ∀ w d, O.write w d = (d.length, none)
  names : ∀ gs, O.nameArguments gs = some (PP.nameArguments gs)

theorem impl_ScanEnvOK (O : Env) (hO : OraclesOK O) : ScanEnvOK (implEnv O) :=
  ⟨impl_readLine O, impl_buffered O, hO.scan, hO.write⟩

/-- `ScanSnapshot` in the closed environment against the model's `scanSnapshot` (GuessPaths / AnalyzeSources off, as in
the model; a fresh writer) -/
theorem impl_ScanSnapshot (O : Env) (hO : OraclesOK O) (o : Cli.Opts) (hv : O.isValid o = true)
    (hg : o.guessPaths = false) (ha : o.analyzeSources = false) (src : Src) :
    match PP.scanSnapshot bufN 100 o.nameArguments src with
    | none => True
    | some res =>
      if res.panicked = true then (implEnv O).ScanSnapshot src [] (some o) = none
      else ∃ src', (implEnv O).ScanSnapshot src [] (some o) =
        some ((src', res.fwd), (res.snap.map (snapOf o), res.suffix, res.err.map lerr)) :=
  tie_ScanSnapshot _ (impl_ScanEnvOK O hO) hO.names o hv hg ha src (Nat.le_refl _)

/-- with that fuel the loops do not run dry and nothing panics: on every state that satisfies the invariant the
translated `readLine` returns, and what it returns is what the model's `readLine` returns -/
theorem impl_readLine_total (O : Env) (a : RdA) (hI : RdInv a) :
    ∃ a' l e r', PP.readLine bufN 100 (lineFuel (absRd a)) [] (absRd a) = some (.ok (l, e, r')) ∧
      (implEnv O).readLine a = some (a', (l, e.map SliceErr.rerr)) ∧ RdInv a' ∧ absRd a' = r' := by
  obtain ⟨l, e, r', hr⟩ := readLine_total bufN 100 (absRd a) bufN_pos hI.buf_le
  have h3 := impl_readLine O a hI
  simp only [hr] at h3
  obtain ⟨a', e1, hI', hA'⟩ := h3
  exact ⟨a', l, e, r', hr, e1, hI', hA'⟩

/-- closing the loop with the model's own theorems (`scanSnapshot_total`: the fuel suffices when the source never stalls
100 times in a row; `scanB_not_panicked`: nothing panics from the initial state): in the closed environment, under the
oracle assumptions, the translated `ScanSnapshot` RETURNS, and returns the model's result -/
theorem impl_ScanSnapshot_total (O : Env) (hO : OraclesOK O) (o : Cli.Opts) (hv : O.isValid o = true)
    (hg : o.guessPaths = false) (ha : o.analyzeSources = false) (src : Src) (hR : maxZeroRun src.sched < 100) :
    ∃ res src', PP.scanSnapshot bufN 100 o.nameArguments src = some res ∧ res.panicked = false ∧
      (implEnv O).ScanSnapshot src [] (some o) =
        some ((src', res.fwd), (res.snap.map (snapOf o), res.suffix, res.err.map lerr)) := by
  have h1 := scanSnapshot_total bufN 100 bufN_pos o.nameArguments src hR
  have h2 := impl_ScanSnapshot O hO o hv hg ha src
  cases hres : PP.scanSnapshot bufN 100 o.nameArguments src with
  | none => rw [hres] at h1; simp at h1
  | some res =>
    have hp : res.panicked = false := by
      unfold PP.scanSnapshot at hres
      split at hres
      · cases hres
      · rename_i ob hob
        cases hres
        exact (scanB_not_panicked bufN 100 _ {} [] [] { src := src } inv_init' (by simp) ob hob).1
    rw [hres] at h2
    simp only [hp] at h2
    obtain ⟨src', h3⟩ := h2
    exact ⟨res, src', rfl, hp, h3⟩

/-- the oracle assumptions are satisfiable -/
example : ∃ O : Env, OraclesOK O :=
  ⟨{ fill := fun _ => none, buffered := fun _ => none, readSlice := fun _ => none, readLine := fun _ => none,
     ScanSnapshot := fun _ _ _ => none, scan := fun s d => TrSM.liftR (scanBytes s d), isValid := Cli.Opts.isValid,
     nameArguments := fun gs => some (PP.nameArguments gs), guessPaths := some, augment := some,
     write := fun _ d => (d.length, none), scratch := fun _ => [], fuel_readSlice := fun _ => 0,
     fuel_readLine := fun _ => 0, fuel_ScanSnapshot := fun _ => 0 }, ⟨fun _ _ => rfl, fun _ _ => rfl, fun _ => rfl⟩⟩

/-- the refinement statements are not vacuous: a `fill` on the initial state of a reader over a non-empty source -/
example (O : Env) (src : Src) :
    ∃ a', (implEnv O).fill (initRdA src) = some a' ∧ RdInv a' ∧ absRd a' = fillLoop bufN 100 { src := src } := by
  have h := impl_fill O (initRdA src) (RdInv_init src)
  rw [absRd_init] at h
  have h0 : ¬ bufN = 0 := by decide
  simpa [PP.fill, h0] using h

#print axioms tie_fill
#print axioms tie_buffered
#print axioms tie_readSlice
#print axioms tie_readLine
#print axioms implEnv_fix
#print axioms impl_readLine
#print axioms impl_readLine_total
#print axioms tie_ScanSnapshot
#print axioms tie_ScanSnapshot_nil
#print axioms tie_ScanSnapshot_invalid
#print axioms impl_ScanSnapshot
#print axioms impl_ScanSnapshot_total

end PP.TrRd
