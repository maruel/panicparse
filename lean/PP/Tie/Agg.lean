import PP.Extracted
import PP.Model.Types
/- Pins for the aggregation model: the declaration order of the Go enums `Similarity` and
`Location`.  The constructors of the model's `Lvl` and `Loc` (PP/Model/Types.lean) are written in
this order; no statement here compares them (the names of `Loc` are compared with
`locationOrder` by `pin_location_names` in PP/Tie/Html.lean). -/
namespace PP.Tie
theorem pin_similarityOrder :
    PP.Extracted.similarityOrder = ["ExactFlags", "ExactLines", "AnyPointer", "AnyValue"] := rfl
theorem pin_locationOrder :
    PP.Extracted.locationOrder = ["LocationUnknown", "GoMod", "GOPATH", "GoPkg", "Stdlib", "lastLocation"] := rfl
theorem pin_lastLocation : PP.Extracted.lastLocation = 5 := rfl
end PP.Tie
