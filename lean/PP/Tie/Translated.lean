import PP.Translated
import PP.Lemmas.SigLaws
import PP.Lemmas.Less
/-
Agreement theorems for the comparison / merge family of stack.go (tie A of
DESIGN.md).  The family is *translated* from /repo's current source on every run
(`extract/translate.go` → `PP/Translated.lean`), and this file proves that the
hand-written model (`PP/Model/Sig.lean`), on which C03 C04 C05 C06 C12 C13 C14
rest, satisfies every one of the translated equations:

    Tr.f modelEnv args = modelEnv.f args          for each translated f

`modelEnv` maps every Go function to its model counterpart (`none` where the
model says Go panics with an index out of range).  The Go functions are
structurally recursive over finite argument trees, so the equations have a
unique solution: the model *is* the meaning of the translated code.  A change
of the Go source changes `PP/Translated.lean`; if the new code no longer
agrees with the model, one of the theorems below stops checking — by name.
-/
namespace PP.Tr
open PP PP.Go

/-- Signature.less with Go's evaluation order: the reverse stack comparison is
only evaluated when the first one is false. -/
def sigLess? (s r : Signature) : Option Bool :=
  (Stack.less? s.stack r.stack).bind fun t1 =>
  if t1 then some true else
  (Stack.less? r.stack s.stack).bind fun t2 =>
  if t2 then some false else
  if s.locked && !r.locked then some true
  else if r.locked && !s.locked then some false
  else some (bytesLt s.state r.state)

def modelEnv : Env where
  Arg_equal a r := some (Arg.equal a r)
  Arg_similar a r l := some (Arg.similar l a r)
  Args_equal a r := some (Args.equal a r)
  Args_similar a r l := some (Args.similar l a r)
  Args_merge a r := if Arg.shapeOKL a.values r.values then some (Args.merge a r) else none
  Call_equal c r := some (Call.equal c r)
  Call_similar c r l := some (Call.similar l c r)
  Call_merge c r := if Arg.shapeOKL c.args.values r.args.values then some (Call.merge c r) else none
  Stack_equal s r := some (Stack.equal s r)
  Stack_similar s r l := some (Stack.similar l s r)
  Stack_merge s r := if callsShapeOK s.calls r.calls then some (Stack.merge s r) else none
  Stack_less s r := Stack.less? s r
  Signature_equal s r := some (Signature.equal s r)
  Signature_similar s r l := some (Signature.similar l s r)
  Signature_merge s r := if Signature.shapeOK s r then some (Signature.merge s r) else none
  Signature_less s r := sigLess? s r

@[simp] theorem mE_Arg_equal (a r : Arg) : modelEnv.Arg_equal a r = some (Arg.equal a r) := rfl
@[simp] theorem mE_Arg_similar (a r : Arg) (l : Lvl) : modelEnv.Arg_similar a r l = some (Arg.similar l a r) := rfl
@[simp] theorem mE_Args_equal (a r : Args) : modelEnv.Args_equal a r = some (Args.equal a r) := rfl
@[simp] theorem mE_Args_similar (a r : Args) (l : Lvl) : modelEnv.Args_similar a r l = some (Args.similar l a r) := rfl
@[simp] theorem mE_Args_merge (a r : Args) :
    modelEnv.Args_merge a r = if Arg.shapeOKL a.values r.values then some (Args.merge a r) else none := rfl
@[simp] theorem mE_Call_equal (a r : Call) : modelEnv.Call_equal a r = some (Call.equal a r) := rfl
@[simp] theorem mE_Call_similar (a r : Call) (l : Lvl) : modelEnv.Call_similar a r l = some (Call.similar l a r) := rfl
@[simp] theorem mE_Call_merge (c r : Call) :
    modelEnv.Call_merge c r = if Arg.shapeOKL c.args.values r.args.values then some (Call.merge c r) else none := rfl
@[simp] theorem mE_Stack_equal (a r : Stack) : modelEnv.Stack_equal a r = some (Stack.equal a r) := rfl
@[simp] theorem mE_Stack_similar (a r : Stack) (l : Lvl) : modelEnv.Stack_similar a r l = some (Stack.similar l a r) := rfl
@[simp] theorem mE_Stack_merge (s r : Stack) :
    modelEnv.Stack_merge s r = if callsShapeOK s.calls r.calls then some (Stack.merge s r) else none := rfl
@[simp] theorem mE_Stack_less (s r : Stack) : modelEnv.Stack_less s r = Stack.less? s r := rfl
@[simp] theorem mE_Signature_equal (a r : Signature) : modelEnv.Signature_equal a r = some (Signature.equal a r) := rfl
@[simp] theorem mE_Signature_similar (a r : Signature) (l : Lvl) :
    modelEnv.Signature_similar a r l = some (Signature.similar l a r) := rfl
@[simp] theorem mE_Signature_merge (s r : Signature) :
    modelEnv.Signature_merge s r = if Signature.shapeOK s r then some (Signature.merge s r) else none := rfl
@[simp] theorem mE_Signature_less (s r : Signature) : modelEnv.Signature_less s r = sigLess? s r := rfl

/-! ### Go idioms -/

/-- `if a != b { return false }; return x` -/
theorem guard_ne {α : Type} [BEq α] (a b : α) (x : Bool) :
    (if (a != b) = true then some false else some x) = some (a == b && x) := by
  cases h : a == b <;> simp [bne, h]

/-- a loop that returns `false` at the first failing element, followed by `return true` -/
theorem after_all (b : Bool) :
    after (some (if b then Step.cont () else Step.ret false) : Option (Step Unit Bool))
      (fun _ => some true) = some b := by
  cases b <;> rfl

theorem getElem?_of_drop_nil {α : Type} {l : List α} {k : Nat} (h : l.drop k = []) :
    l[k]? = none :=
  List.getElem?_eq_none_iff.2 (List.drop_eq_nil_iff.1 h)

theorem tie_Arg_equal (a r : Arg) : Arg_equal modelEnv a r = modelEnv.Arg_equal a r := by
  simp [Arg_equal, Arg.equal]

theorem tie_Arg_similar (a r : Arg) (l : Lvl) : Arg_similar modelEnv a r l = modelEnv.Arg_similar a r l := by
  cases a <;> cases r
  · unfold Arg_similar
    -- the conditions of the `if`s carry their terms in the `Decidable` instances too
    dsimp (config := { instances := true }) only [ofArg_scalar, mE_Arg_similar]
    simp only [guard_ne, ← Bool.and_assoc]
    cases l <;> rfl
  · rfl
  · rfl
  · simp [Arg_similar, Arg.similar, Args.similar]

theorem loop_Args_similar (l : Lvl) (a r : Args) :
    ∀ (xs ys : List Arg) (k : Nat), r.values.drop k = ys → xs.length = ys.length →
    forRange (Args_similar_loop1 modelEnv a r l) xs k () =
    some (if Arg.similarL l xs ys then Step.cont () else Step.ret false)
  | [], [], _, _, _ => rfl
  | x :: xs, y :: ys, k, hr, hl => by
    obtain ⟨hy, hys⟩ := drop_cons_inv hr
    rw [forRange_cons]
    simp only [Args_similar_loop1, hy, mE_Arg_similar, Option.bind_some, Arg.similarL]
    by_cases hp : Arg.similar l x y = true
    · simpa [hp] using loop_Args_similar l a r xs ys (k + 1) hys (Nat.succ.inj hl)
    · simp [hp]
  | [], _ :: _, _, _, hl => by cases hl
  | _ :: _, [], _, _, hl => by cases hl

theorem tie_Args_similar (a r : Args) (l : Lvl) : Args_similar modelEnv a r l = modelEnv.Args_similar a r l := by
  simp only [Args_similar, mE_Args_similar, Args.similar, len]
  by_cases hl : a.values.length = r.values.length
  · rw [loop_Args_similar l a r a.values r.values 0 rfl hl, after_all]
    by_cases he : a.elided = r.elided <;> simp [hl, he]
  · have hs : Arg.similarL l a.values r.values = false :=
      Bool.eq_false_iff.2 fun h => hl (Arg.similarL_length l _ _ h)
    simp [hl, hs]

/-- Args.equal's loop is Args.similar's loop at ExactFlags -/
theorem Args_equal_loop1_eq (a r : Args) :
    Args_equal_loop1 modelEnv a r = Args_similar_loop1 modelEnv a r Lvl.exactFlags := by
  funext i l st
  simp [Args_equal_loop1, Args_similar_loop1, Arg.equal]

theorem tie_Args_equal (a r : Args) : Args_equal modelEnv a r = modelEnv.Args_equal a r := by
  have := tie_Args_similar a r Lvl.exactFlags
  simp only [Args_similar, mE_Args_similar] at this
  simp only [Args_equal, Args_equal_loop1_eq, mE_Args_equal, Args.equal]
  exact this

/-- one iteration of Args.merge's loop fills the slot `out.Values[i]` (still the zero `Arg`) with
the model's `Arg.merge`; it panics exactly where `Arg.shapeOK` fails -/
theorem Args_merge_step (a r : Args) (done rest : List Arg) (e : Bool) (x y : Arg)
    (hy : r.values[done.length]? = some y) :
    Args_merge_loop1 modelEnv a r done.length x { values := done ++ zeroArg :: rest, elided := e } =
    if Arg.shapeOK x y then
      some (Step.cont ({ values := done ++ Arg.merge x y :: rest, elided := e } : Args))
    else none := by
  simp only [Args_merge_loop1, hy, Option.bind_some, getElem?_append_cons_self, set_append_cons_self,
    ofArg_zeroArg]
  cases x with
  | scalar n v p o i =>
    simp only [ofArg_scalar, Bool.false_eq_true, if_false, mE_Arg_equal, Option.bind_some,
      Arg.shapeOK, if_true, Arg.merge]
    by_cases he : Arg.equal (Arg.scalar n v p o i) y = true <;>
      simp [he, ArgS.toArg]
  | agg fs el =>
    simp only [ofArg_agg, if_true, mE_Args_merge, ArgS.toArg]
    cases y with
    | scalar n' v' p' o' i' =>
      simp only [Arg.shapeOK, Arg.merge, ofArg_scalar, Arg.mergeL_nil]
      by_cases hs : Arg.shapeOKL fs [] = true <;> simp [hs, Args.merge, Arg.mergeL_nil]
    | agg fs' el' =>
      simp only [Arg.shapeOK, Arg.merge, ofArg_agg]
      by_cases hs : Arg.shapeOKL fs fs' = true <;> simp [hs, Args.merge]

theorem loop_Args_merge (a r : Args) (e : Bool) :
    ∀ (xs ys done : List Arg), r.values.drop done.length = ys →
    forRange (Args_merge_loop1 modelEnv a r) xs done.length
      { values := done ++ List.replicate xs.length zeroArg, elided := e } =
    if Arg.shapeOKL xs ys then
      some (Step.cont ({ values := done ++ Arg.mergeL xs ys, elided := e } : Args))
    else none
  | [], _, done, _ => by simp [Arg.shapeOKL, Arg.mergeL]
  | x :: xs, [], done, hr => by
    rw [forRange_cons]
    simp [Args_merge_loop1, getElem?_of_drop_nil hr, Arg.shapeOKL]
  | x :: xs, y :: ys, done, hr => by
    obtain ⟨hy, hys⟩ := drop_cons_inv hr
    have ih := loop_Args_merge a r e xs ys (done ++ [Arg.merge x y]) (by simpa using hys)
    simp only [List.length_append, List.length_cons, List.length_nil, Nat.zero_add, List.append_assoc,
      List.singleton_append] at ih
    rw [forRange_cons, List.length_cons, List.replicate_succ, Args_merge_step a r done _ e x y hy]
    simp only [Arg.shapeOKL, Arg.mergeL]
    by_cases hs : Arg.shapeOK x y = true
    · simp only [hs, if_true, Bool.true_and]; exact ih
    · simp [hs]

theorem tie_Args_merge (a r : Args) : Args_merge modelEnv a r = modelEnv.Args_merge a r := by
  have := loop_Args_merge a r a.elided a.values r.values [] rfl
  simp only [List.nil_append, List.length_nil] at this
  simp only [Args_merge, len, this, mE_Args_merge, Args.merge]
  by_cases hs : Arg.shapeOKL a.values r.values = true <;> simp [hs]

theorem tie_Call_similar (c r : Call) (l : Lvl) : Call_similar modelEnv c r l = modelEnv.Call_similar c r l := by
  simp only [Call_similar, mE_Args_similar, Option.bind_some, mE_Call_similar, Call.similar]
  cases c.line == r.line && c.fn.complete == r.fn.complete && c.remoteSrcPath == r.remoteSrcPath <;> simp

theorem tie_Call_equal (c r : Call) : Call_equal modelEnv c r = modelEnv.Call_equal c r := by
  simp only [Call_equal, mE_Args_equal, Option.bind_some, mE_Call_equal, Call.equal, Call.similar, Args.equal]
  cases c.line == r.line && c.fn.complete == r.fn.complete && c.remoteSrcPath == r.remoteSrcPath <;> simp

theorem tie_Call_merge (c r : Call) : Call_merge modelEnv c r = modelEnv.Call_merge c r := by
  simp only [Call_merge, mE_Args_merge, mE_Call_merge, Call.merge]
  by_cases hs : Arg.shapeOKL c.args.values r.args.values = true <;> simp [hs]

/-! ### Stack: equal, similar, merge -/

theorem loop_Stack_similar (l : Lvl) (s r : Stack) :
    ∀ (xs ys : List Call) (k : Nat), s.calls.drop k = xs → r.calls.drop k = ys →
    xs.length = ys.length →
    forRange (Stack_similar_loop1 modelEnv s r l) xs k () =
    some (if callsSimilar l xs ys then Step.cont () else Step.ret false)
  | [], [], _, _, _, _ => rfl
  | x :: xs, y :: ys, k, hs, hr, hl => by
    obtain ⟨hx, hxs⟩ := drop_cons_inv hs
    obtain ⟨hy, hys⟩ := drop_cons_inv hr
    rw [forRange_cons]
    simp only [Stack_similar_loop1, hx, hy, mE_Call_similar, Option.bind_some, callsSimilar]
    by_cases hp : Call.similar l x y = true
    · simpa [hp] using loop_Stack_similar l s r xs ys (k + 1) hxs hys (Nat.succ.inj hl)
    · simp [hp]
  | [], _ :: _, _, _, _, hl => by cases hl
  | _ :: _, [], _, _, _, hl => by cases hl

theorem tie_Stack_similar (s r : Stack) (l : Lvl) : Stack_similar modelEnv s r l = modelEnv.Stack_similar s r l := by
  simp only [Stack_similar, mE_Stack_similar, Stack.similar, len]
  by_cases hl : s.calls.length = r.calls.length
  · rw [loop_Stack_similar l s r s.calls r.calls 0 rfl rfl hl, after_all]
    by_cases he : s.elided = r.elided <;> simp [hl, he]
  · have hs : callsSimilar l s.calls r.calls = false :=
      Bool.eq_false_iff.2 fun h => hl (callsSimilar_length l _ _ h)
    simp [hl, hs]

theorem Stack_equal_loop1_eq (s r : Stack) :
    Stack_equal_loop1 modelEnv s r = Stack_similar_loop1 modelEnv s r Lvl.exactFlags := by
  funext i x st
  simp [Stack_equal_loop1, Stack_similar_loop1, Call.equal]

theorem tie_Stack_equal (s r : Stack) : Stack_equal modelEnv s r = modelEnv.Stack_equal s r := by
  have := tie_Stack_similar s r Lvl.exactFlags
  simp only [Stack_similar, mE_Stack_similar] at this
  simp only [Stack_equal, Stack_equal_loop1_eq, mE_Stack_equal, Stack.equal]
  exact this

theorem callsMerge_nil (cs : List Call) : callsMerge cs [] = cs := by cases cs <;> simp [callsMerge]

theorem loop_Stack_merge (s r : Stack) (e : Bool) :
    ∀ (xs ys done : List Call), s.calls.drop done.length = xs → r.calls.drop done.length = ys →
    forRange (Stack_merge_loop1 modelEnv s r) xs done.length
      { calls := done ++ List.replicate xs.length zeroCall, elided := e } =
    if callsShapeOK xs ys then
      some (Step.cont ({ calls := done ++ callsMerge xs ys, elided := e } : Stack))
    else none
  | [], _, done, _, _ => by simp [callsShapeOK, callsMerge]
  | x :: xs, [], done, hs, hr => by
    rw [forRange_cons]
    simp [Stack_merge_loop1, (drop_cons_inv hs).1, getElem?_of_drop_nil hr, callsShapeOK]
  | x :: xs, y :: ys, done, hs, hr => by
    obtain ⟨hx, hxs⟩ := drop_cons_inv hs
    obtain ⟨hy, hys⟩ := drop_cons_inv hr
    have ih := loop_Stack_merge s r e xs ys (done ++ [Call.merge x y]) (by simpa using hxs)
      (by simpa using hys)
    simp only [List.length_append, List.length_cons, List.length_nil, Nat.zero_add, List.append_assoc,
      List.singleton_append] at ih
    rw [forRange_cons]
    simp only [Stack_merge_loop1, hx, hy, Option.bind_some, List.length_cons, mE_Call_merge,
      callsShapeOK, callsMerge]
    by_cases hsh : Arg.shapeOKL x.args.values y.args.values = true
    · simp only [hsh, if_true, Option.bind_some, List.replicate_succ, getElem?_append_cons_self,
        set_append_cons_self, Bool.true_and]
      exact ih
    · simp [hsh]

theorem tie_Stack_merge (s r : Stack) : Stack_merge modelEnv s r = modelEnv.Stack_merge s r := by
  have := loop_Stack_merge s r s.elided s.calls r.calls [] rfl rfl
  simp only [List.nil_append, List.length_nil] at this
  simp only [Stack_merge, len, this, mE_Stack_merge, Stack.merge]
  by_cases hs : callsShapeOK s.calls r.calls = true <;> simp [hs]

/-! ### Stack.less -/

/-- the two counting loops have the same body -/
theorem less_loop2_eq (E : Env) (s r : Stack) (x : List Nat) (y : Nat) :
    Stack_less_loop2 E s r x y = Stack_less_loop1 E s r x y := rfl

theorem less_loop1_step (E : Env) (s r : Stack) (rl : List Nat) (rm k : Nat) (c : Call)
    (a0 a1 a2 a3 a4 m : Nat) :
    Stack_less_loop1 E s r rl rm k c ([a0, a1, a2, a3, a4], m) =
    some (.cont ([a0 + (if c.location = .unknown then 1 else 0),
      a1 + (if c.location = .goMod then 1 else 0), a2 + (if c.location = .gopath then 1 else 0),
      a3 + (if c.location = .goPkg then 1 else 0), a4 + (if c.location = .stdlib then 1 else 0)],
      m + (if c.fn.isPkgMain then 1 else 0))) := by
  unfold Stack_less_loop1
  cases c.location <;> cases c.fn.isPkgMain <;> rfl

theorem loop_less1 (E : Env) (s r : Stack) (rl : List Nat) (rm : Nat) :
    ∀ (cs : List Call) (k a0 a1 a2 a3 a4 m : Nat),
    forRange (Stack_less_loop1 E s r rl rm) cs k ([a0, a1, a2, a3, a4], m) =
    some (Step.cont ([a0 + countLoc cs .unknown, a1 + countLoc cs .goMod, a2 + countLoc cs .gopath,
      a3 + countLoc cs .goPkg, a4 + countLoc cs .stdlib], m + countMain cs))
  | [], _, _, _, _, _, _, _ => rfl
  | c :: cs, k, a0, a1, a2, a3, a4, m => by
    simp only [forRange_cons, less_loop1_step, loop_less1 E s r rl rm cs, countLoc_cons,
      countMain_cons, Nat.add_assoc]

/-- one iteration of the loop over locations 1..4 is one step of `histoCmp` -/
theorem less_loop3_cons (E : Env) (s r : Stack) (lLoc rLoc : List Nat) (lm rm i k a b : Nat)
    (is : List Nat) (K : Unit → Option Bool) (hl : lLoc[i]? = some a) (hr : rLoc[i]? = some b) :
    after (forRange (Stack_less_loop3 E s r lLoc rLoc lm rm) (i :: is) k ()) K =
    if a > b then some true else if a < b then some false
    else after (forRange (Stack_less_loop3 E s r lLoc rLoc lm rm) is (k + 1) ()) K := by
  rw [forRange_cons]
  simp only [Stack_less_loop3, hl, hr, Option.bind_some, decide_eq_true_eq]
  by_cases h1 : a > b
  · simp [h1]
  · by_cases h2 : a < b <;> simp [h1, h2]

/-- one frame, as Go tests it -/
theorem less_loop4_step (E : Env) (s r : Stack) (lLoc rLoc : List Nat) (lm rm k : Nat) (c x y : Call)
    (hx : s.calls[k]? = some x) (hy : r.calls[k]? = some y) :
    Stack_less_loop4 E s r lLoc rLoc lm rm k c () =
    some ((callCmp x y).pick (.ret true) (.ret false) (.cont ())) := by
  simp only [Stack_less_loop4, hx, hy, Option.bind_some, strLt, callCmp_pick, apply_ite some,
    decide_eq_true_eq, gt_iff_lt]

theorem loop_less4 (E : Env) (s r : Stack) (lLoc rLoc : List Nat) (lMain rMain : Nat) :
    ∀ (xs ys : List Call) (k : Nat), s.calls.drop k = xs → r.calls.drop k = ys →
    forRange (Stack_less_loop4 E s r lLoc rLoc lMain rMain) xs k () =
    match framesCmp xs ys with
    | none => none
    | some .lt => some (Step.ret true)
    | some .gt => some (Step.ret false)
    | some .eq => some (Step.cont ())
  | [], _, _, _, _ => rfl
  | x :: xs, [], k, hs, hr => by
    rw [forRange_cons]
    simp [Stack_less_loop4, (drop_cons_inv hs).1, getElem?_of_drop_nil hr, framesCmp]
  | x :: xs, y :: ys, k, hs, hr => by
    obtain ⟨hx, hxs⟩ := drop_cons_inv hs
    obtain ⟨hy, hys⟩ := drop_cons_inv hr
    rw [forRange_cons, less_loop4_step E s r lLoc rLoc lMain rMain k x x y hx hy, framesCmp_cons]
    cases callCmp x y
    · rfl
    · exact loop_less4 E s r lLoc rLoc lMain rMain xs ys (k + 1) hxs hys
    · rfl

theorem less_loop4_after (E : Env) (s r : Stack) (lLoc rLoc : List Nat) (lMain rMain : Nat) :
    after (forRange (Stack_less_loop4 E s r lLoc rLoc lMain rMain) s.calls 0 ()) (fun _ => some false) =
    (framesCmp s.calls r.calls).map (· == .lt) := by
  rw [loop_less4 E s r lLoc rLoc lMain rMain s.calls r.calls 0 rfl rfl]
  cases framesCmp s.calls r.calls with
  | none => rfl
  | some o => cases o <;> rfl

theorem tie_Stack_less (s r : Stack) : Stack_less modelEnv s r = modelEnv.Stack_less s r := by
  simp only [Stack_less, mE_Stack_less, stackLess?_pick, histo, less_loop2_eq,
    show List.replicate 5 0 = [0, 0, 0, 0, 0] from rfl, loop_less1, after_cont, Nat.zero_add,
    show List.range' 1 (5 - 1) = [1, 2, 3, 4] from rfl]
  -- both sides are now the same chain of twelve tests, one `histoCmp` step per counter
  rw [less_loop3_cons _ _ _ _ _ _ _ _ _ _ _ _ _ rfl rfl, less_loop3_cons _ _ _ _ _ _ _ _ _ _ _ _ _ rfl rfl,
    less_loop3_cons _ _ _ _ _ _ _ _ _ _ _ _ _ rfl rfl, less_loop3_cons _ _ _ _ _ _ _ _ _ _ _ _ _ rfl rfl]
  simp only [histoCmp_cons_pick, forRange_nil, after_cont, locIdx, Loc.toNat, List.getElem?_cons_zero,
    Option.bind_some, decide_eq_true_eq, less_loop4_after]
  rfl

/-! ### Signature: equal, similar, merge, less -/

theorem tie_Signature_equal (s r : Signature) : Signature_equal modelEnv s r = modelEnv.Signature_equal s r := by
  simp only [Signature_equal, mE_Stack_equal, Option.bind_some, mE_Signature_equal, Signature.equal,
    ite_some_some, Bool.if_true_left, Bool.if_false_left, Bool.decide_eq_true, bne]
  -- a Boolean identity: the chain of early returns is the conjunction
  generalize (s.state == r.state) = a, Stack.equal s.createdBy r.createdBy = e,
    (s.locked == r.locked) = l, (s.sleepMin == r.sleepMin) = m, (s.sleepMax == r.sleepMax) = n,
    Stack.equal s.stack r.stack = x
  revert a e l m n x
  decide

theorem tie_Signature_similar (s r : Signature) (l : Lvl) :
    Signature_similar modelEnv s r l = modelEnv.Signature_similar s r l := by
  simp only [Signature_similar, mE_Stack_similar, Option.bind_some, mE_Signature_similar,
    Signature.similar, ite_some_some, Bool.if_true_left, Bool.if_false_left, Bool.decide_eq_true, bne]
  generalize (s.state == r.state) = a, Stack.similar l s.createdBy r.createdBy = e,
    (s.locked == r.locked) = k, Stack.similar l s.stack r.stack = x, (l == Lvl.exactFlags) = f
  revert a e k f x
  decide

theorem tie_Signature_merge (s r : Signature) : Signature_merge modelEnv s r = modelEnv.Signature_merge s r := by
  simp only [Signature_merge, mE_Stack_merge, mE_Signature_merge, Signature.shapeOK, Signature.merge]
  by_cases hs : callsShapeOK s.stack.calls r.stack.calls = true
  · simp only [hs, if_true, Option.bind_some, Option.some.injEq]
    congr 1
    · simp only [decide_eq_true_eq]; split <;> omega
    · simp only [decide_eq_true_eq]; split <;> omega
  · simp [hs]

theorem tie_Signature_less (s r : Signature) : Signature_less modelEnv s r = modelEnv.Signature_less s r := by
  simp only [Signature_less, mE_Stack_less, mE_Signature_less, sigLess?, strLt, ite_some_some, ite_self,
    Bool.if_true_left, Bool.decide_eq_true, Bool.or_false]

/-- `Stack.less?` is never `none` (`stackLess?_eq`), so Go's evaluation order computes the model's
total `Signature.less` -/
theorem sigLess?_eq (s r : Signature) : sigLess? s r = some (Signature.less s r) := by
  simp only [sigLess?, Signature.less, Stack.less, stackLess?_eq, Option.bind_some, Option.getD_some,
    ite_some_some]

theorem sigLess?_eq_less (s r : Signature) (b : Bool) (h : sigLess? s r = some b) : Signature.less s r = b := by
  rw [sigLess?_eq] at h; exact Option.some.inj h

/-! ### the comparison closure of Aggregate -/

/-- the translated closure never panics and computes the model's `bucketLess` -/
theorem Aggregate_sortLess_eq (l r : Bkt) : Aggregate_sortLess modelEnv l r = some (bucketLess l r) := by
  simp only [Aggregate_sortLess, mE_Signature_less, sigLess?_eq, Option.bind_some, bucketLess, len,
    ite_some_some, bne, gt_iff_lt]

/-- `Aggregate_sortLess_eq` read from the result: whatever the translated closure
answers is the model's `bucketLess`. -/
theorem tie_Aggregate_sortLess (l r : Bkt) (b : Bool) (h : Aggregate_sortLess modelEnv l r = some b) :
    bucketLess l r = b := by
  rw [Aggregate_sortLess_eq] at h; exact Option.some.inj h

set_option linter.unusedVariables false in
theorem tie_Aggregate_sortLess_safe (l r : Bkt)
    (h1 : Signature.lessSafe l.key r.key = true) (h2 : Signature.lessSafe r.key l.key = true) :
    Aggregate_sortLess modelEnv l r = some (bucketLess l r) :=
  Aggregate_sortLess_eq l r

end PP.Tr

#print axioms PP.Tr.tie_Arg_equal
#print axioms PP.Tr.tie_Arg_similar
#print axioms PP.Tr.tie_Args_equal
#print axioms PP.Tr.tie_Args_similar
#print axioms PP.Tr.tie_Args_merge
#print axioms PP.Tr.tie_Call_equal
#print axioms PP.Tr.tie_Call_similar
#print axioms PP.Tr.tie_Call_merge
#print axioms PP.Tr.tie_Stack_equal
#print axioms PP.Tr.tie_Stack_similar
#print axioms PP.Tr.tie_Stack_merge
#print axioms PP.Tr.tie_Stack_less
#print axioms PP.Tr.tie_Signature_equal
#print axioms PP.Tr.tie_Signature_similar
#print axioms PP.Tr.tie_Signature_merge
#print axioms PP.Tr.tie_Signature_less
#print axioms PP.Tr.sigLess?_eq
#print axioms PP.Tr.sigLess?_eq_less
#print axioms PP.Tr.tie_Aggregate_sortLess
#print axioms PP.Tr.tie_Aggregate_sortLess_safe
