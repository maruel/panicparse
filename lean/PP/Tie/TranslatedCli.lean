import PP.TranslatedCli
import PP.Props.CLI
/-
Agreement theorems for group Cli (tie A of DESIGN.md): the filter loop of the command,
internal/main.go `showBanner`, `processInner`, `process`, translated from the Go source on every run
(`PP/TranslatedCli.lean`, run-time support `PP/Go/PreludeCli.lean`) and proved equal to the
hand-written model `PP/Model/Cli.lean` (`showBanner`, `isRace`, `renderSnapshot`, `renderOpt`,
`statusOf`, `processL`, `processFuel`, `processOpts`, `process`).

The translated functions thread the `CWorld` (the output trace); the outside
(`stack.ScanSnapshot`, `io.MultiReader`, `Aggregate`, the four renderers, `out.Write`,
`os.Getenv`, the environment `stack.DefaultOpts` reads, the fuel of the unbounded loop) are
oracles of the generated `Env`.  Sections 1–3 are for EVERY environment (only its oracle
fields matter), every world, stream, writer and option set.

What the model does not have (the `-html` renderers, writers and renderers that fail, `rebase` /
`parse`, the events) is added HERE as `innerSpec` / `loopSpec` / `processSpec`, built from the
model's functions; section 5 shows that with the oracles the model assumes (line-level
`ScanSnapshot`, a `MultiReader` that delivers the suffix and then the rest, renderers that are the
model's and never fail, `html = ""`, `rebase = false`) the bytes the translated `process` sends to
`out` and the error it returns ARE the model's `Cli.process` (`tie_process`).

Sections: 1. `showBanner`, `processInner` (`tie_showBanner_any`, `tie_processInner_gen`); 2. the loop
(`body_process`, `loop_process`, `tie_process_gen`); 3. `modelEnv`, the fixed-point form
(`tie_showBanner`, `tie_processInner`, `tie_process_modelEnv`), the three functions composed (`tie_closed`); 4. fuel (`loopSpec_mono`);
5. projection onto `PP/Model/Cli.lean`: `innerSpec_model` (= `renderSnapshot`), `loopSpec_model` /
`tie_process` (= `processL` / `process`, line level), `loopSpec_modelB` / `tie_processB`
(= `processB` with `scanCallB` and `multiReader`, byte level); non-vacuity.

Observation (not a defect of the model): in `process` the error of the final `out.Write(suffix)`
can never be returned — that statement is only reached with `err != nil`, so its
`if …; err == nil { err = err1 }` is dead (`body_process`: `finishStep` does not depend on
`Env.writeErr`); and the parameter `first` of `processInner` is unused.
-/
namespace PP.TrC
open PP PP.Go

/-! ## 1. showBanner, processInner -/

/-- `showBanner()` in the environment `O`: the model's `Cli.showBanner` of `$GOTRACEBACK` -/
def bannerOf (O : Env) : Bool := Cli.showBanner (O.getenv b!"GOTRACEBACK")

/-- `showBanner` is the model, in EVERY environment; the world is untouched -/
theorem tie_showBanner_any (E : Env) (w : CWorld) : TrC.showBanner E w = some (w, bannerOf E) := rfl

def fmtGOROOT : Bytes := b!"GOROOT=%s"
def fmtGOPATH : Bytes := b!"GOPATH=%s"

/-- the world after the two `log.Printf` of `processInner` -/
def logWorld (w : CWorld) : CWorld := (w.logPrintf fmtGOROOT).logPrintf fmtGOPATH

/-- `processInner(out, p, s, pf, html, filter, match, c, first)` as a function of the world, from
the model's `Cli.isRace` and `Cli.showBanner` (`none`: a panic — a nil `c`, `IsRace` on an empty
goroutine list, `Aggregate`).  With `html = ""` and renderers that are the model's this is
`Cli.renderSnapshot` (`innerSpec_model`). -/
def innerSpec (O : Env) (w : CWorld) (out : CWriter) (p : PaletteRef) (s : Lvl) (pf : Console.PathFormat)
    (html : Bytes) (filter mtch : CRe) (c : SnapRef) : Option (CWorld × GoErr) :=
  match c with
  | none => none
  | some snap =>
    match Cli.isRace snap.goroutines with
    | .error _ => none
    | .ok false =>
      match O.aggregate (some snap) s with
      | none => none
      | some a =>
        if html == [] then
          some (CWorld.writeBuckets O.writeBuckets (logWorld w) out p a pf
            (snap.goroutines.length == 1 && bannerOf O) filter mtch)
        else some (CWorld.htmlAgg O.htmlAgg (logWorld w) a html (snap.goroutines.length == 1 && bannerOf O))
    | .ok true =>
      if html == [] then
        some (CWorld.writeGoroutines O.writeGoroutines (logWorld w) out p (some snap) pf
          (snap.goroutines.length == 1 && bannerOf O) filter mtch)
      else some (CWorld.htmlSnap O.htmlSnap (logWorld w) (some snap) html (snap.goroutines.length == 1 && bannerOf O))

theorem natCast_beq (n m : Nat) : ((n : Int) == (m : Int)) = (n == m) := by
  rw [Bool.eq_iff_iff, beq_iff_eq, beq_iff_eq, Int.natCast_inj]

theorem lenI_beq_one {α : Type} (l : List α) : (lenI l == (1 : Int)) = (l.length == 1) :=
  natCast_beq l.length 1

/-- `x := a && f()` with `f` a function that returns `b` and leaves the world alone -/
theorem join_and {β : Type} (a b : Bool) (w : CWorld) (k : CWorld × Bool → Option β) :
    (if a = true then some (w, b) else some (w, false)).bind k = k (w, (a && b)) := by
  cases a <;> rfl

theorem tie_processInner_gen (E : Env) (hsb : ∀ w, E.showBanner w = some (w, bannerOf E))
    (w : CWorld) (out : CWriter) (p : PaletteRef) (s : Lvl) (pf : Console.PathFormat)
    (html : Bytes) (filter mtch : CRe) (c : SnapRef) (first : Bool) :
    TrC.processInner E w out p s pf html filter mtch c first =
      innerSpec E w out p s pf html filter mtch c := by
  unfold TrC.processInner innerSpec
  cases c with
  | none => rfl
  | some snap =>
    simp only [Option.bind_some, hsb, lenI_beq_one]
    rw [join_and]
    simp only [snapIsRace]
    cases hr : Cli.isRace snap.goroutines with
    | error e => rfl
    | ok b =>
      cases b with
      | false =>
        simp only [Bool.not_false, if_true, Option.bind_some]
        cases ha : E.aggregate (some snap) s with
        | none => rfl
        | some a =>
          simp only [Option.bind_some]
          by_cases hh : (html == ([] : List UInt8)) = true
          · rw [if_pos hh, if_pos hh]; rfl
          · rw [if_neg hh, if_neg hh]; rfl
      | true =>
        simp only [Bool.not_true, Bool.false_eq_true, if_false, Option.bind_some]
        by_cases hh : (html == ([] : List UInt8)) = true
        · rw [if_pos hh, if_pos hh]; rfl
        · rw [if_neg hh, if_neg hh]; rfl

/-! ## 2. process -/

/-- `if err == nil { err = err1 }` -/
def keepFirst (err err1 : GoErr) : GoErr := if err == GoErr.nil then err1 else err

theorem keepFirst_of_ne {err : GoErr} (h : (err == GoErr.nil) = false) (e1 : GoErr) : keepFirst err e1 = err := by
  unfold keepFirst; rw [h]; rfl

theorem join_keepFirst {β : Type} (err err1 : GoErr) (k : GoErr → Option β) :
    (if (err == GoErr.nil) = true then some err1 else some err).bind k = k (keepFirst err err1) := by
  unfold keepFirst
  cases h : (err == GoErr.nil) <;> rfl

theorem join_ite {α β : Type} (c : Bool) (a b : α) (k : α → Option β) :
    (if c = true then some a else some b).bind k = k (if c = true then a else b) := by
  cases c <;> rfl

/-- `if c != nil { if err1 := processInner(…); err == nil { err = err1 } }`: the world and `err`
afterwards -/
def renderStep (O : Env) (w : CWorld) (out : CWriter) (p : PaletteRef) (s : Lvl) (pf : Console.PathFormat)
    (html : Bytes) (filter mtch : CRe) (c : SnapRef) (err : GoErr) : Option (CWorld × GoErr) :=
  if c.isSome then
    (innerSpec O w out p s pf html filter mtch c).bind fun r => some (r.1, keepFirst err r.2)
  else some (w, err)

/-- the end of `process` once `err != nil`: `suffix` is written when it is not empty (an error of
that write is dropped: `err` is already set), `io.EOF` becomes nil -/
def finishStep (w : CWorld) (out : CWriter) (suffix : Bytes) (err : GoErr) : CWorld × GoErr :=
  (if suffix.length ≠ 0 then w.emit (.write out suffix) else w, if err == GoErr.eof then GoErr.nil else err)

/-- one iteration of the loop of `process`: what it does to the world and how it goes on
(`inl`: the next iteration's world and stream; `inr`: the world and the error returned) -/
def iterSpec (O : Env) (out : CWriter) (p : PaletteRef) (s : Lvl) (pf : Console.PathFormat)
    (html : Bytes) (filter mtch : CRe) (opts : Cli.Opts) (w : CWorld) (inp : InStream) :
    Option ((CWorld × InStream) ⊕ (CWorld × GoErr)) :=
  let r := O.scanSnapshot w inp opts
  (renderStep O (w.emit (.scan inp out opts r.fwd)) out p s pf html filter mtch r.snap r.err).bind fun x =>
    if x.2 == GoErr.nil then some (.inl (x.1, O.multiReader r.suffix r.inp))
    else some (.inr (finishStep x.1 out r.suffix x.2))

/-- the loop of `process` with `fuel` iterations at most (`none`: a panic, or the fuel ran out) -/
def loopSpec (O : Env) (out : CWriter) (p : PaletteRef) (s : Lvl) (pf : Console.PathFormat)
    (html : Bytes) (filter mtch : CRe) (opts : Cli.Opts) : Nat → CWorld → InStream → Option (CWorld × GoErr)
  | 0, _, _ => none
  | fuel + 1, w, inp =>
    match iterSpec O out p s pf html filter mtch opts w inp with
    | none => none
    | some (.inr res) => some res
    | some (.inl (w', inp')) => loopSpec O out p s pf html filter mtch opts fuel w' inp'

theorem lenI_bne_zero {α : Type} (l : List α) : (lenI l != (0 : Int)) = decide (l.length ≠ 0) := by
  cases l <;> rfl

/-- the end of the loop body: the join after the write of `suffix`, then `io.EOF` becomes nil -/
theorem finish_join {σ : Type} (c : Bool) (w1 w2 : CWorld) (err : GoErr) :
    ((if c = true then some (w1, err) else some (w2, err)).bind fun st =>
      if (st.snd == GoErr.eof) = true then some (StepB.ret (st.fst, GoErr.nil))
      else some (StepB.ret (st.fst, st.snd)) : Option (StepB σ (CWorld × GoErr))) =
    some (.ret (if c = true then w1 else w2, if err == GoErr.eof then GoErr.nil else err)) := by
  cases c <;> by_cases h : err = GoErr.eof <;> simp [h]

theorem body_process (E : Env)
    (hin : ∀ w out p s pf html filter mtch c first,
      E.processInner w out p s pf html filter mtch c first = innerSpec E w out p s pf html filter mtch c)
    (out : CWriter) (p : PaletteRef) (s : Lvl) (pf : Console.PathFormat) (parse rebase : Bool)
    (html : Bytes) (filter mtch : CRe) (opts : Cli.Opts) (w : CWorld) (inp : InStream) (first : Bool) :
    process_loop1 E out p s pf parse rebase html filter mtch opts (w, inp, first) =
      match iterSpec E out p s pf html filter mtch opts w inp with
      | none => none
      | some (.inr res) => some (.ret res)
      | some (.inl (w', inp')) => some (.cont (w', inp', false)) := by
  unfold process_loop1 iterSpec CWorld.scanSnapshot renderStep
  dsimp only
  generalize E.scanSnapshot w inp opts = r
  cases hs : r.snap.isSome with
  | false =>
    simp only [Bool.false_eq_true, if_false, Option.bind_some]
    cases he : (r.err == GoErr.nil) with
    | true => simp only [if_true]
    | false =>
      simp only [Bool.false_eq_true, if_false, lenI_bne_zero, CWorld.write, Option.bind_some]
      rw [finish_join]
      simp only [finishStep, decide_eq_true_eq]
  | true =>
    simp only [if_true, hin]
    cases hi : innerSpec E (w.emit (.scan inp out opts r.fwd)) out p s pf html filter mtch r.snap with
    | none => rfl
    | some x =>
      simp only [Option.bind_some, join_keepFirst]
      cases he : (keepFirst r.err x.2 == GoErr.nil) with
      | true => simp only [if_true]
      | false =>
        simp only [Bool.false_eq_true, if_false, lenI_bne_zero, CWorld.write, keepFirst_of_ne he]
        rw [finish_join]
        simp only [finishStep, decide_eq_true_eq]

theorem loop_process (E : Env)
    (hin : ∀ w out p s pf html filter mtch c first,
      E.processInner w out p s pf html filter mtch c first = innerSpec E w out p s pf html filter mtch c)
    (out : CWriter) (p : PaletteRef) (s : Lvl) (pf : Console.PathFormat) (parse rebase : Bool)
    (html : Bytes) (filter mtch : CRe) (opts : Cli.Opts) :
    ∀ (fuel : Nat) (w : CWorld) (inp : InStream) (first : Bool),
      forFuel (process_loop1 E out p s pf parse rebase html filter mtch opts) fuel (w, inp, first) =
        (loopSpec E out p s pf html filter mtch opts fuel w inp).map PP.Go.Step.ret
  | 0, _, _, _ => rfl
  | fuel + 1, w, inp, first => by
    rw [forFuel_succ, body_process E hin, loopSpec]
    cases iterSpec E out p s pf html filter mtch opts w inp with
    | none => rfl
    | some x =>
      cases x with
      | inr res => rfl
      | inl y => exact loop_process E hin out p s pf parse rebase html filter mtch opts fuel y.1 y.2 false

/-- the options `process` hands to `ScanSnapshot`: `stack.DefaultOpts()` with `GuessPaths` and
`AnalyzeSources` cleared without `rebase`, `AnalyzeSources` cleared without `parse` -/
def optsOf (O : Env) (parse rebase : Bool) : Cli.Opts :=
  let o := Cli.defaultOpts O.goroot O.gopaths
  let o := if (!rebase) = true then { o with guessPaths := false, analyzeSources := false } else o
  if (!parse) = true then { o with analyzeSources := false } else o

/-- `process(in, out, p, s, pf, parse, rebase, html, filter, match)` as a function of the world -/
def processSpec (O : Env) (w : CWorld) (inp : InStream) (out : CWriter) (p : PaletteRef) (s : Lvl)
    (pf : Console.PathFormat) (parse rebase : Bool) (html : Bytes) (filter mtch : CRe) : Option (CWorld × GoErr) :=
  loopSpec O out p s pf html filter mtch (optsOf O parse rebase) O.fuel w inp

theorem after_map_ret {σ ρ : Type} (x : Option ρ) (k : σ → Option ρ) :
    after (x.map (PP.Go.Step.ret : ρ → PP.Go.Step σ ρ)) k = x := by
  cases x <;> rfl

theorem tie_process_gen (E : Env)
    (hin : ∀ w out p s pf html filter mtch c first,
      E.processInner w out p s pf html filter mtch c first = innerSpec E w out p s pf html filter mtch c)
    (w : CWorld) (inp : InStream) (out : CWriter) (p : PaletteRef) (s : Lvl) (pf : Console.PathFormat)
    (parse rebase : Bool) (html : Bytes) (filter mtch : CRe) :
    TrC.process E w inp out p s pf parse rebase html filter mtch =
      processSpec E w inp out p s pf parse rebase html filter mtch := by
  unfold TrC.process processSpec optsOf
  dsimp only
  rw [join_ite, join_ite, loop_process E hin, after_map_ret]

/-! ## 3. the model environment, the fixed-point form, the three functions composed -/

/-- the environment in which the three functions are the model; the oracles are `O`'s -/
def modelEnv (O : Env) : Env :=
  { O with
    showBanner := fun w => some (w, bannerOf O)
    processInner := fun w out p s pf html filter mtch c _ => innerSpec O w out p s pf html filter mtch c
    process := fun w inp out p s pf parse rebase html filter mtch =>
      processSpec O w inp out p s pf parse rebase html filter mtch }

section
variable (O : Env)

@[simp] theorem mE_fuel : (modelEnv O).fuel = O.fuel := rfl
@[simp] theorem mE_getenv : (modelEnv O).getenv = O.getenv := rfl
@[simp] theorem mE_goroot : (modelEnv O).goroot = O.goroot := rfl
@[simp] theorem mE_gopaths : (modelEnv O).gopaths = O.gopaths := rfl
@[simp] theorem mE_scanSnapshot : (modelEnv O).scanSnapshot = O.scanSnapshot := rfl
@[simp] theorem mE_multiReader : (modelEnv O).multiReader = O.multiReader := rfl
@[simp] theorem mE_aggregate : (modelEnv O).aggregate = O.aggregate := rfl
@[simp] theorem mE_writeBuckets : (modelEnv O).writeBuckets = O.writeBuckets := rfl
@[simp] theorem mE_writeGoroutines : (modelEnv O).writeGoroutines = O.writeGoroutines := rfl
@[simp] theorem mE_htmlAgg : (modelEnv O).htmlAgg = O.htmlAgg := rfl
@[simp] theorem mE_htmlSnap : (modelEnv O).htmlSnap = O.htmlSnap := rfl
@[simp] theorem mE_writeErr : (modelEnv O).writeErr = O.writeErr := rfl
@[simp] theorem mE_showBanner (w : CWorld) : (modelEnv O).showBanner w = some (w, bannerOf O) := rfl
@[simp] theorem mE_processInner (w : CWorld) (out : CWriter) (p : PaletteRef) (s : Lvl) (pf : Console.PathFormat)
    (html : Bytes) (filter mtch : CRe) (c : SnapRef) (first : Bool) :
    (modelEnv O).processInner w out p s pf html filter mtch c first =
      innerSpec O w out p s pf html filter mtch c := rfl
@[simp] theorem mE_process (w : CWorld) (inp : InStream) (out : CWriter) (p : PaletteRef) (s : Lvl)
    (pf : Console.PathFormat) (parse rebase : Bool) (html : Bytes) (filter mtch : CRe) :
    (modelEnv O).process w inp out p s pf parse rebase html filter mtch =
      processSpec O w inp out p s pf parse rebase html filter mtch := rfl

end

/-- the spec functions only read the oracles: two environments with the same oracles have the same
`loopSpec` -/
theorem loopSpec_congr (O O' : Env) (out : CWriter) (p : PaletteRef) (s : Lvl) (pf : Console.PathFormat)
    (html : Bytes) (filter mtch : CRe) (opts : Cli.Opts)
    (h : ∀ w inp, iterSpec O out p s pf html filter mtch opts w inp = iterSpec O' out p s pf html filter mtch opts w inp) :
    ∀ (fuel : Nat) (w : CWorld) (inp : InStream),
      loopSpec O out p s pf html filter mtch opts fuel w inp = loopSpec O' out p s pf html filter mtch opts fuel w inp
  | 0, _, _ => rfl
  | fuel + 1, w, inp => by
    rw [loopSpec, loopSpec, h]
    cases iterSpec O' out p s pf html filter mtch opts w inp with
    | none => rfl
    | some x =>
      cases x with
      | inr res => rfl
      | inl y => exact loopSpec_congr O O' out p s pf html filter mtch opts h fuel y.1 y.2

theorem innerSpec_modelEnv (O : Env) (w : CWorld) (out : CWriter) (p : PaletteRef) (s : Lvl)
    (pf : Console.PathFormat) (html : Bytes) (filter mtch : CRe) (c : SnapRef) :
    innerSpec (modelEnv O) w out p s pf html filter mtch c = innerSpec O w out p s pf html filter mtch c := rfl

theorem processSpec_modelEnv (O : Env) (w : CWorld) (inp : InStream) (out : CWriter) (p : PaletteRef) (s : Lvl)
    (pf : Console.PathFormat) (parse rebase : Bool) (html : Bytes) (filter mtch : CRe) :
    processSpec (modelEnv O) w inp out p s pf parse rebase html filter mtch =
      processSpec O w inp out p s pf parse rebase html filter mtch :=
  loopSpec_congr (modelEnv O) O out p s pf html filter mtch _ (fun _ _ => rfl) _ w inp

/-! `tie_showBanner`, `tie_processInner`, `tie_process_modelEnv`: the model is a fixed point of the
translated equations, for every environment (its oracles), world, stream, writer and option set -/

theorem tie_showBanner (O : Env) (w : CWorld) :
    TrC.showBanner (modelEnv O) w = (modelEnv O).showBanner w := rfl

theorem tie_processInner (O : Env) (w : CWorld) (out : CWriter) (p : PaletteRef) (s : Lvl)
    (pf : Console.PathFormat) (html : Bytes) (filter mtch : CRe) (c : SnapRef) (first : Bool) :
    TrC.processInner (modelEnv O) w out p s pf html filter mtch c first =
      (modelEnv O).processInner w out p s pf html filter mtch c first :=
  tie_processInner_gen (modelEnv O) (fun _ => rfl) w out p s pf html filter mtch c first

theorem tie_process_modelEnv (O : Env) (w : CWorld) (inp : InStream) (out : CWriter) (p : PaletteRef) (s : Lvl)
    (pf : Console.PathFormat) (parse rebase : Bool) (html : Bytes) (filter mtch : CRe) :
    TrC.process (modelEnv O) w inp out p s pf parse rebase html filter mtch =
      (modelEnv O).process w inp out p s pf parse rebase html filter mtch :=
  (tie_process_gen (modelEnv O) (fun _ _ _ _ _ _ _ _ _ _ => rfl) w inp out p s pf parse rebase html filter mtch).trans
    (processSpec_modelEnv O w inp out p s pf parse rebase html filter mtch)

/-- the environment in which every callee is the TRANSLATED function (nothing is the model) -/
def closedEnv (O : Env) : Env :=
  { O with
    showBanner := TrC.showBanner O
    processInner := TrC.processInner { O with showBanner := TrC.showBanner O } }

/-- the translated `process`, calling the translated `processInner`, calling the translated
`showBanner`, is `processSpec`: for every oracle, world, stream, writer and option set -/
theorem tie_closed (O : Env) (w : CWorld) (inp : InStream) (out : CWriter) (p : PaletteRef) (s : Lvl)
    (pf : Console.PathFormat) (parse rebase : Bool) (html : Bytes) (filter mtch : CRe) :
    TrC.process (closedEnv O) w inp out p s pf parse rebase html filter mtch =
      processSpec O w inp out p s pf parse rebase html filter mtch :=
  (tie_process_gen (closedEnv O)
    (fun w out p s pf html filter mtch c first =>
      tie_processInner_gen { O with showBanner := TrC.showBanner O } (fun _ => rfl) w out p s pf html filter mtch c first)
    w inp out p s pf parse rebase html filter mtch).trans
    (loopSpec_congr (closedEnv O) O out p s pf html filter mtch _ (fun _ _ => rfl) _ w inp)

/-! ## 4. fuel -/

/-- more fuel does not change a result that was reached: a `some` IS what the Go loop does -/
theorem loopSpec_mono (O : Env) (out : CWriter) (p : PaletteRef) (s : Lvl) (pf : Console.PathFormat)
    (html : Bytes) (filter mtch : CRe) (opts : Cli.Opts) :
    ∀ (f f' : Nat) (w : CWorld) (inp : InStream) (r : CWorld × GoErr),
      loopSpec O out p s pf html filter mtch opts f w inp = some r → f ≤ f' →
      loopSpec O out p s pf html filter mtch opts f' w inp = some r
  | 0, _, _, _, _, h, _ => by simp [loopSpec] at h
  | f + 1, 0, _, _, _, _, hle => by omega
  | f + 1, f' + 1, w, inp, r, h, hle => by
    rw [loopSpec] at h ⊢
    cases hi : iterSpec O out p s pf html filter mtch opts w inp with
    | none => rw [hi] at h; exact h
    | some x =>
      rw [hi] at h
      cases x with
      | inr res => exact h
      | inl y => exact loopSpec_mono O out p s pf html filter mtch opts f f' y.1 y.2 r h (by omega)

/-! ## 5. projection onto `PP/Model/Cli.lean` -/

/-- the Go error value of a model error: `io.EOF` for the reader's EOF, a distinct non-nil,
non-EOF value for every other one (`errOf_injective`) -/
def errOf : LErr → GoErr
  | .reader .eof => .eof
  | .reader .noProgress => .other 0
  | .reader (.other t) => .other (2 * t + 2)
  | .parse e => .other (2 * e.ctorIdx + 1)

/-- the `err` `ScanSnapshot` returns -/
def errOfOpt : Option LErr → GoErr
  | none => .nil
  | some e => errOf e

/-- the error `process` returns, for a status of the model that is a return -/
def errOfStatus : Cli.Status → GoErr
  | .failed e => errOf e
  | _ => .nil

theorem errOf_ne_nil (e : LErr) : (errOf e == GoErr.nil) = false := by
  cases e with
  | reader r => cases r <;> rfl
  | parse p => rfl

theorem errOf_eq_eof (e : LErr) : (errOf e == GoErr.eof) = decide (e = .reader .eof) := by
  cases e with
  | reader r => cases r <;> simp [errOf]
  | parse p => simp [errOf]

theorem ctorIdx_inj (a b : Err) (h : a.ctorIdx = b.ctorIdx) : a = b := by
  rw [← Err.ofNat_ctorIdx a, h, Err.ofNat_ctorIdx]

theorem errOf_injective (a b : LErr) (h : errOf a = errOf b) : a = b := by
  cases a with
  | reader r =>
    cases b with
    | reader r' =>
      cases r <;> cases r' <;> simp [errOf] at h ⊢ <;> omega
    | parse p' => cases r <;> simp [errOf] at h <;> omega
  | parse p =>
    cases b with
    | reader r' => cases r' <;> simp [errOf] at h <;> omega
    | parse p' =>
      simp only [errOf, GoErr.other.injEq] at h
      exact congrArg _ (ctorIdx_inj p p' (by omega))

theorem errOfStatus_statusOf (e : LErr) :
    errOfStatus (Cli.statusOf e) = if errOf e == GoErr.eof then GoErr.nil else errOf e := by
  rw [errOf_eq_eof]
  unfold Cli.statusOf
  by_cases h : e = .reader .eof <;> simp [h, errOfStatus]

/-- a snapshot with these goroutines (the model's `ScanSnapshot` returns the goroutine list only) -/
def snapOf (gs : List Goroutine) : Snapshot := { goroutines := gs }

/-- the model's line-level `ScanSnapshot` (`scanSnapshotL true`: `DefaultOpts` has
`NameArguments`) as the oracle of the translated code: it reads `inp.rest`, which ends in
`inp.final`, and leaves `unread` -/
def lineScan (inp : InStream) : ScanRet :=
  let r := scanSnapshotL true inp.rest inp.final
  { inp := { inp with rest := r.unread }, snap := r.snap.map snapOf, suffix := r.suffix.getD [],
    err := errOfOpt r.err, fwd := r.fwd }

/-- the oracles the model `Cli.process` assumes, for a configuration `cfg` (PP/Model/Cli.lean,
"Trusted by contract").  First those of `processInner`: `$GOTRACEBACK` gives `cfg.showBanner`;
`Aggregate` yields the model's buckets; the two console renderers write the model's bytes and
return nil.  Then (`LineOracles`) `ScanSnapshot` with the options of `process` is the line-level
model; `io.MultiReader(bytes.NewReader(suffix), in)` delivers `suffix`, then what `in` still
holds, and ends like `in`. -/
structure RenderOracles (O : Env) (cfg : Cli.CliCfg) : Prop where
  banner : bannerOf O = cfg.showBanner
  agg : ∀ snap, (O.aggregate (some snap) cfg.level).map (·.buckets) = some (aggregate cfg.level snap.goroutines)
  buckets : ∀ w a ne, O.writeBuckets w (some cfg.palette) a cfg.pf ne cfg.filter cfg.mtch =
    (Console.writeBuckets cfg.palette a.buckets cfg.pf ne cfg.filter cfg.mtch, GoErr.nil)
  goroutines : ∀ w snap ne, O.writeGoroutines w (some cfg.palette) (some snap) cfg.pf ne cfg.filter cfg.mtch =
    (Console.writeGoroutines cfg.palette snap.goroutines cfg.pf ne cfg.filter cfg.mtch, GoErr.nil)

/-- … with the line-level `ScanSnapshot` and `MultiReader` (the model's `processL`) -/
structure LineOracles (O : Env) (cfg : Cli.CliCfg) : Prop extends RenderOracles O cfg where
  scan : ∀ w inp, O.scanSnapshot w inp (Cli.processOpts O.goroot O.gopaths) = lineScan inp
  multi_rest : ∀ b inp, (O.multiReader b inp).rest = b ++ inp.rest
  multi_final : ∀ b inp, (O.multiReader b inp).final = inp.final

theorem optsOf_norebase (O : Env) (parse : Bool) : optsOf O parse false = Cli.processOpts O.goroot O.gopaths := by
  cases parse <;> rfl

theorem outBytes_logWorld (out : CWriter) (w : CWorld) : outBytes out (logWorld w).trace = outBytes out w.trace := by
  simp [logWorld, CWorld.logPrintf, outBytes, CEvent.bytesTo]

/-- `processInner` with `html = ""` is the model's `renderSnapshot`: it returns nil and sends the
model's bytes to `out` -/
theorem innerSpec_model (O : Env) (cfg : Cli.CliCfg) (H : RenderOracles O cfg) (w : CWorld) (out : CWriter)
    (gs : List Goroutine) (b : Bytes) (h : Cli.renderSnapshot cfg gs = .ok b) :
    ∃ w', innerSpec O w out (some cfg.palette) cfg.level cfg.pf [] cfg.filter cfg.mtch (some (snapOf gs)) =
        some (w', GoErr.nil) ∧ outBytes out w'.trace = outBytes out w.trace ++ b := by
  unfold Cli.renderSnapshot at h
  unfold innerSpec
  simp only [snapOf, H.banner]
  cases hr : Cli.isRace gs with
  | error e => rw [hr] at h; cases h
  | ok race =>
    rw [hr] at h
    cases race with
    | false =>
      simp only [Except.ok.injEq] at h
      have ha := H.agg { goroutines := gs }
      cases hag : O.aggregate (some { goroutines := gs }) cfg.level with
      | none => rw [hag] at ha; cases ha
      | some a =>
        rw [hag] at ha
        simp only [Option.map_some, Option.some.injEq] at ha
        simp only [beq_self_eq_true, if_true, CWorld.writeBuckets, H.buckets]
        refine ⟨_, rfl, ?_⟩
        simp only [CWorld.emit_trace, outBytes_append, outBytes_singleton,
          CEvent.bytesTo, if_true, outBytes_logWorld, ha]
        rw [← h]
    | true =>
      simp only [Except.ok.injEq] at h
      simp only [beq_self_eq_true, if_true, CWorld.writeGoroutines, H.goroutines]
      refine ⟨_, rfl, ?_⟩
      simp only [CWorld.emit_trace, outBytes_append, outBytes_singleton,
        CEvent.bytesTo, if_true, outBytes_logWorld]
      rw [← h]

/-- the `if c != nil { … processInner … }` block against the model's `renderOpt` -/
theorem renderStep_model (O : Env) (cfg : Cli.CliCfg) (H : RenderOracles O cfg) (w : CWorld) (out : CWriter)
    (snap : Option (List Goroutine)) (err : GoErr) (b : Bytes) (h : Cli.renderOpt cfg snap = .ok b) :
    ∃ w', renderStep O w out (some cfg.palette) cfg.level cfg.pf [] cfg.filter cfg.mtch (snap.map snapOf) err =
        some (w', keepFirst err GoErr.nil) ∧ outBytes out w'.trace = outBytes out w.trace ++ b := by
  cases snap with
  | none =>
    simp only [Cli.renderOpt, Except.ok.injEq] at h
    subst h
    refine ⟨w, ?_, by simp⟩
    unfold renderStep keepFirst
    cases err <;> rfl
  | some gs =>
    obtain ⟨w', h1, h2⟩ := innerSpec_model O cfg H w out gs b h
    refine ⟨w', ?_, h2⟩
    unfold renderStep
    simp only [Option.map_some, Option.isSome_some, if_true, h1, Option.bind_some]

theorem finishStep_out (w : CWorld) (out : CWriter) (suffix : Bytes) (err : GoErr) :
    outBytes out (finishStep w out suffix err).1.trace = outBytes out w.trace ++ suffix := by
  unfold finishStep
  by_cases h : suffix.length ≠ 0
  · simp [h, CEvent.bytesTo]
  · have : suffix = [] := by
      cases suffix with
      | nil => rfl
      | cons a t => simp at h
    simp [this]

/-- one iteration against the model: when `ScanSnapshot` answers with the model's result `r` (and
leaves the stream `inp'`) and the model renders the snapshot as `rendered`, the iteration sends
`r.fwd ++ rendered` to `out`, then goes on with `MultiReader(suffix, inp')` or finishes with the error -/
theorem iterSpec_model (O : Env) (cfg : Cli.CliCfg) (H : RenderOracles O cfg) (out : CWriter) (opts : Cli.Opts)
    (w : CWorld) (inp inp' : InStream) (r : ScanResult) (rendered : Bytes)
    (hscan : O.scanSnapshot w inp opts =
      { inp := inp', snap := r.snap.map snapOf, suffix := r.suffix.getD [], err := errOfOpt r.err, fwd := r.fwd })
    (hro : Cli.renderOpt cfg r.snap = .ok rendered) :
    ∃ w2, outBytes out w2.trace = outBytes out w.trace ++ r.fwd ++ rendered ∧
      iterSpec O out (some cfg.palette) cfg.level cfg.pf [] cfg.filter cfg.mtch opts w inp =
        some (match r.err with
          | none => .inl (w2, O.multiReader (r.suffix.getD []) inp')
          | some e => .inr (finishStep w2 out (r.suffix.getD []) (errOf e))) := by
  obtain ⟨w2, hw2, hout2⟩ := renderStep_model O cfg H (w.emit (.scan inp out opts r.fwd)) out r.snap
    (errOfOpt r.err) rendered hro
  refine ⟨w2, by rw [hout2]; simp [CEvent.bytesTo], ?_⟩
  unfold iterSpec
  simp only [hscan, hw2, Option.bind_some]
  cases r.err with
  | none => simp only [errOfOpt, keepFirst, BEq.rfl, if_true]
  | some e => simp only [errOfOpt, keepFirst_of_ne (errOf_ne_nil e), errOf_ne_nil e, Bool.false_eq_true, if_false]

/-- **the loop**: with the oracles the model assumes, for every fuel, world and stream, whenever the
model's `processL` (started with what `out` has received so far) returns — status `ok` or
`failed` —, the translated loop (`loopSpec`) returns with the same fuel, the error it returns is
the model's status and what `out` has received is the model's output -/
theorem loopSpec_model (O : Env) (cfg : Cli.CliCfg) (H : LineOracles O cfg) (out : CWriter) :
    ∀ (fuel : Nat) (w : CWorld) (inp : InStream),
      (Cli.processL cfg inp.final fuel inp.rest (outBytes out w.trace)).2 ≠ .panicked →
      (Cli.processL cfg inp.final fuel inp.rest (outBytes out w.trace)).2 ≠ .outOfFuel →
      ∃ w', loopSpec O out (some cfg.palette) cfg.level cfg.pf [] cfg.filter cfg.mtch
            (Cli.processOpts O.goroot O.gopaths) fuel w inp =
          some (w', errOfStatus (Cli.processL cfg inp.final fuel inp.rest (outBytes out w.trace)).2) ∧
        outBytes out w'.trace = (Cli.processL cfg inp.final fuel inp.rest (outBytes out w.trace)).1
  | 0, w, inp => by
    intro _ h2
    exact absurd rfl h2
  | fuel + 1, w, inp => by
    rw [Cli.processL.eq_2, loopSpec]
    cases hp : (scanSnapshotL true inp.rest inp.final).panicked with
    | true => intro h1 _; simp at h1
    | false =>
      simp only [Bool.false_eq_true, if_false]
      cases hro : Cli.renderOpt cfg (scanSnapshotL true inp.rest inp.final).snap with
      | error e => intro h1 _; simp at h1
      | ok rendered =>
        obtain ⟨w2, hacc, hit⟩ := iterSpec_model O cfg H.toRenderOracles out _ w inp _ _ rendered (H.scan w inp) hro
        rw [hit]
        generalize scanSnapshotL true inp.rest inp.final = r at hacc ⊢
        cases r.err with
        | none =>
          have ih := loopSpec_model O cfg H out fuel w2 (O.multiReader (r.suffix.getD []) { inp with rest := r.unread })
          rw [H.multi_final, H.multi_rest, hacc] at ih
          exact ih
        | some e =>
          intro _ _
          dsimp only
          refine ⟨(finishStep w2 out (r.suffix.getD []) (errOf e)).1, ?_, ?_⟩
          · rw [errOfStatus_statusOf]; rfl
          · rw [finishStep_out, hacc]

/-- With the oracles the model assumes (`LineOracles`), valid options, `html = ""`,
`rebase = false` and enough fuel (`processFuel input = input.length + 2` iterations), for every
input `input` that ends in `fin` (however it is delivered), every configuration, world and
`parse`: the translated `process` — calling the translated `processInner` and `showBanner` —
returns; the bytes it sent to `out` are the output of the model's `Cli.process` and the error it
returns is the model's status (`nil` for `ok`, the error for `failed`). -/
theorem tie_process (O : Env) (cfg : Cli.CliCfg) (H : LineOracles O cfg)
    (hvalid : (Cli.processOpts O.goroot O.gopaths).isValid = true)
    (inp : InStream) (hfuel : Cli.processFuel inp.rest ≤ O.fuel) (out : CWriter) (parse : Bool) :
    ∃ w', TrC.process (closedEnv O) {} inp out (some cfg.palette) cfg.level cfg.pf parse false []
          cfg.filter cfg.mtch =
        some (w', errOfStatus (Cli.process cfg O.goroot O.gopaths inp.final inp.rest).2) ∧
      outBytes out w'.trace = (Cli.process cfg O.goroot O.gopaths inp.final inp.rest).1 := by
  rw [tie_closed, processSpec, optsOf_norebase]
  have ht := PP.Cli.process_total cfg O.goroot O.gopaths inp.final inp.rest
  unfold Cli.process at ht ⊢
  rw [if_pos hvalid] at ht ⊢
  obtain ⟨w', hw, ho⟩ := loopSpec_model O cfg H out (Cli.processFuel inp.rest) {} inp ht.2 ht.1
  exact ⟨w', loopSpec_mono O out _ _ _ _ _ _ _ _ _ _ _ _ hw hfuel, ho⟩

/-! ### the same through the reader model: `Cli.processB`, `Cli.scanCallB`, `Cli.multiReader` -/

/-- the model's byte-level `ScanSnapshot` (`Cli.scanCallB`, through the reader model with capacity
`N`) as the oracle.  Where the reader model runs out of ITS fuel (it never does:
`PP.scanSnapshot_total`) the oracle answers with an error and leaves the stream alone. -/
def byteScan (N retry : Nat) (inp : InStream) : ScanRet :=
  match Cli.scanCallB N retry inp with
  | none => { inp := inp, snap := none, suffix := [], err := .other 0, fwd := [] }
  | some (r, src') =>
    { inp := src', snap := r.snap.map snapOf, suffix := r.suffix.getD [], err := errOfOpt r.err, fwd := r.fwd }

/-- the oracles of `Cli.processB`: the byte-level `ScanSnapshot`, the model's `multiReader` -/
structure ByteOracles (O : Env) (cfg : Cli.CliCfg) (N retry : Nat) : Prop extends RenderOracles O cfg where
  scan : ∀ w inp, O.scanSnapshot w inp (Cli.processOpts O.goroot O.gopaths) = byteScan N retry inp
  multi : ∀ b inp, O.multiReader b inp = Cli.multiReader b inp

/-- **the loop, byte level**: whenever the model's `processB` returns (`ok` or `failed`), the
translated loop returns with the same fuel, the same error and the same bytes on `out` — for every
source (content, delivery schedule, terminal error), capacity and retry count -/
theorem loopSpec_modelB (O : Env) (cfg : Cli.CliCfg) (N retry : Nat) (H : ByteOracles O cfg N retry) (out : CWriter) :
    ∀ (fuel : Nat) (w : CWorld) (src : InStream) (ex : Bool),
      (Cli.processB cfg N retry fuel src (outBytes out w.trace) ex).2.1 ≠ .panicked →
      (Cli.processB cfg N retry fuel src (outBytes out w.trace) ex).2.1 ≠ .outOfFuel →
      ∃ w', loopSpec O out (some cfg.palette) cfg.level cfg.pf [] cfg.filter cfg.mtch
            (Cli.processOpts O.goroot O.gopaths) fuel w src =
          some (w', errOfStatus (Cli.processB cfg N retry fuel src (outBytes out w.trace) ex).2.1) ∧
        outBytes out w'.trace = (Cli.processB cfg N retry fuel src (outBytes out w.trace) ex).1
  | 0, w, src, ex => by
    intro _ h2
    exact absurd rfl h2
  | fuel + 1, w, src, ex => by
    rw [Cli.processB.eq_2, loopSpec]
    have hscan := H.scan w src
    unfold byteScan at hscan
    cases hc : Cli.scanCallB N retry src with
    | none => intro _ h2; simp at h2
    | some x =>
      obtain ⟨r, src'⟩ := x
      rw [hc] at hscan
      simp only []
      cases hp : r.panicked with
      | true => intro h1 _; simp at h1
      | false =>
        simp only [Bool.false_eq_true, if_false]
        cases hro : Cli.renderOpt cfg r.snap with
        | error e => intro h1 _; simp at h1
        | ok rendered =>
          obtain ⟨w2, hacc, hit⟩ := iterSpec_model O cfg H.toRenderOracles out _ w src src' r rendered hscan hro
          rw [hit]
          cases r.err with
          | none =>
            have ih := loopSpec_modelB O cfg N retry H out fuel w2 (O.multiReader (r.suffix.getD []) src')
              (ex && decide ((r.suffix.getD []).length ≤ N))
            rw [H.multi, hacc] at ih
            rw [H.multi]
            exact ih
          | some e =>
            intro _ _
            dsimp only
            refine ⟨(finishStep w2 out (r.suffix.getD []) (errOf e)).1, ?_, ?_⟩
            · rw [errOfStatus_statusOf]; rfl
            · rw [finishStep_out, hacc]

/-- The translated `process` (closed environment, `html = ""`, `rebase = false`)
against the model's byte-level loop `Cli.processB` started on the source `src` with nothing
written: whenever `processB` returns with `fuel ≤ O.fuel` iterations, the translated `process`
returns the same error and has sent the same bytes to `out` -/
theorem tie_processB (O : Env) (cfg : Cli.CliCfg) (N retry : Nat) (H : ByteOracles O cfg N retry)
    (src : InStream) (fuel : Nat) (hfuel : fuel ≤ O.fuel) (out : CWriter) (parse : Bool)
    (h1 : (Cli.processB cfg N retry fuel src [] true).2.1 ≠ .panicked)
    (h2 : (Cli.processB cfg N retry fuel src [] true).2.1 ≠ .outOfFuel) :
    ∃ w', TrC.process (closedEnv O) {} src out (some cfg.palette) cfg.level cfg.pf parse false []
          cfg.filter cfg.mtch =
        some (w', errOfStatus (Cli.processB cfg N retry fuel src [] true).2.1) ∧
      outBytes out w'.trace = (Cli.processB cfg N retry fuel src [] true).1 := by
  rw [tie_closed, processSpec, optsOf_norebase]
  obtain ⟨w', hw, ho⟩ := loopSpec_modelB O cfg N retry H out fuel {} src true h1 h2
  exact ⟨w', loopSpec_mono O out _ _ _ _ _ _ _ _ _ _ _ _ hw hfuel, ho⟩

/-! ## non-vacuity -/

/-- an environment with the oracles the model assumes (`lineEnv_oracles`): `$GOTRACEBACK = gtb` -/
def lineEnv (gtb : Bytes) (fuel : Nat) : Env where
  fuel := fuel
  getenv _ := gtb
  goroot := []
  gopaths := []
  scanSnapshot _ inp _ := lineScan inp
  multiReader b inp := { inp with rest := b ++ inp.rest }
  aggregate c l := c.map fun s => { snapshot := s, buckets := PP.aggregate l s.goroutines }
  writeBuckets _ p a pf ne f m := (Console.writeBuckets (p.getD {}) a.buckets pf ne f m, .nil)
  writeGoroutines _ p c pf ne f m :=
    (Console.writeGoroutines (p.getD {}) ((c.map (·.goroutines)).getD []) pf ne f m, .nil)
  htmlAgg _ _ _ _ := .nil
  htmlSnap _ _ _ _ := .nil
  writeErr _ _ _ := .nil
  showBanner _ := none
  processInner _ _ _ _ _ _ _ _ _ _ := none
  process _ _ _ _ _ _ _ _ _ _ _ := none

theorem lineEnv_oracles (cfg : Cli.CliCfg) (gtb : Bytes) (fuel : Nat) (h : Cli.showBanner gtb = cfg.showBanner) :
    LineOracles (lineEnv gtb fuel) cfg where
  scan _ _ := rfl
  multi_rest _ _ := rfl
  multi_final _ _ := rfl
  banner := h
  agg _ := rfl
  buckets _ _ _ := rfl
  goroutines _ _ _ := rfl

/-- the hypotheses of `tie_process` can be met, for every input: the translated `process` of the
closed environment returns the model's output and status -/
example (input : Bytes) (fin : RErr) (out : CWriter) :
    ∃ w', TrC.process (closedEnv (lineEnv [] (input.length + 2))) {} { rest := input, sched := [], final := fin } out
          (some {}) .anyPointer .basePath true false [] none none =
        some (w', errOfStatus (Cli.process { showBanner := true } [] [] fin input).2) ∧
      outBytes out w'.trace = (Cli.process { showBanner := true } [] [] fin input).1 :=
  tie_process (lineEnv [] (input.length + 2)) { showBanner := true } (lineEnv_oracles _ _ _ rfl)
    (show (Cli.processOpts [] []).isValid = true by decide)
    { rest := input, sched := [], final := fin } (Nat.le_refl _) out true

/-- an input without a dump ends in EOF: `process` returns nil and the input went through -/
example : ((TrC.process (closedEnv (lineEnv [] 3)) {} { rest := b!"x", sched := [] } {} (some {}) .anyPointer .basePath
      true false [] none none).map fun r => (r.2, outBytes {} r.1.trace)) = some (GoErr.nil, b!"x") := by
  decide

#print axioms tie_showBanner_any
#print axioms tie_showBanner
#print axioms tie_processInner_gen
#print axioms tie_processInner
#print axioms body_process
#print axioms loop_process
#print axioms tie_process_gen
#print axioms tie_process_modelEnv
#print axioms tie_closed
#print axioms loopSpec_mono
#print axioms errOf_injective
#print axioms innerSpec_model
#print axioms loopSpec_model
#print axioms tie_process
#print axioms loopSpec_modelB
#print axioms tie_processB

end PP.TrC
