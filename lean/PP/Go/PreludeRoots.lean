import PP.Go.Prelude
import PP.Model.Roots
/-
Run-time support for `PP/TranslatedRoots.lean` (the root finding of
stack/context.go: `(*gomodCache).isGoModule`, `(*Snapshot).findRoots`,
regenerated from the Go source on every run).

What the translator of this group adds to `PP/Go/Prelude.lean`:
* `StepB` / `forRangeB`: a loop whose body has a `break` of its own.  The body
  yields `.cont st` (`continue`, or falling off the end), `.brk st` (`break`) or
  `.ret v` (a jump further out); the loop as a whole yields a `Step`, so that
  `after` applies to it as to `forRange`.
* nested loops and join blocks are written with `forRange` / `forRangeB` and `after`
  alone: a term translated inside
  k enclosing frames (loop bodies, join blocks) has type
  `Option (Step σk (… (Step σ1 ρ)))`, a jump that leaves j of them is wrapped in
  j `.ret`s, and `after` peels one level.
* `goSub a b`: an `int` difference `a - b` used directly as a slice bound or an
  index.  Go's `int` is signed: where `b > a` the bound is negative and the
  slice expression panics at run time, so `none` (a panic) is faithful THERE —
  the translator refuses every other subtraction in this group, which keeps all
  its `int`s natural numbers by construction.
* `SSet`: a Go `map[K]struct{}` used as a set, as the list of its keys (most
  recent first).  `SSet.insert` keeps the keys distinct; nothing the translated
  code can observe (`_, ok := m[k]`) depends on their order.
* `AMap.contains`: `_, ok := m[k]` on a `map[string]string` (`AMap`, an
  association list; `AMap.insert` / `AMap.get` are in `PP/Model/Roots.lean`).
* `reModuleSubmatch b` = `reModule.FindSubmatch(b)`: `nil` when there is no
  match, otherwise the whole match followed by the one group.  The model's hand
  matcher `reModule` yields the group only, so the first element is a
  placeholder; the translator refuses code that reads index 0.
* `stack.Snapshot` is the model's record `PP.Snapshot` (six fields:
  `Goroutines`, `LocalGOROOT`, `LocalGOPATHs`, `RemoteGOROOT`, `RemoteGOPATHs`,
  `LocalGomods`, spelled as the translator spells fields); the translator
  refuses a function that touches any other field.

Model functions the translated code calls (not translated in this group):
`PP.pathDir` (path.Dir) and the hand matcher `PP.reModule`, trusted;
`PP.getFiles`, `PP.splitPath`, `PP.pathJoin`, translated and tied in group Misc
(`PP/Tie/TranslatedMisc.lean`); `PP.isRootedIn`, `PP.mapHasPrefix` (= Go
`hasPrefix`), `PP.hasSrcPrefix`, translated and tied in group Scan
(`PP/Tie/TranslatedScan.lean`).  `os.Stat` / `os.ReadFile` are the oracles
`E.isFile` / `E.readFile` (`none` = any error).
-/
namespace PP.Go
open PP

/-- outcome of one iteration of a loop that has a `break` -/
inductive StepB (σ ρ : Type) where
  | cont (s : σ)
  | brk (s : σ)
  | ret (r : ρ)

/-- `for i, x := range xs { body }` where the body can `break`; the `Nat`
argument is the index of the head of the list.  A `break` ends the loop with the state it carries. -/
def forRangeB {α σ ρ : Type} (body : Nat → α → σ → Option (StepB σ ρ)) :
    List α → Nat → σ → Option (Step σ ρ)
  | [], _, st => some (.cont st)
  | x :: xs, i, st =>
    match body i x st with
    | none => none
    | some (.ret r) => some (.ret r)
    | some (.brk st') => some (.cont st')
    | some (.cont st') => forRangeB body xs (i + 1) st'

@[simp] theorem forRangeB_nil {α σ ρ : Type} (body : Nat → α → σ → Option (StepB σ ρ)) (i : Nat) (st : σ) :
    forRangeB body [] i st = some (.cont st) := rfl

theorem forRangeB_cons {α σ ρ : Type} (body : Nat → α → σ → Option (StepB σ ρ)) (x : α) (xs : List α)
    (i : Nat) (st : σ) :
    forRangeB body (x :: xs) i st =
      match body i x st with
      | none => none
      | some (.ret r) => some (.ret r)
      | some (.brk st') => some (.cont st')
      | some (.cont st') => forRangeB body xs (i + 1) st' := rfl

/-- a loop without `break` is the same loop under either combinator -/
theorem forRangeB_noBrk {α σ ρ : Type} (body : Nat → α → σ → Option (Step σ ρ)) (xs : List α) (i : Nat) (st : σ) :
    forRangeB (fun j x s => (body j x s).map fun r => match r with | .cont s' => StepB.cont s' | .ret v => StepB.ret v)
      xs i st = forRange body xs i st := by
  induction xs generalizing i st with
  | nil => rfl
  | cons x xs ih =>
    rw [forRangeB_cons, forRange_cons]
    cases body i x st with
    | none => rfl
    | some r => cases r with
      | ret v => rfl
      | cont s' => exact ih (i + 1) s'

/-- A search loop: the body decides on the element alone (`g`) and leaves the state as it is.
The loop answers what the first element that answers gives. -/
theorem forRange_search {α β σ ρ : Type} (body : Nat → α → σ → Option (Step σ ρ)) (g : α → Option β) (r : β → ρ)
    (st : σ) (h : ∀ i x, body i x st = some ((g x).elim (.cont st) fun b => .ret (r b)))
    (xs : List α) (i : Nat) :
    forRange body xs i st = some ((xs.findSome? g).elim (.cont st) fun b => .ret (r b)) := by
  induction xs generalizing i with
  | nil => rfl
  | cons x xs ih =>
    rw [forRange_cons, h, List.findSome?_cons]
    cases g x with
    | some b => rfl
    | none => exact ih (i + 1)

/-- a loop that returns `v` at the first element that passes the test `p` -/
theorem forRange_any {α ρ : Type} (body : Nat → α → Unit → Option (Step Unit ρ)) (p : α → Bool) (v : ρ)
    (h : ∀ i x, body i x () = some (if p x then .ret v else .cont ())) (xs : List α) (i : Nat) :
    forRange body xs i () = some (if xs.any p then .ret v else .cont ()) := by
  induction xs generalizing i with
  | nil => rfl
  | cons x xs ih =>
    rw [forRange_cons, h, List.any_cons]
    cases p x with
    | true => rfl
    | false => exact ih (i + 1)

/-- `a - b` on Go `int`s holding natural numbers, where a negative result is a
run-time panic (a slice bound, an index) -/
def goSub (a b : Nat) : Option Nat := if b ≤ a then some (a - b) else none

@[simp] theorem goSub_of_le {a b : Nat} (h : b ≤ a) : goSub a b = some (a - b) := by simp [goSub, h]
@[simp] theorem goSub_of_lt {a b : Nat} (h : a < b) : goSub a b = none := by
  simp [goSub]; omega

/-! `map[K]struct{}` -/
namespace SSet
/-- `_, ok := m[k]` -/
def contains {α : Type} [BEq α] (s : List α) (k : α) : Bool := s.contains k
/-- `m[k] = struct{}{}` -/
def insert {α : Type} [BEq α] (s : List α) (k : α) : List α := if s.contains k then s else k :: s
end SSet

end PP.Go

namespace PP
/-- `_, ok := m[k]` on a `map[string]string` -/
def AMap.contains (m : AMap) (k : Bytes) : Bool := (m.lookup k).isSome
end PP

namespace PP.Go
open PP

/-- `reModule.FindSubmatch(b)` (index 0 is a placeholder) -/
def reModuleSubmatch (b : Bytes) : List Bytes :=
  match reModule b with
  | some m => [[], m]
  | none => []

end PP.Go
