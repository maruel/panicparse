import PP.Go.Prelude
import PP.Go.PreludeRoots
import PP.Go.PreludeUi
import PP.Model.Web
import PP.Model.Cli
/-
Run-time support for `PP/TranslatedWeb.lean` (the web handler
stack/webstack/webstack.go: `SnapshotHandler`, `snapshot`, and `DefaultOpts` of
stack/context.go, regenerated from the Go source on every run by
extract/translate_web.go).

What this group adds to `PP/Go/Prelude.lean`, `PreludeRoots.lean` and `PreludeUi.lean`:

* **An explicit effect trace.**  The two functions talk to the outside
  (`http.ResponseWriter`, `runtime.Stack`, `stack.ScanSnapshot`, `Aggregate`,
  `ToHTML`).  Every translated function of the group takes the `World` as its first
  argument and returns it with its result (`Option (World × ρ)`); every call that has an
  effect appends one `Event` to `World.trace`, in program order.  The answers of the
  outside are oracles of the generated `Env` (`stackDump`, `scanSnapshot`, `aggregate`,
  `toHTML`, `goroot`, `gopaths`, `atoiErrVal`); the agreement theorems hold for every
  oracle.  The translator only allows a call with an effect as a whole statement or as
  the whole right-hand side of an assignment, with arguments that have no effect, so that
  the order of the events is the order of the statements.
* **`int` is `Int`** in this group (form values parse to negative numbers), never `Nat`.
  Like the `Nat` of `PP/Go/Prelude.lean` it is unbounded: the translation ASSUMES no `int` operation
  of the translated code overflows 64 bits.  (The only arithmetic of the group is
  `i++` — at most 44 times, `snapSizes_length` — and `len(buf) * 2`, computed only when
  `len(buf) < max maxmem 2^20`: it overflows only for a buffer of 2^62 bytes or more,
  i.e. a `maxmem` above 4 EiB AND a dump that large.)
* **`error` values** are `GoErr`: `nil`, the sentinel `io.EOF`, or any other value.
  Only `err == nil`, `err != nil`, `err == io.EOF`, `err = nil` are translated.
* **An unbounded `for { … }`** (no condition; left by `break` or `return`) is `forFuel`:
  the loop run for at most `E.fuel` iterations, `none` when the fuel runs out.
  `forFuel_mono`: a result reached with some fuel is the result with any larger fuel, so
  a `some` IS the result of the Go loop; the agreement theorem of `snapshot` shows that
  as much fuel as the model's `growLoop` has elements suffices (no more than 44 for a
  64-bit `maxmem`: `snapSizes_length`, `tie_closed`).
* **`[]byte` buffers** are `Bytes`; `make([]byte, n)` is `makeBytes n` (`none`, a panic,
  for a negative `n`; the content `zeros n` is never looked at); `buf[lo:hi]` with `int`
  bounds is `goSliceI` (see there); `runtime.Stack(buf, true)` overwrites the head of
  `buf` and the translation rebinds `buf` (the translator checks that no other slice can
  share its array: `webBufGuard`).

Library functions, as the translator spells them:
* `strconvAtoi errVal s` = `strconv.Atoi(s)`: the model's `atoi` (PP/Model/Web.lean,
  trusted as the model of package strconv); the `int` returned along with an error is the
  oracle `errVal s` (0 or ±2^63∓… in Go: nothing may depend on it);
* `Request.formValue req k` = `req.FormValue(k)`, `req.method` = `req.Method`: the
  request is an input (net/http is trusted to hand the handler the request it received);
* `E.goroot` = `runtime.GOROOT()`, `E.gopaths` = `getGOPATHs()` (stack/context.go: $GOPATH
  or its default; ASSUMED to return — it panics when neither the current user nor $HOME
  can be determined): the environment `stack.DefaultOpts()` reads.  `DefaultOpts` itself is
  translated (`return &Opts{…}` is the record `Cli.Opts` of PP/Model/Cli.lean; the pointer
  is fresh, the translator checks that the handler writes through it only before it hands
  it on) and tied to the model's `Cli.defaultOpts`;
* `World.httpError`, `World.setHeader`, `World.runtimeStack`, `World.scanSnapshot`,
  `World.aggregate`, `World.toHTML`: the calls with an effect (below).
-/
namespace PP.Go
open PP

/-- a Go `error` value: `nil`, the sentinel `io.EOF` (compared by identity in Go), or any
other non-nil error (`*strconv.NumError`, `errors.New("invalid Opts")`, a parse error …) -/
inductive GoErr where
  | nil
  | eof
  | other (id : Nat)
  deriving DecidableEq, Repr, Inhabited

/-- a `*stack.Snapshot` as `ScanSnapshot` returns it: nil or a snapshot.  The translated
code never looks inside (the translator refuses a field selection on it), it only hands it
to `Aggregate`. -/
abbrev SnapRef := Option Snapshot

/-- an `http.ResponseWriter`: which writer the events are about -/
structure ResponseWriter where
  id : Nat := 0
  deriving DecidableEq, Repr, Inhabited

/-- what the handler reads of an `*http.Request`: `req.Method` and `req.FormValue(k)` -/
structure Request where
  method : Bytes := []
  form : Bytes → Bytes := fun _ => []

/-- `req.FormValue(k)` -/
def Request.formValue (r : Request) (k : Bytes) : Bytes := r.form k

/-- one observable action, as the translated code performs it -/
inductive Event where
  /-- `http.Error(w, msg, code)` -/
  | httpError (w : ResponseWriter) (msg : Bytes) (code : Int)
  /-- `w.Header().Set(key, val)` -/
  | setHeader (w : ResponseWriter) (key val : Bytes)
  /-- `runtime.Stack(buf, all)` with `len(buf) = size` -/
  | stack (size : Nat) (all : Bool)
  /-- `stack.ScanSnapshot(bytes.NewReader(input), io.Discard, opts)` -/
  | scanSnapshot (input : Bytes) (opts : Cli.Opts)
  /-- `c.Aggregate(lvl)` -/
  | aggregate (c : SnapRef) (lvl : Lvl)
  /-- `a.ToHTML(w, footer)` -/
  | toHTML (a : Aggregated) (w : ResponseWriter) (footer : Bytes)

/-- the state of the outside the translated functions thread through: how often
`runtime.Stack` has been called (the text it writes changes from call to call in a live
process: the oracle `stackDump` is indexed by this number) and the events so far, oldest
first -/
structure World where
  nStack : Nat := 0
  trace : List Event := []

def World.emit (w : World) (e : Event) : World := { w with trace := w.trace ++ [e] }

@[simp] theorem World.emit_nStack (w : World) (e : Event) : (w.emit e).nStack = w.nStack := rfl
@[simp] theorem World.emit_trace (w : World) (e : Event) : (w.emit e).trace = w.trace ++ [e] := rfl

/-- `http.Error(w, msg, code)` -/
def World.httpError (wld : World) (w : ResponseWriter) (msg : Bytes) (code : Int) : World :=
  wld.emit (.httpError w msg code)

/-- `w.Header().Set(key, val)` -/
def World.setHeader (wld : World) (w : ResponseWriter) (key val : Bytes) : World :=
  wld.emit (.setHeader w key val)

/-- `make([]byte, n)`'s content -/
def zeros (n : Nat) : Bytes := List.replicate n 0

@[simp] theorem length_zeros (n : Nat) : (zeros n).length = n := by simp [zeros]

/-- `make([]byte, n)`: a run-time panic for a negative length -/
def makeBytes (n : Int) : Option Bytes := if n < 0 then none else some (zeros n.toNat)

/-- `len(x)` as an `int` -/
def lenI {α : Type} (l : List α) : Int := (l.length : Int)

/-- `s[lo:hi]` with `int` bounds.  `none` = slice bounds out of range; also where
`len(s) < hi ≤ cap(s)`, where Go would extend a slice: the translation is exact wherever
it yields `some`. -/
def goSliceI {α : Type} (s : List α) (lo hi : Int) : Option (List α) :=
  if 0 ≤ lo ∧ lo ≤ hi ∧ hi ≤ (s.length : Int) then some ((s.take hi.toNat).drop lo.toNat) else none

/-- `n := runtime.Stack(buf, all)`: the runtime formats the stacks of the goroutines (the
text `dump i` at its `i`-th call), copies as much of it as fits into `buf` and returns that
number of bytes.  Result: the world, `buf` afterwards, `n`. -/
def World.runtimeStack (dump : Nat → Bytes) (wld : World) (buf : Bytes) (all : Bool) :
    World × Bytes × Int :=
  let d := (dump wld.nStack).take buf.length
  ({ nStack := wld.nStack + 1, trace := wld.trace ++ [.stack buf.length all] },
   d ++ buf.drop d.length, (d.length : Int))

/-- `s, suffix, err := stack.ScanSnapshot(bytes.NewReader(input), io.Discard, opts)` -/
def World.scanSnapshot (scan : Bytes → Cli.Opts → SnapRef × Bytes × GoErr) (wld : World)
    (input : Bytes) (opts : Cli.Opts) : World × (SnapRef × Bytes × GoErr) :=
  (wld.emit (.scanSnapshot input opts), scan input opts)

/-- `c.Aggregate(lvl)`; the oracle says `none` where the method panics (a nil receiver) -/
def World.aggregate (agg : SnapRef → Lvl → Option Aggregated) (wld : World) (c : SnapRef) (lvl : Lvl) :
    Option (World × Aggregated) :=
  (agg c lvl).map fun a => (wld.emit (.aggregate c lvl), a)

/-- `err := a.ToHTML(w, footer)` -/
def World.toHTML (render : Aggregated → Bytes → GoErr) (wld : World) (a : Aggregated)
    (w : ResponseWriter) (footer : Bytes) : World × GoErr :=
  (wld.emit (.toHTML a w footer), render a footer)

/-- `strconv.Atoi(s)`: the model's `atoi`; `errVal s` is the `int` Go returns along with an
error -/
def strconvAtoi (errVal : Bytes → Int) (s : Bytes) : Int × GoErr :=
  match atoi s with
  | some v => (v, .nil)
  | none => (errVal s, .other 0)

/-- `for { body }`: at most `fuel` iterations; `none` when a step panics or the fuel
runs out -/
def forFuel {σ ρ : Type} (body : σ → Option (StepB σ ρ)) : Nat → σ → Option (Step σ ρ)
  | 0, _ => none
  | fuel + 1, st =>
    match body st with
    | none => none
    | some (.ret r) => some (.ret r)
    | some (.brk st') => some (.cont st')
    | some (.cont st') => forFuel body fuel st'

@[simp] theorem forFuel_zero {σ ρ : Type} (body : σ → Option (StepB σ ρ)) (st : σ) :
    forFuel body 0 st = none := rfl

theorem forFuel_succ {σ ρ : Type} (body : σ → Option (StepB σ ρ)) (fuel : Nat) (st : σ) :
    forFuel body (fuel + 1) st =
      match body st with
      | none => none
      | some (.ret r) => some (.ret r)
      | some (.brk st') => some (.cont st')
      | some (.cont st') => forFuel body fuel st' := rfl

theorem forFuel_mono {σ ρ : Type} (body : σ → Option (StepB σ ρ)) :
    ∀ (f f' : Nat) (st : σ) (r : Step σ ρ), forFuel body f st = some r → f ≤ f' →
      forFuel body f' st = some r
  | 0, _, _, _, h, _ => by simp at h
  | f + 1, 0, _, _, _, hle => by omega
  | f + 1, f' + 1, st, r, h, hle => by
    rw [forFuel_succ] at h ⊢
    cases hb : body st with
    | none => rw [hb] at h; exact h
    | some s =>
      rw [hb] at h
      cases s with
      | ret v => exact h
      | brk st' => exact h
      | cont st' => exact forFuel_mono body f f' st' r h (by omega)

/-- the status line of the response on `w`: the code of the first action that writes the
header — `http.Error` its code, `ToHTML` (the first `Write`) 200 — and 200 when the handler
returns without either (net/http then sends 200) -/
def respStatus (w : ResponseWriter) : List Event → Int
  | [] => 200
  | .httpError w' _ code :: tr => if w' = w then code else respStatus w tr
  | .toHTML _ w' _ :: tr => if w' = w then 200 else respStatus w tr
  | _ :: tr => respStatus w tr

end PP.Go
