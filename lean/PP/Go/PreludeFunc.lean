import PP.Go.Prelude
import PP.Go.PreludeRoots
import PP.Model.Scan
/-
Run-time support for `PP/TranslatedFunc.lean` (`(*Func).Init` of stack/stack.go, regenerated
from the Go source on every run by extract/translate_func.go).

What the translator of this group does differently from `PP/Go/Prelude.lean` / `PreludeRoots.lean`:
* Go `int` is Lean `Int`.  `Func.Init` computes with the value -1 (`endPkg`, the result of
  `strings.IndexByte`), so an `int` is not a natural number here.  Every integer literal is
  emitted with its type (`(-1 : Int)`), `len` is `ilen`, and the bounds of slice / index
  expressions are converted to `Nat` only inside `goSliceI` / `goIdxI`, after the checks Go
  makes at run time: a negative or too large bound is `none`, a run-time panic.  ASSUMED, as
  for the `Nat` of `PP/Go/Prelude.lean`: `int` arithmetic does not overflow.
* Go `error` is the type `GoErr` below: an error is a VALUE a function returns, distinct from
  a panic (`none`).  The constructors say how the value was made; the text of the message of
  `url.PathUnescape`'s error is not modelled.

Library functions, as the translator spells them:
* `goIndexByte s c`, `goLastIndexByte s c` = strings.IndexByte / strings.LastIndexByte (and the
  bytes.* twins): the model's `Bytes.indexByte` / `Bytes.lastIndexByte`, -1 when absent;
* `goPathUnescape s` = url.PathUnescape(s): the model's `pathUnescape` (TRUSTED, hand-written);
  on error Go returns "" together with the error;
* `goTrimSuffix s suf` = strings.TrimSuffix(s, suf);
* `goSplit s sep` = strings.Split(s, sep) for a constant non-empty `sep`: the model's
  `Bytes.splitOn` (TRUSTED); `goSplit_ne_nil`: the result is never empty, so
  `parts[len(parts)-1]` cannot panic (`goIdxI_last`);
* `goDecodeRune s` = utf8.DecodeRuneInString(s): the model's `decodeRune` (TRUSTED);
* `reFileSubmatch`, `reFuncSubmatch` = reFile.FindSubmatch / reFunc.FindSubmatch: the model's
  `matchFile` / `matchFunc` (TRUSTED); `goAtou` = context.go atou (tied in group Scan);
  `goParseArgs` = context.go parseArgs (the model's `parseArgs`; tied in group Args);
* loops `for ; a < b; a++` / `for ; a < b; b--` over outer `int` variables run under `forRangeB`
  (PreludeRoots.lean) over `List.range' 0 (b - a).toNat`, whose elements are not used: see
  `fiFor` in extract/translate_func.go for why that is the exact number of iterations;
* `toUpperIsSelf r` (PP/Model/Unicode.lean) = `unicode.ToUpper(r) == r`; the table behind it is
  regenerated from the Go toolchain on every run (PP/Extracted.lean).
-/
namespace PP.Go
open PP

/-- an operand of a formatting verb.  The text of a message is not modelled: `bytes.TrimSpace(b)`
is recorded, not evaluated. -/
inductive GoArg where
  | bytes (b : Bytes)
  | trimSpace (b : Bytes)
  deriving DecidableEq, Repr, Inhabited

/-- a Go `error` value.  `nil` is the nil error; the other constructors say how the value was made. -/
inductive GoErr where
  /-- `nil` -/
  | nil
  /-- `errors.New(msg)` -/
  | new (msg : Bytes)
  /-- `fmt.Errorf(format, operands…)`: the constant format, the operand of type error (`nil` when
  there is none) and the other operands in order -/
  | errorf (format : Bytes) (e : GoErr) (args : List GoArg)
  /-- the (non-nil) error `url.PathUnescape` returns: an `url.EscapeError`, text not modelled -/
  | pathUnescape
  /-- the (non-nil) error `parseArgs` returns, by the model's kind -/
  | parseArgs (e : ArgErr)
  deriving DecidableEq, Repr, Inhabited

/-- `len(x)` as a Go `int` -/
def ilen {α : Type} (l : List α) : Int := Int.ofNat l.length

/-- `s[lo:hi]` on a slice or string with `int` bounds; `none` = slice bounds out of range
(which includes every negative bound) -/
def goSliceI {α : Type} (s : List α) (lo hi : Int) : Option (List α) :=
  if 0 ≤ lo ∧ lo ≤ hi ∧ hi ≤ Int.ofNat s.length then some ((s.take hi.toNat).drop lo.toNat) else none

/-- `s[lo:hi]` on a SLICE (not a string) with an explicit upper bound.  Go allows `hi` up to the
capacity of `s`, which the lists of the model do not have: `none` here means "a run-time panic,
OR a reslice beyond the length (within the capacity)".  A function that uses it is therefore only
tied together with a proof that the translated code never yields `none`
(`trimCurlyBrackets_no_panic`). -/
def goReSliceI {α : Type} (s : List α) (lo hi : Int) : Option (List α) := goSliceI s lo hi

/-- `s[i]` with an `int` index; `none` = index out of range (which includes a negative index) -/
def goIdxI {α : Type} (s : List α) (i : Int) : Option α :=
  if 0 ≤ i then s[i.toNat]? else none

/-- the `int` a search returns: the index, or -1 -/
def idxOrMinus1 : Option Nat → Int
  | some i => Int.ofNat i
  | none => -1

/-- strings.IndexByte / bytes.IndexByte -/
def goIndexByte (s : Bytes) (c : UInt8) : Int := idxOrMinus1 (Bytes.indexByte s c)

/-- strings.LastIndexByte / bytes.LastIndexByte -/
def goLastIndexByte (s : Bytes) (c : UInt8) : Int := idxOrMinus1 (Bytes.lastIndexByte s c)

/-- url.PathUnescape: `(string, error)` -/
def goPathUnescape (s : Bytes) : Bytes × GoErr :=
  match pathUnescape s with
  | some u => (u, GoErr.nil)
  | none => ([], GoErr.pathUnescape)

/-- strings.TrimSuffix -/
def goTrimSuffix (s suf : Bytes) : Bytes :=
  if Bytes.hasSuffix s suf then s.take (s.length - suf.length) else s

/-- strings.Split(s, sep), `sep` non-empty -/
def goSplit (s sep : Bytes) : List Bytes := Bytes.splitOn s sep

/-- utf8.DecodeRuneInString: the rune (a code point, as a natural number) and its width -/
def goDecodeRune (s : Bytes) : Nat × Int := ((decodeRune s).1, Int.ofNat (decodeRune s).2)

/-- `reFile.FindSubmatch(b)`: `nil` when there is no match, otherwise the whole match (a
placeholder: the translator refuses code that reads index 0), the path and the line digits.
Both groups take part in every match of `reFile`.  The model's `matchFile` (TRUSTED). -/
def reFileSubmatch (b : Bytes) : List Bytes :=
  match matchFile b with
  | some m => [[], m.path, m.line]
  | none => []

/-- `reFunc.FindSubmatch(b)`, likewise: placeholder, name, arguments.  The model's `matchFunc` (TRUSTED). -/
def reFuncSubmatch (b : Bytes) : List Bytes :=
  match matchFunc b with
  | some (name, args) => [[], name, args]
  | none => []

/-- context.go `atou`: `(int, bool)`; the model's `atou` (the Go function is translated and tied
to it in group Scan: `TrS.tie_atou`) -/
def goAtou (s : Bytes) : Int × Bool :=
  match atou s with
  | some n => (Int.ofNat n, true)
  | none => (0, false)

/-- context.go `parseArgs`: `(Args, error)`; the model's `parseArgs` (TRUSTED).  Every error
return of the Go function is `Args{}, err`. -/
def goParseArgs (s : Bytes) : Args × GoErr :=
  match PP.parseArgs s with
  | .ok a => (a, GoErr.nil)
  | .error e => ({}, GoErr.parseArgs e)

@[simp] theorem idxOrMinus1_none : idxOrMinus1 none = -1 := rfl
@[simp] theorem idxOrMinus1_some (i : Nat) : idxOrMinus1 (some i) = Int.ofNat i := rfl

theorem idxOrMinus1_ne_neg1 (i : Nat) : (Int.ofNat i != (-1 : Int)) = true := by
  simp only [bne_iff_ne, ne_eq, Int.ofNat_eq_natCast]; omega

theorem goSliceI_ofNat {α : Type} (s : List α) (lo hi : Nat) (h1 : lo ≤ hi) (h2 : hi ≤ s.length) :
    goSliceI s (Int.ofNat lo) (Int.ofNat hi) = some ((s.take hi).drop lo) := by
  unfold goSliceI
  rw [if_pos]
  · simp
  · simp only [Int.ofNat_eq_natCast]; omega

theorem goSliceI_ofNat_none {α : Type} (s : List α) (lo hi : Nat) (h : ¬ (lo ≤ hi ∧ hi ≤ s.length)) :
    goSliceI s (Int.ofNat lo) (Int.ofNat hi) = none := by
  unfold goSliceI
  rw [if_neg]
  simp only [Int.ofNat_eq_natCast]; omega

theorem splitOn_go_ne_nil (sep : Bytes) : ∀ (fuel : Nat) (s cur : Bytes), Bytes.splitOn.go sep fuel s cur ≠ []
  | 0, _, _ => by simp [Bytes.splitOn.go]
  | fuel + 1, [], _ => by simp [Bytes.splitOn.go]
  | fuel + 1, c :: t, cur => by
    rw [Bytes.splitOn.go]
    by_cases h : Bytes.hasPrefix (c :: t) sep = true
    · rw [if_pos h]; simp
    · rw [if_neg h]; exact splitOn_go_ne_nil sep fuel t (c :: cur)

/-- strings.Split never returns an empty slice (for a non-empty separator) -/
theorem goSplit_ne_nil (s sep : Bytes) : goSplit s sep ≠ [] :=
  splitOn_go_ne_nil sep _ _ _

/-- `parts[len(parts)-1]` on a non-empty slice is its last element -/
theorem goIdxI_last {α : Type} (l : List α) (h : l ≠ []) :
    goIdxI l (ilen l - (1 : Int)) = some (l.getLast h) := by
  have hl : 0 < l.length := List.length_pos_iff.mpr h
  unfold goIdxI ilen
  have e : (Int.ofNat l.length - 1 : Int) = Int.ofNat (l.length - 1) := by
    simp only [Int.ofNat_eq_natCast]; omega
  rw [e, if_pos (by simp only [Int.ofNat_eq_natCast]; omega)]
  rw [List.getLast_eq_getElem]
  simp

end PP.Go
