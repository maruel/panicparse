import PP.Go.PreludeRoots
import PP.Model.Scan
/-
Run-time support for `PP/TranslatedScanSM.lean` (group ScanSM: the scanner state
machine `(*scanningState).scan` of stack/context.go with `parseFunc` and
`parseFile`, regenerated from the Go source on every run by
`extract/translate_scansm.go`; its header says what each construct assumes).

What this group adds to `PP/Go/Prelude.lean` / `PreludeRoots.lean`:
* `ptrLast xs`: the pointer `cur` of `scan` (`var cur *Goroutine; if len(X) != 0
  { cur = X[len(X)-1] }`) as an index into `X`.  An index out of range stands for
  the nil pointer: every dereference is `X[i]?`, `none` (a panic) exactly when
  Go dereferences nil.  Valid while `X` itself is not assigned (the translator
  checks that the alias is dead after such an assignment).
* `subm m k`: `m[k]` on the result of `re.FindSubmatch` (`none` on nil: Go panics).
* `re…Submatch b` = `re….FindSubmatch(b)`: `none` = nil (no match), otherwise the
  whole match followed by the groups.  They are DEFINED FROM the model's hand
  matchers (`PP/Model/Re.lean`), which yield the groups only: index 0 is a
  placeholder and the translator refuses code that reads it, a computed index, or
  an index above the number of groups.
* errors are the model's `Err` tags (`error` = `Option Err`).

Model functions the translated code calls (not translated in this group; trusted
unless a tie in another group is named):
* the hand matchers `matchHeader`, `matchMinutes`, `matchUnavail`, `matchFile`,
  `matchCreated`, `matchFunc`, `matchRaceOp`, `matchRacePrev`, `matchRaceGoroutine`
  (one per regular expression of context.go; compared with Go's engine by the
  correspondence stream S1);
* `funcInitZ` = `(*Func).Init` ON A ZERO RECEIVER (the model's `funcInit`): the
  receiver afterwards and the error.  On an error Go leaves a zero receiver zero
  (`f.Complete` is assigned `""`), hence `{}`.  The translator checks the receiver
  is zero at every call.  (`funcInit` reports an out-of-range slice expression inside
  Func.Init — a Go panic — as `FErr.slice`; `funcInit_ne_slice`,
  PP/Lemmas/FuncInitLemmas.lean, shows it never does, so no panic is hidden here.)
  Translated and tied in group Func: `TrF.tie_Func_Init_zero`;
* `Call.init` = `(*Call).init` (translated and tied in group Scan: `TrS.tie_Call_init`);
* `goParseArgs` = `parseArgs` (the model's `PP.parseArgs`; every error return of the
  Go function returns `Args{}`; translated and tied in group Args: `TrAr.tie_parseArgs`);
* `goAtou` = `atou` (tied in group Scan: `TrS.tie_atou`; `(0, false)` on failure as in Go);
* `PP.trimLeftSpace`, `PP.isFramesElidedLine` (tied in group Scan);
* `parseUint0` = `strconv.ParseUint(s, 0, 64)` (`none` = any error);
* `Bytes.splitOn` = `bytes.Split` for a non-empty separator; `Bytes.hasPrefix`,
  `Bytes.hasSuffix`, `==` on bytes = `bytes.HasPrefix`, `bytes.HasSuffix`, `bytes.Equal`.
-/
namespace PP.Go
open PP Bytes

/-- the index of the pointee of `cur`; `xs.length` (out of range) = nil -/
def ptrLast {α : Type} (xs : List α) : Nat := if xs.length != 0 then xs.length - 1 else xs.length

/-- `m[k]` on the result of `FindSubmatch` -/
def subm (m : Option (List Bytes)) (k : Nat) : Option Bytes := m.bind (·[k]?)

@[simp] theorem subm_none (k : Nat) : subm none k = none := rfl
@[simp] theorem subm_some (l : List Bytes) (k : Nat) : subm (some l) k = l[k]? := rfl

def reRoutineHeaderSubmatch (b : Bytes) : Option (List Bytes) :=
  (matchHeader b).map fun m => [[], m.indent, m.id, m.status]
def reMinutesSubmatch (b : Bytes) : Option (List Bytes) := (matchMinutes b).map fun d => [[], d]
def reFileSubmatch (b : Bytes) : Option (List Bytes) := (matchFile b).map fun m => [[], m.path, m.line]
def reCreatedSubmatch (b : Bytes) : Option (List Bytes) := (matchCreated b).map fun n => [[], n]
def reFuncSubmatch (b : Bytes) : Option (List Bytes) := (matchFunc b).map fun m => [[], m.1, m.2]
def reRaceOperationHeaderSubmatch (b : Bytes) : Option (List Bytes) :=
  (matchRaceOp b).map fun m => [[], m.1, m.2.1, m.2.2]
def reRacePreviousOperationHeaderSubmatch (b : Bytes) : Option (List Bytes) :=
  (matchRacePrev b).map fun m => [[], m.1, m.2.1, m.2.2]
def reRaceGoroutineSubmatch (b : Bytes) : Option (List Bytes) :=
  (matchRaceGoroutine b).map fun m => [[], m.1, m.2]

/-- `atou` -/
def goAtou (b : Bytes) : Nat × Bool :=
  match atou b with
  | some n => (n, true)
  | none => (0, false)

/-- `(*Func).Init` on a zero receiver: (the receiver afterwards, the error) -/
def funcInitZ (raw : Bytes) : Func × Option Err :=
  match funcInit raw with
  | .ok f => (f, none)
  | .error e => ({}, some (Err.ofFErr e))

/-- `parseArgs` -/
def goParseArgs (b : Bytes) : Args × Option Err :=
  match PP.parseArgs b with
  | .ok a => (a, none)
  | .error e => ({}, some (Err.ofArgErr e))

end PP.Go
