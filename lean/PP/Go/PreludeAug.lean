import PP.Go.Prelude
import PP.Go.PreludeRoots
import PP.Model.TypeNames
/-
Run-time support for `PP/TranslatedAug.lean` (`augmentCall` of stack/source.go and
`(*Args).walk` of stack/stack.go, regenerated from the Go source on every run by
extract/translate_aug.go; the header of that file lists what each translated construct
assumes).

What this group adds to `PP/Go/Prelude.lean` and `PreludeRoots.lean`:
* `forIdx`: `for i := range xs { body }` / a visitor called on each element of a list,
  with the loop-carried locals as state `σ`; no `return`/`break` inside (refused), so the
  body yields `Option σ` (`none` = panic).
* `whileFuel`: `for init; cond; post { body }` (the body definition ends with `post`, also
  on `continue`): at most `fuel` iterations, `none` when the fuel runs out while `cond`
  still holds.  `whileFuel_mono`: a result reached with some fuel is the result with any
  larger fuel, so a `some` IS the result of the Go loop.
* the conversions of a `uint64` word: `goU32 v` = `uint32(v)`, `goTrunc bits v` =
  `intN(v)` (two's complement reinterpretation of the low `bits` bits, as an `Int`;
  `int(v)` is `goTrunc 64 v`: `int` is ASSUMED 64 bits wide); `int64(x)` of a signed
  value is the value itself.
* `goFormatInt i` = `strconv.FormatInt(i, 10)`, `goFormatUint v` =
  `strconv.FormatUint(v, 10)`, `goHex v` = the `%x` verb of `fmt.Sprintf` on a `uint64`
  (lower-case hexadecimal digits, no prefix, "0" for zero).
* `strings.HasPrefix` = `Bytes.hasPrefix`, `strings.Join(xs, sep)` = `Bytes.join sep xs`
  (PP/Model/Bytes.lean), `goSlice` (Prelude), `goSub` (PreludeRoots).
* `*ast.FuncDecl` is `TN.GoFuncDecl` (PP/Model/TypeNames.lean): `f.Recv` is `f.recv`
  (`none` = nil), `f.Recv.List` its content.
Floats are not represented: the two places that format one are oracles of the generated
`Env` (`formatFloat32`, `formatFloat64`), functions of the bit pattern.
-/
namespace PP.Go
open PP

/-- `for i := range xs { body }`; `i` is the index of the head of `xs` -/
def forIdx {α σ : Type} (body : Nat → α → σ → Option σ) : List α → Nat → σ → Option σ
  | [], _, st => some st
  | x :: xs, i, st =>
    match body i x st with
    | none => none
    | some st' => forIdx body xs (i + 1) st'

@[simp] theorem forIdx_nil {α σ : Type} (body : Nat → α → σ → Option σ) (i : Nat) (st : σ) :
    forIdx body [] i st = some st := rfl

theorem forIdx_cons {α σ : Type} (body : Nat → α → σ → Option σ) (x : α) (xs : List α) (i : Nat) (st : σ) :
    forIdx body (x :: xs) i st =
      match body i x st with
      | none => none
      | some st' => forIdx body xs (i + 1) st' := rfl

/-- `for ; cond; { body }` (post statement inside `body`), at most `fuel` iterations -/
def whileFuel {σ : Type} (cond : σ → Bool) (body : σ → Option σ) : Nat → σ → Option σ
  | 0, st => if cond st then none else some st
  | fuel + 1, st =>
    if cond st then
      match body st with
      | none => none
      | some st' => whileFuel cond body fuel st'
    else some st

theorem whileFuel_zero {σ : Type} (cond : σ → Bool) (body : σ → Option σ) (st : σ) :
    whileFuel cond body 0 st = if cond st then none else some st := rfl

theorem whileFuel_succ {σ : Type} (cond : σ → Bool) (body : σ → Option σ) (fuel : Nat) (st : σ) :
    whileFuel cond body (fuel + 1) st =
      if cond st then
        match body st with
        | none => none
        | some st' => whileFuel cond body fuel st'
      else some st := rfl

theorem whileFuel_mono {σ : Type} (cond : σ → Bool) (body : σ → Option σ) :
    ∀ (f f' : Nat) (st r : σ), whileFuel cond body f st = some r → f ≤ f' →
      whileFuel cond body f' st = some r
  | f, f', st, r, h, hle => by
    cases hc : cond st with
    | false =>
      have e : ∀ n, whileFuel cond body n st = some st := fun n => by cases n <;> simp [whileFuel, hc]
      rw [e] at h ⊢; exact h
    | true =>
      match f, f', hle, h with
      | 0, _, _, h => simp [whileFuel, hc] at h
      | f + 1, f' + 1, hle, h =>
        rw [whileFuel_succ, hc, if_pos rfl] at h ⊢
        cases hb : body st with
        | none => rw [hb] at h; cases h
        | some st' => rw [hb] at h; exact whileFuel_mono cond body f f' st' r h (Nat.le_of_succ_le_succ hle)

/-- `uint32(v)` of a `uint64` -/
def goU32 (v : Nat) : Nat := v % 2 ^ 32

/-- `intN(v)` of a `uint64` (`bits` = 8, 16, 32, 64): the low `bits` bits as a two's
complement number -/
def goTrunc (bits : Nat) (v : Nat) : Int :=
  let m := v % 2 ^ bits
  if m < 2 ^ (bits - 1) then (m : Int) else (m : Int) - (2 ^ bits : Nat)

/-- `strconv.FormatInt(i, 10)` -/
def goFormatInt (i : Int) : Bytes :=
  if i < 0 then 45 :: Bytes.natToDec i.natAbs else Bytes.natToDec i.toNat

/-- `strconv.FormatUint(v, 10)` -/
def goFormatUint (v : Nat) : Bytes := Bytes.natToDec v

/-- the verb `%x` of fmt.Sprintf on a `uint64` -/
def goHex (v : Nat) : Bytes := Bytes.natToHex v

end PP.Go
