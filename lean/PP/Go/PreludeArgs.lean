import PP.Go.Prelude
import PP.Model.Args
/-
Run-time support for `PP/TranslatedArgs.lean` (`parseArgs` of stack/context.go,
regenerated from the Go source on every run by `extract/translate_args.go`).

What this group adds to `PP/Go/Prelude.lean` (everything lives in `PP.Go.Ar`):

* `GArg` / `GArgs`: Go's `stack.Arg` / `stack.Args` structs FIELD FOR FIELD (the
  blank `_ struct{}` fields left out), nothing assumed about which fields an
  aggregate or a scalar uses.  The model's `Arg` is embedded by `embArg`
  (Tie file); the tie theorem shows that what `parseArgs` builds is in the image.

* Pointers into ONE local variable (the only one whose address is taken,
  `args`): a `*Args` is `Ptr = Option (List Nat)` (`none` = nil), the index path
  `[i1, …, ik]` standing for `&args.Values[i1].Fields.Values[i2]. … .Fields`;
  a `*Arg` is `PArg = Option (List Nat × Nat)`, `(p, i)` standing for
  `&(*p).Values[i]`.  A fixed array of pointers `[N]*Args` is a `List Ptr` of
  length N (`arrGet` / `arrSet`: index out of range = panic = `none`).
  Reads and writes through a pointer go to the CURRENT value of the root.
  This is Go's behaviour as long as the element a pointer points into has not
  been moved by a reallocating `append` of an enclosing `Values` slice.  The
  only operation that can move elements is `P.Values = append(P.Values, x)`
  (`ptrAppendValues`); it is given the depths of ALL pointers in scope (`live`)
  and yields `none` if one of them is deeper than `P` — a pointer that is not
  deeper cannot point into (an element of) `P.Values`.  So `none` here means
  "Go panics OR the path reading of pointers might not be Go's": the tie file
  proves that `parseArgs` never yields `none` (`parseArgs_no_panic`).

* `seqS` / `finish`: statement sequencing.  Every statement list is a term of
  type `Option (Step σ ρ)` (`none` = panic, `.ret v` = `return v`, `.cont st` =
  fell through with the assigned outer variables `st`).

* `forCount`: `for i := 0; i < n; i++` for an `n` the body does not assign
  (`i` not assigned either, no break/continue): `n.toNat` iterations.

* Go `int` is `Int` (`depth--` reaches -1), `len` is `ilen`.
* `sliceTo s hi` = `s[:hi]` on a `[]byte`: `none` when `hi < 0` or `hi > len(s)`.
  Go panics only beyond `cap(s)`; `none` for `len < hi ≤ cap` is covered by
  `parseArgs_no_panic` as well.
* errors are tags: the four messages of `parseArgs` are the constructors of the
  model's `ArgErr` (table `errorSites` in the generated file, pinned in the Tie
  file); `nil` = `none`.

Trusted model functions the translated code calls: `Bytes.splitOn`
(bytes.Split with the separator `commaSpace`), `Bytes.hasSuffix`, `==` on
Bytes (bytes.Equal), `parseUint0` (strconv.ParseUint(s, 0, 64)), the byte
literals / constants of `PP.Extracted`; `trimCurlyBrackets` is a function of
the environment (translated and tied in group Func).
-/
namespace PP.Go.Ar
open PP PP.Go

/-- `stack.Args` over an element type -/
structure GArgsOf (α : Type) where
  values : List α := []
  processed : List Bytes := []
  elided : Bool := false

/-- `stack.Arg`, field for field -/
structure GArg where
  isAggregate : Bool := false
  name : Bytes := []
  value : Nat := 0
  isPtr : Bool := false
  isOffsetTooLarge : Bool := false
  isInaccurate : Bool := false
  fields : GArgsOf GArg := {}

/-- `stack.Args` -/
abbrev GArgs := GArgsOf GArg

/-- `*Args` pointing into the root variable; `none` = nil -/
abbrev Ptr := Option (List Nat)
/-- `*Arg` pointing into the root variable: element `i` of `(*p).Values` -/
abbrev PArg := Option (List Nat × Nat)

def Ptr.depth : Ptr → Nat
  | none => 0
  | some p => p.length
def PArg.depth : PArg → Nat
  | none => 0
  | some (p, _) => p.length + 1

/-- `&args` for the root variable -/
def ptrRoot : Ptr := some []

/-- the `Args` at a path -/
def getArgs : GArgs → List Nat → Option GArgs
  | root, [] => some root
  | root, i :: p =>
    match root.values[i]? with
    | none => none
    | some a => getArgs a.fields p

/-- replace the `Args` at a path by `f` of it -/
def modArgs : GArgs → List Nat → (GArgs → Option GArgs) → Option GArgs
  | root, [], f => f root
  | root, i :: p, f =>
    match root.values[i]? with
    | none => none
    | some a =>
      match modArgs a.fields p f with
      | none => none
      | some fl => some { root with values := root.values.set i { a with fields := fl } }

/-- `len(x)` -/
abbrev ilen {α : Type} (l : List α) : Int := Int.ofNat l.length

/-- `a[i]` on a fixed array -/
def arrGet {α : Type} (a : List α) (i : Int) : Option α :=
  if 0 ≤ i then a[i.toNat]? else none

/-- `a[i] = v` on a fixed array -/
def arrSet {α : Type} (a : List α) (i : Int) (v : α) : Option (List α) :=
  if 0 ≤ i ∧ i.toNat < a.length then some (a.set i.toNat v) else none

/-- `p.Values = append(p.Values, x)`; `live` = depths of all pointers in scope -/
def ptrAppendValues (root : GArgs) (live : List Nat) (p : Ptr) (x : GArg) : Option GArgs :=
  match p with
  | none => none
  | some path =>
    if live.all (fun d => decide (d ≤ path.length)) then
      modArgs root path fun a => some { a with values := a.values ++ [x] }
    else none

/-- `len(p.Values)` -/
def ptrLenValues (root : GArgs) (p : Ptr) : Option Int :=
  match p with
  | none => none
  | some path => (getArgs root path).map fun a => ilen a.values

/-- `&p.Values[i]` -/
def ptrAddrValuesIdx (root : GArgs) (p : Ptr) (i : Int) : Option PArg :=
  match p with
  | none => none
  | some path =>
    match getArgs root path with
    | none => none
    | some a => if 0 ≤ i ∧ i.toNat < a.values.length then some (some (path, i.toNat)) else none

/-- `&q.Fields` -/
def pargAddrFields (q : PArg) : Option Ptr :=
  match q with
  | none => none
  | some (p, i) => some (some (p ++ [i]))

/-- `p.F = v` for a non-slice field of `Args` -/
def ptrModArgs (root : GArgs) (p : Ptr) (f : GArgs → GArgs) : Option GArgs :=
  match p with
  | none => none
  | some path => modArgs root path fun a => some (f a)

/-- `q.F = v` for a non-slice, non-struct field of `Arg` -/
def pargMod (root : GArgs) (q : PArg) (f : GArg → GArg) : Option GArgs :=
  match q with
  | none => none
  | some (path, i) =>
    modArgs root path fun a =>
      match a.values[i]? with
      | none => none
      | some x => some { a with values := a.values.set i (f x) }

/-- `s[:hi]` -/
def sliceTo (s : Bytes) (hi : Int) : Option Bytes :=
  if 0 ≤ hi ∧ hi.toNat ≤ s.length then some (s.take hi.toNat) else none

/-- `s1; s2` where `s1` may `return`: `k` (the rest) runs on the state `s1` falls through with -/
def seqS {σ τ ρ : Type} (r : Option (Step σ ρ)) (k : σ → Option (Step τ ρ)) : Option (Step τ ρ) :=
  match r with
  | none => none
  | some (.ret v) => some (.ret v)
  | some (.cont s) => k s

@[simp] theorem seqS_none {σ τ ρ : Type} (k : σ → Option (Step τ ρ)) : seqS (none : Option (Step σ ρ)) k = none := rfl
@[simp] theorem seqS_ret {σ τ ρ : Type} (v : ρ) (k : σ → Option (Step τ ρ)) :
    seqS (some (Step.ret v : Step σ ρ)) k = some (.ret v) := rfl
@[simp] theorem seqS_cont {σ τ ρ : Type} (s : σ) (k : σ → Option (Step τ ρ)) :
    seqS (some (Step.cont s : Step σ ρ)) k = k s := rfl

/-- a function body: it has to end in a `return` -/
def finish {ρ : Type} (r : Option (Step Unit ρ)) : Option ρ :=
  match r with
  | some (.ret v) => some v
  | _ => none

/-- `for i := 0; i < n; i++ { body }` -/
def forCount {σ ρ : Type} (body : Int → σ → Option (Step σ ρ)) (n : Int) (st : σ) : Option (Step σ ρ) :=
  forRange (fun i (_ : Unit) s => body (Int.ofNat i) s) (List.replicate n.toNat ()) 0 st

end PP.Go.Ar
