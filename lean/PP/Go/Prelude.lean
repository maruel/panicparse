import PP.Model.Sig
/-
Run-time support for the translated Go code: what `PP/Translated.lean` (the
comparison / merge family, which `extract/translate.go` regenerates from /repo's Go
source on every run) needs, and the base of every other `PP/Go/Prelude*.lean`:
`Step`, `forRange`, `after`, and at the end the list facts the agreement proofs
of loops over a slice share.

The translator turns each Go function of a small imperative subset into a Lean
term of type `Option τ` (`none` = a Go run-time panic: index out of range).
Statements become nested `if`/`match`, `for … range` loops become `forRange`
with an explicit tuple of the loop-carried locals, early `return`s inside loops
become `Step.ret`.  Calls to other translated functions go through an
*environment* (`Env`, generated), so the generated definitions are not
recursive: `PP/Tie/Translated.lean` proves that the hand-written model is a
fixed point of the generated equations.

What the translator assumes about Go, and therefore what is trusted here:
* a Go struct is the Lean structure with the same fields; `stack.Arg` is the
  flat record `ArgS` below and corresponds to the model's `Arg` through
  `ofArg`/`toArg` (an aggregate carries only `Fields`, a scalar only the rest —
  what `parseArgs` produces);
* `&x`, `*p` and pointer receivers are values (the translated functions never
  write through a parameter: pinned separately by the write-set pins);
* `int` is unbounded (`Nat`; the counters and indices here are bounded by slice
  lengths), Go `string` is `Bytes`, `<` on strings is byte-wise (`bytesLt`).
-/
namespace PP.Go

/-- Go's `stack.Arg` struct, field for field. -/
structure ArgS where
  name : Bytes := []
  value : Nat := 0
  isPtr : Bool := false
  isOffsetTooLarge : Bool := false
  isInaccurate : Bool := false
  isAggregate : Bool := false
  fields : Args := {}
  deriving Inhabited

def ofArg : Arg → ArgS
  | .scalar n v p o i => { name := n, value := v, isPtr := p, isOffsetTooLarge := o, isInaccurate := i }
  | .agg fs e => { isAggregate := true, fields := { values := fs, elided := e } }

def ArgS.toArg (a : ArgS) : Arg :=
  if a.isAggregate then .agg a.fields.values a.fields.elided
  else .scalar a.name a.value a.isPtr a.isOffsetTooLarge a.isInaccurate

/-- the zero value of `stack.Arg` (what `make([]Arg, n)` holds) -/
def zeroArg : Arg := ArgS.toArg {}
def zeroCall : Call := {}

@[simp] theorem ofArg_scalar (n : Bytes) (v : Nat) (p o i : Bool) :
    ofArg (.scalar n v p o i) = { name := n, value := v, isPtr := p, isOffsetTooLarge := o, isInaccurate := i } := rfl
@[simp] theorem ofArg_agg (fs : List Arg) (e : Bool) :
    ofArg (.agg fs e) = { isAggregate := true, fields := { values := fs, elided := e } } := rfl
@[simp] theorem ofArg_zeroArg : ofArg zeroArg = {} := rfl
@[simp] theorem toArg_ofArg (a : Arg) : (ofArg a).toArg = a := by
  cases a <;> simp [ofArg, ArgS.toArg]

/-- outcome of one loop iteration / of a whole loop -/
inductive Step (σ ρ : Type) where
  | cont (s : σ)
  | ret (r : ρ)

/-- `for i, x := range xs { body }` with loop-carried state `σ`; the `Nat`
argument is the index of the head of the list. -/
def forRange {α σ ρ : Type} (body : Nat → α → σ → Option (Step σ ρ)) :
    List α → Nat → σ → Option (Step σ ρ)
  | [], _, st => some (.cont st)
  | x :: xs, i, st =>
    match body i x st with
    | none => none
    | some (.ret r) => some (.ret r)
    | some (.cont st') => forRange body xs (i + 1) st'

@[simp] theorem forRange_nil {α σ ρ : Type} (body : Nat → α → σ → Option (Step σ ρ)) (i : Nat) (st : σ) :
    forRange body [] i st = some (.cont st) := rfl

theorem forRange_cons {α σ ρ : Type} (body : Nat → α → σ → Option (Step σ ρ)) (x : α) (xs : List α)
    (i : Nat) (st : σ) :
    forRange body (x :: xs) i st =
      match body i x st with
      | none => none
      | some (.ret r) => some (.ret r)
      | some (.cont st') => forRange body xs (i + 1) st' := rfl

/-- what follows a loop: propagate a panic or an early `return`, otherwise
continue with the loop-carried state -/
def after {σ ρ : Type} (r : Option (Step σ ρ)) (k : σ → Option ρ) : Option ρ :=
  match r with
  | none => none
  | some (.ret v) => some v
  | some (.cont s) => k s

@[simp] theorem after_none {σ ρ : Type} (k : σ → Option ρ) : after (none : Option (Step σ ρ)) k = none := rfl
@[simp] theorem after_ret {σ ρ : Type} (v : ρ) (k : σ → Option ρ) : after (some (Step.ret v)) k = some v := rfl
@[simp] theorem after_cont {σ ρ : Type} (s : σ) (k : σ → Option ρ) : after (some (Step.cont s : Step σ ρ)) k = k s := rfl

theorem forRange_shift {α σ ρ : Type} (body : Nat → α → σ → Option (Step σ ρ)) (xs : List α) (i : Nat) (st : σ) :
    forRange body xs (i + 1) st = forRange (fun j => body (j + 1)) xs i st := by
  induction xs generalizing i st with
  | nil => rfl
  | cons x xs ih =>
    simp only [forRange_cons]
    cases body (i + 1) x st with
    | none => rfl
    | some s => cases s with
      | ret r => rfl
      | cont st' => exact ih (i + 1) st'

/-- `s[lo:hi]` on a slice or string; `none` = slice bounds out of range -/
def goSlice {α : Type} (s : List α) (lo hi : Nat) : Option (List α) :=
  if lo ≤ hi ∧ hi ≤ s.length then some ((s.take hi).drop lo) else none

/-- Go `a < b` on strings -/
abbrev strLt (a b : Bytes) : Bool := bytesLt a b

/-- `len(x)` -/
abbrev len {α : Type} (l : List α) : Nat := l.length

/-- `Location` used as an array index -/
abbrev locIdx (l : Loc) : Nat := l.toNat

/-! Facts about lists that the agreement proofs of loops over a slice share: the loop has
`done` behind it and `v :: rest` (or `l.drop k`) in front of it. -/

theorem drop_cons_inv {α : Type} {l : List α} {k : Nat} {x : α} {xs : List α}
    (h : l.drop k = x :: xs) : l[k]? = some x ∧ l.drop (k + 1) = xs := by
  have h0 : (l.drop k)[0]? = l[k]? := by rw [List.getElem?_drop]; rfl
  rw [← h0, ← List.tail_drop, h]
  exact ⟨rfl, rfl⟩

theorem getElem?_append_cons_self {α : Type} (done rest : List α) (v : α) :
    (done ++ v :: rest)[done.length]? = some v := by simp

theorem set_append_cons_self {α : Type} (done rest : List α) (v w : α) :
    (done ++ v :: rest).set done.length w = done ++ w :: rest := by simp

theorem ite_some_some {α : Type} (c : Prop) [Decidable c] (a b : α) :
    (if c then some a else some b) = some (if c then a else b) := (apply_ite some c a b).symm

end PP.Go
