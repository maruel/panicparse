import PP.Go.Prelude
import PP.Go.PreludeRoots
import PP.Go.PreludeUi
import PP.Go.PreludeWeb
import PP.Model.Cli
/-
Run-time support for `PP/TranslatedCli.lean` (the filter loop of the command,
internal/main.go: `process`, `processInner`, `showBanner`, regenerated from the Go source on
every run by extract/translate_cli.go; agreement with `PP/Model/Cli.lean`:
`PP/Tie/TranslatedCli.lean`).

Reused: from PreludeWeb.lean its `GoErr` (a Go `error`: `nil`, the sentinel `io.EOF`, any other
value), `SnapRef` (a `*stack.Snapshot`: nil or a snapshot), `lenI` (`len` as an `int`) and
`forFuel` / `forFuel_mono` (an unbounded `for`); `StepB` (PreludeRoots.lean), `after`
(Prelude.lean), `Aggregated` (PreludeUi.lean).

What this group adds:

* **The output trace** `CWorld.trace`: every function of the group takes the world as its first
  argument and returns it with its result; every call that talks to the outside appends ONE
  `CEvent`, in program order (the translator only accepts such a call as a whole statement, as the
  whole right-hand side of an assignment / a `return`, or as the init statement of an `if`, with
  arguments that have neither effects nor panics).  `outBytes o tr` is what the events of a trace
  sent to the writer `o`, in order.
* **The input stream** `in io.Reader` is the VALUE `InStream` (the model's `Src`: the bytes the
  source still holds, how it delivers them, how it ends).  `stack.ScanSnapshot(in, out, opts)`
  consumes the stream and the translation rebinds the variable `in` to what is left;
  `io.MultiReader(bytes.NewReader(suffix), in)` makes a new stream out of `suffix` and the old one
  (the oracle `Env.multiReader`).  The translator checks that the variable is used in no other way
  (`cliStreamGuard`), so that the value is used linearly.  ASSUMES the caller does not read from the
  reader while `process` runs, and that `in` / `out` are non-nil interface values.
* **Oracles** (the generated `Env`): `fuel`; `getenv` (`os.Getenv`); `goroot` / `gopaths`
  (`stack.DefaultOpts()` is the model's `Cli.defaultOpts` of them: group Web, `tie_DefaultOpts`);
  `scanSnapshot` (`stack.ScanSnapshot`: the snapshot, the suffix, the error, the bytes it forwarded
  to `out`, the stream it left); `multiReader`; `aggregate` (`(*Snapshot).Aggregate`, `none` = a
  panic); the four renderers `writeBuckets`, `writeGoroutines` (internal/main.go
  `writeBucketsToConsole`, `writeGoroutinesToConsole`: the bytes sent to `out` and the error
  returned), `htmlAgg`, `htmlSnap` (internal/main.go `toHTML` on an `*Aggregated` / a `*Snapshot`: the
  error returned); `writeErr` (the error of `out.Write(b)`).  Every oracle that answers for the
  outside also gets the world (the events so far): its answer may depend on the history.
  The agreement theorems hold for EVERY oracle.

Library functions as the translator spells them:
* `snapIsRace c` = `c.IsRace()` (stack/context.go:220: `s.Goroutines[0].RaceAddr != 0`): the model's
  `Cli.isRace`; `none` (a panic) for a nil receiver or an empty goroutine list;
* `Cli.defaultOpts E.goroot E.gopaths` = `stack.DefaultOpts()` (translated and tied in group Web);
* `CWorld.logPrintf` = `log.Printf(format, args…)`: the event records the format only (the text goes to
  the log writer, `io.Discard` unless `-v`; it is not part of the output).  The arguments ARE
  evaluated by the translated code first (a nil dereference there is a panic).  ASSUMES the
  `String`/`Error`/`Format` methods `log.Printf` may call on the arguments return (here the arguments
  are a `string` and a `map[string]string`).
-/
namespace PP.Go
open PP

/-- an `io.Writer`: which writer the events are about -/
structure CWriter where
  id : Nat := 0
  deriving DecidableEq, Repr, Inhabited

/-- a `*regexp.Regexp`: nil, or what `MatchString` decides -/
abbrev CRe := Option (Bytes → Bool)

/-- a `*Palette` (internal/ui.go): nil or a palette; the translated code never looks inside -/
abbrev PaletteRef := Option Console.Palette

/-- an `io.Reader` as a value: what the source still holds (`PP.Src`, PP/Model/Reader.lean) -/
abbrev InStream := Src

/-- what `stack.ScanSnapshot(in, out, opts)` does and returns -/
structure ScanRet where
  /-- the stream afterwards -/
  inp : InStream
  /-- the `*Snapshot` returned -/
  snap : SnapRef
  /-- the `[]byte` returned (nil and empty are the same to the translated code: only `len`,
  `bytes.NewReader` and `out.Write` see it) -/
  suffix : Bytes
  /-- the error returned -/
  err : GoErr
  /-- the bytes it wrote to `out` -/
  fwd : Bytes

/-- one observable action, as the translated code performs it -/
inductive CEvent where
  /-- `stack.ScanSnapshot(in, out, opts)`, which forwarded `fwd` to `out` -/
  | scan (inp : InStream) (out : CWriter) (opts : Cli.Opts) (fwd : Bytes)
  /-- `log.Printf(format, …)` -/
  | log (format : Bytes)
  /-- `writeBucketsToConsole(out, …)`, which sent `b` to `out` -/
  | buckets (out : CWriter) (b : Bytes)
  /-- `writeGoroutinesToConsole(out, …)`, which sent `b` to `out` -/
  | goroutines (out : CWriter) (b : Bytes)
  /-- `toHTML(a, path, needsEnv)` on an `*Aggregated` -/
  | htmlAgg (a : Aggregated) (path : Bytes) (needsEnv : Bool)
  /-- `toHTML(c, path, needsEnv)` on a `*Snapshot` -/
  | htmlSnap (c : SnapRef) (path : Bytes) (needsEnv : Bool)
  /-- `out.Write(b)` -/
  | write (out : CWriter) (b : Bytes)

/-- the events so far, oldest first -/
structure CWorld where
  trace : List CEvent := []

def CWorld.emit (w : CWorld) (e : CEvent) : CWorld := { w with trace := w.trace ++ [e] }

@[simp] theorem CWorld.emit_trace (w : CWorld) (e : CEvent) : (w.emit e).trace = w.trace ++ [e] := rfl

/-- the bytes an event sent to the writer `o` -/
def CEvent.bytesTo (o : CWriter) : CEvent → Bytes
  | .scan _ o' _ b => if o' = o then b else []
  | .buckets o' b => if o' = o then b else []
  | .goroutines o' b => if o' = o then b else []
  | .write o' b => if o' = o then b else []
  | _ => []

/-- everything a trace sent to the writer `o`, in order -/
def outBytes (o : CWriter) (tr : List CEvent) : Bytes := tr.flatMap (CEvent.bytesTo o)

@[simp] theorem outBytes_nil (o : CWriter) : outBytes o [] = [] := rfl
@[simp] theorem outBytes_append (o : CWriter) (a b : List CEvent) :
    outBytes o (a ++ b) = outBytes o a ++ outBytes o b := by simp [outBytes]
@[simp] theorem outBytes_singleton (o : CWriter) (e : CEvent) : outBytes o [e] = e.bytesTo o := by
  simp [outBytes]

/-- `c.IsRace()` (stack/context.go:220-222) -/
def snapIsRace : SnapRef → Option Bool
  | none => none
  | some s =>
    match Cli.isRace s.goroutines with
    | .ok b => some b
    | .error _ => none

/-- `c, suffix, err := stack.ScanSnapshot(in, out, opts)`: the world, then `in` afterwards and the
three results -/
def CWorld.scanSnapshot (scan : CWorld → InStream → Cli.Opts → ScanRet) (wld : CWorld) (inp : InStream)
    (out : CWriter) (opts : Cli.Opts) : CWorld × InStream × SnapRef × Bytes × GoErr :=
  let r := scan wld inp opts
  (wld.emit (.scan inp out opts r.fwd), r.inp, r.snap, r.suffix, r.err)

/-- `log.Printf(format, …)` -/
def CWorld.logPrintf (wld : CWorld) (format : Bytes) : CWorld := wld.emit (.log format)

/-- `writeBucketsToConsole(out, p, a, pf, needsEnv, filter, match)` (internal/main.go:66) -/
def CWorld.writeBuckets
    (render : CWorld → PaletteRef → Aggregated → Console.PathFormat → Bool → CRe → CRe → Bytes × GoErr)
    (wld : CWorld) (out : CWriter) (p : PaletteRef) (a : Aggregated) (pf : Console.PathFormat) (needsEnv : Bool)
    (filter mtch : CRe) : CWorld × GoErr :=
  let r := render wld p a pf needsEnv filter mtch
  (wld.emit (.buckets out r.1), r.2)

/-- `writeGoroutinesToConsole(out, p, c, pf, needsEnv, filter, match)` (internal/main.go:86) -/
def CWorld.writeGoroutines
    (render : CWorld → PaletteRef → SnapRef → Console.PathFormat → Bool → CRe → CRe → Bytes × GoErr)
    (wld : CWorld) (out : CWriter) (p : PaletteRef) (c : SnapRef) (pf : Console.PathFormat) (needsEnv : Bool)
    (filter mtch : CRe) : CWorld × GoErr :=
  let r := render wld p c pf needsEnv filter mtch
  (wld.emit (.goroutines out r.1), r.2)

/-- `toHTML(a, path, needsEnv)` with `a : *stack.Aggregated` (internal/main.go:110) -/
def CWorld.htmlAgg (render : CWorld → Aggregated → Bytes → Bool → GoErr) (wld : CWorld) (a : Aggregated)
    (path : Bytes) (needsEnv : Bool) : CWorld × GoErr :=
  (wld.emit (.htmlAgg a path needsEnv), render wld a path needsEnv)

/-- `toHTML(c, path, needsEnv)` with `c : *stack.Snapshot` (internal/main.go:110) -/
def CWorld.htmlSnap (render : CWorld → SnapRef → Bytes → Bool → GoErr) (wld : CWorld) (c : SnapRef)
    (path : Bytes) (needsEnv : Bool) : CWorld × GoErr :=
  (wld.emit (.htmlSnap c path needsEnv), render wld c path needsEnv)

/-- `_, err := out.Write(b)` -/
def CWorld.write (werr : CWorld → CWriter → Bytes → GoErr) (wld : CWorld) (out : CWriter) (b : Bytes) :
    CWorld × GoErr :=
  (wld.emit (.write out b), werr wld out b)

end PP.Go
