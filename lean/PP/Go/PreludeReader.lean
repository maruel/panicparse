import PP.Go.PreludeRoots
import PP.Model.Reader
import PP.Model.Scan
import PP.Model.Cli
/-
Run-time support for `PP/TranslatedReader.lean` (the line reader of stack/reader.go:
`(*reader).fill`, `buffered`, `readSlice`, `readLine`, and `ScanSnapshot` of stack/context.go, regenerated from the Go
source on every run by extract/translate_reader.go).

The translation stays at the ARRAY level of the Go code:

* `RdA` is the Go struct `reader`, field for field: `buf` the array `[16*1024]byte` as a list (that its length is
  `bufN` is an invariant, `RdInv` in the Tie file, not part of the type), `rd` the `io.Reader` — the model's
  delivery schedule `Src` (PP/Model/Reader.lean) —, `r`, `w` the Go `int`s as `Int` (unbounded: the translation
  ASSUMES no 64-bit overflow), `err` an `error`.
* An `error` is `Option SliceErr`: nil, an error of the io.Reader / `io.EOF` / `io.ErrNoProgress`
  (`SliceErr.rerr`), or the package's sentinel `errBufferFull` (`SliceErr.bufferFull`).
* `sliceI s lo hi` = `s[lo:hi]` on the array (cap = len): `none` = slice bounds out of range.  The result is a VALUE:
  the bytes of the array at the moment of evaluation (the translator checks that the array is not written while a
  local holds such a slice; for the callers of the group this is the aliasing assumption stated in the
  translator's header).
* `overlay dst src` = the content of `dst` after `copy(dst, src)` (memmove semantics, `min` of the lengths).
* `readInto scr buf lo src` = `n, err := rd.Read(buf[lo:])`: `Src.read space` is the oracle for one `Read` into a
  window of `space` bytes (it delivers `0 ≤ n ≤ space` bytes and possibly an error: the io.Reader contract); the
  delivered bytes are written at `lo`; the rest of the window is overwritten by `scr`, any bytes (the io.Reader
  contract: "even if Read returns n < len(p), it may use all of p as scratch space").  Result: the array
  afterwards, `n`, `err`, the io.Reader afterwards.
* `indexByte b c` = `bytes.IndexByte(b, c)`; `lenInt` = `len` as an `int`.
* `goAppendN d f` = `append(d, f...)` for a `d` that may be nil (`none`): appending nothing to nil yields nil.
* `repeatN body k` = `for i := k; i > 0; i-- { body }` for a body that does not mention `i`.
* `loopFuel body fuel` = `for { body }`: at most `fuel` iterations, `none` when a step panics or the fuel runs
  out; `loopFuel_mono`: a result reached with some fuel is the result with any larger fuel, so a `some` IS the
  result of the Go loop.

For `ScanSnapshot`:
* `GErr` is a Go `error` there: an error of the reader (`slice`), an error of `scan` (`parse`, the model's `Err` tags of
  group ScanSM), `errors.New("invalid Opts")`, or an error of the io.Writer.  `io.EOF` is `slice (rerr eof)`.
* `ScanSt` is the local `scanningState`: `sm` the part `scan` works on (the model's `S`: Goroutines, state, prefix,
  goroutineIndex), `snap` the other fields of the `*Snapshot` it embeds (`snap.goroutines` is not used: the Goroutines
  live in `sm.gs`); `ScanSt.snapshot` is the `Snapshot` the embedded pointer points to.
* `*Opts` is `Option Cli.Opts` (PP/Model/Cli.lean), `*Snapshot` results are `Option Snapshot` (PP/Model/Roots.lean).
* the `io.Writer` is the list of the bytes written to it so far; `goWrite o w d` = `n, err := w.Write(d)`: the oracle `o`
  says how many bytes this `Write` accepts (at most `len(d)`: the io.Writer contract) and which error it returns.
-/
namespace PP.Go
open PP

/-- the Go struct `reader` (stack/reader.go) -/
structure RdA where
  buf : Bytes
  rd : Src
  r : Int := 0
  w : Int := 0
  err : Option SliceErr := none

/-- a Go `error` in `ScanSnapshot` -/
inductive GErr where
  | slice (e : SliceErr)
  | parse (e : Err)
  | invalidOpts
  | write (tag : Nat)
  deriving DecidableEq, Repr

/-- the local `scanningState` of `ScanSnapshot` -/
structure ScanSt where
  sm : S
  snap : Snapshot

/-- the `Snapshot` the `*Snapshot` embedded in the scanning state points to -/
def ScanSt.snapshot (s : ScanSt) : Snapshot := { s.snap with goroutines := s.sm.gs }

/-- `n, err := w.Write(d)`; result: the writer afterwards, `n`, `err` -/
def goWrite (o : Bytes → Bytes → Nat × Option GErr) (w d : Bytes) : Bytes × Int × Option GErr :=
  (w ++ d.take (o w d).1, ((min (o w d).1 d.length : Nat) : Int), (o w d).2)

/-- `len(x)` as an `int` -/
def lenInt {α : Type} (l : List α) : Int := (l.length : Int)

/-- `s[lo:hi]` with `int` bounds on an array (or a slice whose cap is its len); `none` = out of range -/
def sliceI (s : Bytes) (lo hi : Int) : Option Bytes :=
  if 0 ≤ lo ∧ lo ≤ hi ∧ hi ≤ (s.length : Int) then some ((s.take hi.toNat).drop lo.toNat) else none

/-- the content of `dst` after `copy(dst, src)` -/
def overlay (dst src : Bytes) : Bytes := src.take dst.length ++ dst.drop src.length

/-- `bytes.IndexByte(b, c)` -/
def indexByte : Bytes → UInt8 → Int
  | [], _ => -1
  | b :: bs, c => if b = c then 0 else if indexByte bs c < 0 then -1 else indexByte bs c + 1

/-- `n, err := rd.Read(buf[lo:])` -/
def readInto (scr : Bytes) (buf : Bytes) (lo : Int) (src : Src) : Option (Bytes × Int × Option SliceErr × Src) :=
  (sliceI buf lo (buf.length : Int)).bind fun p =>
  let res := src.read p.length
  some (buf.take lo.toNat ++ overlay p (res.1 ++ scr), (res.1.length : Int), res.2.1.map SliceErr.rerr, res.2.2)

/-- `append(d, f...)`, `d` nil (`none`) or not -/
def goAppendN (d : Option Bytes) (f : Bytes) : Option Bytes :=
  if f = [] then d else some (d.getD [] ++ f)

/-- `for i := k; i > 0; i-- { body }` (the body does not mention `i`) -/
def repeatN {σ ρ : Type} (body : σ → Option (Step σ ρ)) : Nat → σ → Option (Step σ ρ)
  | 0, st => some (.cont st)
  | k + 1, st =>
    match body st with
    | none => none
    | some (.ret r) => some (.ret r)
    | some (.cont st') => repeatN body k st'

@[simp] theorem repeatN_zero {σ ρ : Type} (body : σ → Option (Step σ ρ)) (st : σ) :
    repeatN body 0 st = some (.cont st) := rfl

theorem repeatN_succ {σ ρ : Type} (body : σ → Option (Step σ ρ)) (k : Nat) (st : σ) :
    repeatN body (k + 1) st =
      match body st with
      | none => none
      | some (.ret r) => some (.ret r)
      | some (.cont st') => repeatN body k st' := rfl

/-- `for { body }`: at most `fuel` iterations; `none` when a step panics or the fuel runs out -/
def loopFuel {σ ρ : Type} (body : σ → Option (StepB σ ρ)) : Nat → σ → Option (Step σ ρ)
  | 0, _ => none
  | fuel + 1, st =>
    match body st with
    | none => none
    | some (.ret r) => some (.ret r)
    | some (.brk st') => some (.cont st')
    | some (.cont st') => loopFuel body fuel st'

@[simp] theorem loopFuel_zero {σ ρ : Type} (body : σ → Option (StepB σ ρ)) (st : σ) :
    loopFuel body 0 st = none := rfl

theorem loopFuel_succ {σ ρ : Type} (body : σ → Option (StepB σ ρ)) (fuel : Nat) (st : σ) :
    loopFuel body (fuel + 1) st =
      match body st with
      | none => none
      | some (.ret r) => some (.ret r)
      | some (.brk st') => some (.cont st')
      | some (.cont st') => loopFuel body fuel st' := rfl

theorem loopFuel_mono {σ ρ : Type} (body : σ → Option (StepB σ ρ)) :
    ∀ (f f' : Nat) (st : σ) (r : Step σ ρ), loopFuel body f st = some r → f ≤ f' →
      loopFuel body f' st = some r
  | 0, _, _, _, h, _ => by simp at h
  | f + 1, 0, _, _, _, hle => by omega
  | f + 1, f' + 1, st, r, h, hle => by
    rw [loopFuel_succ] at h ⊢
    cases hb : body st with
    | none => rw [hb] at h; exact h
    | some s =>
      rw [hb] at h
      cases s with
      | ret v => exact h
      | brk st' => exact h
      | cont st' => exact loopFuel_mono body f f' st' r h (by omega)

end PP.Go
