import PP.Go.Prelude
import PP.Model.Html
/-
Run-time support for `PP/TranslatedHtml.lean` (the link builders of
stack/html.go, regenerated from the Go source on every run).

Library functions the translated code calls, as the translator spells them:
* `goSplitN s c n` = `strings.SplitN(s, string(c), n)` for a one-byte separator
  and a positive constant `n` (the translator refuses anything else);
* `reVersionSubmatch s` = `reVersion.FindStringSubmatch(s)`: empty when there is
  no match, otherwise the whole match followed by the one group.  The model's
  hand matcher `reVersionFind` yields the group only, so the first element is a
  placeholder; the translator refuses code that reads index 0;
* `reMethodSymbolReplace12 s` = `reMethodSymbol.ReplaceAllString(s, "$1$2")`:
  the expression is anchored at both ends (pinned: `pin_reMethodSymbol`), so
  there is at most one match and it is the whole string.
`queryEscape`, `escape`, `htmlEscapeString`, `Loc.string` are the hand-written
models of net/url, html/template and location_string.go in `PP/Model/Html.lean`
(trusted against the real packages by the correspondence streams of C17).
-/
namespace PP.Go
open PP PP.Html

/-- `strings.SplitN(s, string(c), n)`, `n > 0` -/
def goSplitN (s : Bytes) (c : UInt8) : Nat → List Bytes
  | 0 => []
  | 1 => [s]
  | n + 2 =>
    match cut s c with
    | none => [s]
    | some (a, b) => a :: goSplitN b c (n + 1)

/-- `reVersion.FindStringSubmatch(s)` (index 0 is a placeholder) -/
def reVersionSubmatch (s : Bytes) : List Bytes :=
  match reVersionFind s with
  | some h => [[], h]
  | none => []

/-- `reMethodSymbol.ReplaceAllString(s, "$1$2")` -/
def reMethodSymbolReplace12 (s : Bytes) : Bytes :=
  match reMethodSymbol s with
  | some (a, b) => a ++ b
  | none => s

theorem goSplitN_two (s : Bytes) :
    goSplitN s 47 2 = match cut s 47 with | none => [s] | some (a, b) => [a, b] := by
  simp only [goSplitN]

/-- `strings.SplitN(s, "/", 3)` has three parts exactly when the model's `splitN3` finds them -/
theorem goSplitN_three (s : Bytes) :
    (∃ a b c, splitN3 s = some (a, b, c) ∧ goSplitN s 47 3 = [a, b, c]) ∨
    (splitN3 s = none ∧ (len (goSplitN s 47 3) == 3) = false) := by
  cases h : cut s 47 with
  | none => exact .inr ⟨by simp only [splitN3, h], by simp [goSplitN, h]⟩
  | some p =>
    obtain ⟨a, r⟩ := p
    cases h' : cut r 47 with
    | none => exact .inr ⟨by simp only [splitN3, h, h'], by simp [goSplitN, h, h']⟩
    | some q => exact .inl ⟨a, q.1, q.2, by simp only [splitN3, h, h'], by simp only [goSplitN, h, h']⟩

end PP.Go
