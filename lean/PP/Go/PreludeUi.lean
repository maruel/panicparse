import PP.Go.Prelude
import PP.Model.Console
import PP.Model.Roots
/-
Run-time support for `PP/TranslatedUi.lean` (the console renderer internal/ui.go and
`Signature.SleepString`, `Arg.String`, `Args.String` of stack/stack.go, regenerated from the
Go source on every run by extract/translate_ui.go).

Types: `internal.Palette` and `internal.pathFormat` are the model's `Console.Palette` and
`Console.PathFormat` (field for field / constant for constant, in declaration order);
`stack.Bucket` is the model's `Bucket`, `stack.Snapshot` the model's `Snapshot`;
`stack.Aggregated` is the record below (`*Snapshot` embedded + `Buckets`).

Library functions the translated code calls, as the translator spells them — all of them the
hand-written model functions, trusted as the model of package fmt / strings
(PP/Model/Console.lean, PP/Model/Bytes.lean):
* `Console.fmtPadRight w s` = the `%-*s` verb of fmt with an `int` width `w ≥ 0` and a string `s`;
* `Console.fmtHex n`, `Console.fmtHex08 n` = the `%x` and `%08x` verbs on an unsigned integer;
* `Bytes.natToDec n` = the `%d` verb on a non-negative integer;
* `Bytes.join sep v` = `strings.Join(v, sep)`.
-/
namespace PP.Go
open PP

/-- stack.Aggregated (bucket.go): the snapshot it was made from and the buckets -/
structure Aggregated where
  snapshot : Snapshot := {}
  buckets : List Bucket := []

/-- what follows a loop that stands inside the body of another loop: a panic or an early `return`
of the inner loop ends the outer iteration the same way, otherwise the rest of the outer body
runs with the state the inner loop left -/
def afterIn {σ σ' ρ : Type} (r : Option (Step σ ρ)) (k : σ → Option (Step σ' ρ)) : Option (Step σ' ρ) :=
  match r with
  | none => none
  | some (.ret v) => some (.ret v)
  | some (.cont s) => k s

@[simp] theorem afterIn_none {σ σ' ρ : Type} (k : σ → Option (Step σ' ρ)) :
    afterIn (none : Option (Step σ ρ)) k = none := rfl
@[simp] theorem afterIn_ret {σ σ' ρ : Type} (v : ρ) (k : σ → Option (Step σ' ρ)) :
    afterIn (some (Step.ret v : Step σ ρ)) k = some (.ret v) := rfl
@[simp] theorem afterIn_cont {σ σ' ρ : Type} (s : σ) (k : σ → Option (Step σ' ρ)) :
    afterIn (some (Step.cont s : Step σ ρ)) k = k s := rfl

end PP.Go
