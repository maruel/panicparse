import PP.Lemmas.ScanWF
import PP.Lemmas.NamesLemmas
/-
C15, the gate: the scanner never sets an argument name.  `parseArgs` builds scalars with
`name = []`, and no step of `scan` touches `Args.Values` of an existing call — so every
goroutine the scanner holds is `Unnamed` (stack and `created by` calls alike).
Both halves are instances of what `PP/Lemmas/ScanWF.lean` and `ScanGs.lean` prove for any property
of argument lists.
-/
namespace PP
open Bytes

mutual
/-- no scalar of the argument carries a name -/
def Arg.unnamed : Arg → Bool
  | .scalar n _ _ _ _ => n == []
  | .agg fs _ => Arg.unnamedL fs
def Arg.unnamedL : List Arg → Bool
  | [] => true
  | a :: as => Arg.unnamed a && Arg.unnamedL as
end

def callsUnnamed : List Call → Bool
  | [] => true
  | c :: cs => Arg.unnamedL c.args.values && callsUnnamed cs

/-- no argument of any call of the goroutine (stack and creator) carries a name -/
def Goroutine.Unnamed (g : Goroutine) : Prop :=
  callsUnnamed g.sig.stack.calls = true ∧ callsUnnamed g.sig.createdBy.calls = true

theorem Arg.unnamedL_append (as bs : List Arg) : Arg.unnamedL (as ++ bs) = (Arg.unnamedL as && Arg.unnamedL bs) := by
  induction as with
  | nil => simp [Arg.unnamedL]
  | cons a as ih => simp [Arg.unnamedL, ih, Bool.and_assoc]

theorem parseArgs_unnamed (line : Bytes) (a : Args) (h : parseArgs line = .ok a) :
    Arg.unnamedL a.values = true :=
  parseArgs_closed ⟨rfl, Arg.unnamedL_append,
    fun v p o i _ => by simp [Arg.unnamedL, Arg.unnamed],
    fun vs e h => by simp [Arg.unnamedL, Arg.unnamed, h]⟩ line a h

theorem callsUnnamed_iff (cs : List Call) : callsUnnamed cs = true ↔ ∀ c ∈ cs, Arg.unnamedL c.args.values = true := by
  induction cs with
  | nil => simp [callsUnnamed]
  | cons c cs ih => simp [callsUnnamed, ih]

def AllU (gs : List Goroutine) : Prop := ∀ g ∈ gs, g.Unnamed

/-- the calls a line carries have unnamed arguments -/
def LineU (l : Line) : Prop :=
  (∀ c e, l.func = some (c, e) → Arg.unnamedL c.args.values = true) ∧
  (∀ c e, l.funcL = some (c, e) → Arg.unnamedL c.args.values = true)

theorem allU_iff (gs : List Goroutine) :
    AllU gs ↔ ∀ g ∈ gs, g.Args (fun a => Arg.unnamedL a = true) (fun a => Arg.unnamedL a = true) :=
  forall₂_congr fun g _ => by simp [Goroutine.Args, Goroutine.Unnamed, callsUnnamed_iff]

theorem scan_allU (s : S) (l : Line) (s' : S) (p : Bool) (e : Option Err)
    (hs : AllU s.gs) (hl : LineU l) (h : scan s l = .ok (s', p, e)) : AllU s'.gs :=
  (allU_iff _).mpr (scan_allArgs rfl rfl
    (fun c e hc => ⟨hc.elim (hl.1 c e) (hl.2 c e), hc.elim (hl.1 c e) (hl.2 c e)⟩) ((allU_iff _).mp hs) h)

theorem parseFunc_unnamed (line : Bytes) (c : Call) (e : Option Err) (h : parseFunc line = some (c, e)) :
    Arg.unnamedL c.args.values = true := by
  unfold parseFunc at h
  split at h
  · cases h
  · split at h
    · cases h; rfl
    · dsimp only at h
      split at h
      · cases h; rfl
      · rename_i a ha
        cases h
        exact parseArgs_unnamed _ _ ha

theorem classify_lineU (pfx raw : Bytes) : LineU (classify pfx raw) := by
  unfold classify
  exact ⟨fun c e h => parseFunc_unnamed _ c e h, fun c e h => parseFunc_unnamed _ c e h⟩

theorem scanBytes_allU (s : S) (raw : Bytes) (s' : S) (p : Bool) (e : Option Err)
    (hs : AllU s.gs) (h : scanBytes s raw = .ok (s', p, e)) : AllU s'.gs :=
  scan_allU s _ s' p e hs (classify_lineU _ _) h

/-! ### unnamed arguments are fixed points of `eraseName` -/

mutual
theorem Arg.eraseName_unnamed : ∀ a : Arg, Arg.unnamed a = true → Arg.eraseName a = a
  | .scalar n v p o i, h => by
    simp only [Arg.unnamed, beq_iff_eq] at h
    subst h
    simp [Arg.eraseName]
  | .agg fs e, h => by
    simp only [Arg.unnamed] at h
    simp [Arg.eraseName, Arg.eraseNameL_unnamed fs h]
theorem Arg.eraseNameL_unnamed : ∀ l : List Arg, Arg.unnamedL l = true → Arg.eraseNameL l = l
  | [], _ => by simp [Arg.eraseNameL]
  | a :: as, h => by
    simp only [Arg.unnamedL, Bool.and_eq_true] at h
    simp [Arg.eraseNameL, Arg.eraseName_unnamed a h.1, Arg.eraseNameL_unnamed as h.2]
end

theorem calls_eraseNames_unnamed (cs : List Call) (h : callsUnnamed cs = true) :
    cs.map Call.eraseNames = cs := by
  induction cs with
  | nil => rfl
  | cons c cs ih =>
    simp only [callsUnnamed, Bool.and_eq_true] at h
    simp only [List.map_cons, ih h.2, Call.eraseNames, Arg.eraseNameL_unnamed _ h.1]

theorem Goroutine.eraseNames_unnamed (g : Goroutine) (h : g.Unnamed) : Goroutine.eraseNames g = g := by
  simp only [Goroutine.eraseNames, calls_eraseNames_unnamed _ h.1]

end PP
