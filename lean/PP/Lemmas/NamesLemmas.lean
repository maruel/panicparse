import PP.Model.Names
/-
Helper lemmas for C15 (nameArguments).
-/
namespace PP

theorem mem_insertDedup {x y : Nat} {l : List Nat} :
    y ∈ insertDedup x l ↔ y = x ∨ y ∈ l := by
  induction l with
  | nil => simp [insertDedup]
  | cons z zs ih =>
    simp only [insertDedup]
    split
    · simp
    · split
      · subst_vars; simp
      · simp only [List.mem_cons, ih]
        grind

theorem insertDedup_sorted {x : Nat} {l : List Nat} (h : l.Pairwise (· < ·)) :
    (insertDedup x l).Pairwise (· < ·) := by
  induction l with
  | nil => simp [insertDedup]
  | cons z zs ih =>
    simp only [insertDedup]
    split
    · rename_i hlt
      rw [List.pairwise_cons] at h ⊢
      refine ⟨?_, List.pairwise_cons.mpr h⟩
      intro a ha
      rcases List.mem_cons.mp ha with rfl | ha
      · exact hlt
      · exact Nat.lt_trans hlt (h.1 a ha)
    · split
      · exact h
      · rename_i h1 h2
        rw [List.pairwise_cons] at h ⊢
        refine ⟨?_, ih h.2⟩
        intro a ha
        rcases mem_insertDedup.mp ha with rfl | ha
        · omega
        · exact h.1 a ha

theorem mem_sortDedup {y : Nat} {l : List Nat} : y ∈ sortDedup l ↔ y ∈ l := by
  induction l with
  | nil => simp [sortDedup]
  | cons x xs ih =>
    have : sortDedup (x :: xs) = insertDedup x (sortDedup xs) := rfl
    rw [this, mem_insertDedup, ih]; simp

theorem sortDedup_sorted (l : List Nat) : (sortDedup l).Pairwise (· < ·) := by
  induction l with
  | nil => simp [sortDedup]
  | cons x xs ih =>
    have : sortDedup (x :: xs) = insertDedup x (sortDedup xs) := rfl
    rw [this]; exact insertDedup_sorted ih

theorem mem_of_countOcc_pos {v : Nat} {l : List Nat} (h : countOcc v l ≥ 1) : v ∈ l := by
  rw [countOcc, ← List.countP_eq_length_filter] at h
  exact List.count_pos_iff.mp h

def numbering (l : List Nat) : List (Nat × Nat) :=
  l.zipIdx.map (fun (v, i) => (v, i + 1))

theorem numbering_fst (l : List Nat) : (numbering l).map Prod.fst = l := by
  have : (Prod.fst ∘ fun (x : Nat × Nat) => (x.1, x.2 + 1)) = Prod.fst := rfl
  simp [numbering, List.map_map, this]

theorem numbering_length (l : List Nat) : (numbering l).length = l.length := by
  simp [numbering]

theorem numbering_snd (l : List Nat) :
    (numbering l).map Prod.snd = List.range' 1 l.length := by
  have : (Prod.snd ∘ fun (x : Nat × Nat) => (x.1, x.2 + 1)) = (· + 1) ∘ Prod.snd := rfl
  simp only [numbering, List.map_map]
  rw [this, ← List.map_map, List.zipIdx_map_snd, ← List.range'_succ_left]

theorem mem_numbering {l : List Nat} {v k : Nat} :
    (v, k) ∈ numbering l ↔ ∃ i, l[i]? = some v ∧ k = i + 1 := by
  simp only [numbering, List.mem_map, Prod.mk.injEq, Prod.exists]
  constructor
  · rintro ⟨a, i, hm, rfl, rfl⟩
    exact ⟨i, List.mk_mem_zipIdx_iff_getElem?.mp hm, rfl⟩
  · rintro ⟨i, h, rfl⟩
    exact ⟨v, i, List.mk_mem_zipIdx_iff_getElem?.mpr h, rfl, rfl⟩

theorem numbering_mono {R : Nat → Nat → Prop} {l : List Nat}
    (hp : l.Pairwise R) (irrefl : ∀ a, ¬ R a a) (asymm : ∀ a b, R a b → ¬ R b a)
    {v w kv kw : Nat} (hv : (v, kv) ∈ numbering l) (hw : (w, kw) ∈ numbering l)
    (hR : R v w) : kv < kw := by
  obtain ⟨i, hi, rfl⟩ := mem_numbering.mp hv
  obtain ⟨j, hj, rfl⟩ := mem_numbering.mp hw
  obtain ⟨hi', rfl⟩ := List.getElem?_eq_some_iff.mp hi
  obtain ⟨hj', rfl⟩ := List.getElem?_eq_some_iff.mp hj
  rw [List.pairwise_iff_getElem] at hp
  rcases Nat.lt_trichotomy i j with h | h | h
  · omega
  · subst h; exact absurd hR (irrefl _)
  · exact absurd hR (asymm _ _ (hp j i hj' hi' h))

theorem numbering_inj {l : List Nat} {v w k : Nat}
    (hv : (v, k) ∈ numbering l) (hw : (w, k) ∈ numbering l) : v = w := by
  obtain ⟨i, hi, rfl⟩ := mem_numbering.mp hv
  obtain ⟨j, hj, h⟩ := mem_numbering.mp hw
  rw [Nat.add_right_cancel h, hj] at hi
  exact (Option.some.inj hi).symm

theorem lookup_isSome_iff {β : Type} {t : List (Nat × β)} {v : Nat} :
    (t.lookup v).isSome ↔ v ∈ t.map Prod.fst := by
  rw [List.lookup_isSome_iff, List.mem_map]
  exact ⟨fun ⟨p, hp, h⟩ => ⟨p, hp, (eq_of_beq h).symm⟩, fun ⟨p, hp, h⟩ => ⟨p, hp, h ▸ beq_self_eq_true _⟩⟩

theorem lookup_eq_some_iff_mem {β : Type} {t : List (Nat × β)} (hnd : (t.map Prod.fst).Nodup)
    {v : Nat} {k : β} : t.lookup v = some k ↔ (v, k) ∈ t := by
  induction t with
  | nil => simp
  | cons p ps ih =>
    obtain ⟨a, b⟩ := p
    rw [List.map_cons, List.nodup_cons] at hnd
    by_cases hva : v = a
    · subst hva
      have : (v, k) ∉ ps := fun h => hnd.1 (List.mem_map.mpr ⟨_, h, rfl⟩)
      simp [this, eq_comm]
    · simp [List.lookup_cons, beq_false_of_ne hva, hva, ih hnd.2]

theorem lookup_snoc {β : Type} (t : List (Nat × β)) (k : Nat) (x : β) (v : Nat) :
    (t ++ [(k, x)]).lookup v = (t.lookup v).or (if v = k then some x else none) := by
  rw [List.lookup_append]
  by_cases h : v = k
  · simp [h]
  · simp [List.lookup_cons, beq_false_of_ne h, h]

/-! ### `nameTable` as a numbering -/

/-- goroutine 0's pointer list -/
def primOf (gs : List Goroutine) : List Nat :=
  match gs with | [] => [] | g :: _ => g.ptrs

/-- all pointer values, in visiting order -/
def allOf (gs : List Goroutine) : List Nat := gs.flatMap Goroutine.ptrs

/-- first class: in goroutine 0 and recurring -/
def keys1 (gs : List Goroutine) : List Nat :=
  (sortDedup (allOf gs)).filter (fun v => (primOf gs).contains v && countOcc v (allOf gs) ≥ 2)

/-- second class: not in goroutine 0 -/
def keys2 (gs : List Goroutine) : List Nat :=
  (sortDedup (allOf gs)).filter (fun v => !(primOf gs).contains v)

theorem nameTable_eq (gs : List Goroutine) :
    nameTable gs = numbering (keys1 gs ++ keys2 gs) := by
  cases gs <;> rfl

theorem mem_keys1 {gs : List Goroutine} {v : Nat} :
    v ∈ keys1 gs ↔ v ∈ allOf gs ∧ v ∈ primOf gs ∧ countOcc v (allOf gs) ≥ 2 := by
  simp [keys1, mem_sortDedup]

theorem mem_keys2 {gs : List Goroutine} {v : Nat} :
    v ∈ keys2 gs ↔ v ∈ allOf gs ∧ v ∉ primOf gs := by
  simp [keys2, mem_sortDedup]

/-- the order in which values are numbered -/
def NameOrder (prim : List Nat) (v w : Nat) : Prop :=
  (v ∈ prim ∧ w ∉ prim) ∨ ((v ∈ prim ↔ w ∈ prim) ∧ v < w)

theorem NameOrder.irrefl (prim : List Nat) (a : Nat) : ¬ NameOrder prim a a := by
  unfold NameOrder; grind

theorem NameOrder.asymm (prim : List Nat) (a b : Nat) :
    NameOrder prim a b → ¬ NameOrder prim b a := by
  unfold NameOrder; grind

theorem keys_pairwise (gs : List Goroutine) :
    (keys1 gs ++ keys2 gs).Pairwise (NameOrder (primOf gs)) := by
  -- within a class (all in goroutine 0, or none) the order is `<`
  have cls : ∀ (ks : List Nat) (c : Prop), ks.Pairwise (· < ·) → (∀ a ∈ ks, a ∈ primOf gs ↔ c) →
      ks.Pairwise (NameOrder (primOf gs)) := fun ks c h hc =>
    (List.Pairwise.and_mem.mp h).imp fun ⟨ha, hb, hab⟩ => Or.inr ⟨(hc _ ha).trans (hc _ hb).symm, hab⟩
  exact List.pairwise_append.mpr
    ⟨cls _ True ((sortDedup_sorted _).filter _) fun _ ha => iff_true_intro (mem_keys1.mp ha).2.1,
     cls _ False ((sortDedup_sorted _).filter _) fun _ ha => iff_false_intro (mem_keys2.mp ha).2,
     fun _ ha _ hb => Or.inl ⟨(mem_keys1.mp ha).2.1, (mem_keys2.mp hb).2⟩⟩

theorem keys_nodup (gs : List Goroutine) : (keys1 gs ++ keys2 gs).Nodup := by
  refine (keys_pairwise gs).imp ?_
  intro a b h hab
  subst hab
  exact NameOrder.irrefl _ _ h

mutual
def Arg.eraseName : Arg → Arg
  | .scalar _ v p o i => .scalar [] v p o i
  | .agg fs e => .agg (Arg.eraseNameL fs) e
def Arg.eraseNameL : List Arg → List Arg
  | [] => []
  | a :: as => Arg.eraseName a :: Arg.eraseNameL as
end

mutual
theorem Arg.eraseName_rename (t : List (Nat × Nat)) :
    ∀ a : Arg, Arg.eraseName (Arg.rename t a) = Arg.eraseName a
  | .scalar n v p o i => by
    cases p
    · simp [Arg.rename, Arg.eraseName]
    · simp only [Arg.rename, if_true]
      split <;> simp [Arg.eraseName]
  | .agg fs e => by
    simp [Arg.rename, Arg.eraseName, Arg.eraseNameL_renameL t fs]
theorem Arg.eraseNameL_renameL (t : List (Nat × Nat)) :
    ∀ l : List Arg, Arg.eraseNameL (Arg.renameL t l) = Arg.eraseNameL l
  | [] => by simp [Arg.renameL, Arg.eraseNameL]
  | a :: as => by
    simp [Arg.renameL, Arg.eraseNameL, Arg.eraseName_rename t a, Arg.eraseNameL_renameL t as]
end

/-- everything in a call but the argument names -/
def Call.eraseNames (c : Call) : Call :=
  { c with args := { c.args with values := Arg.eraseNameL c.args.values } }

/-- everything in a goroutine but the argument names of its stack -/
def Goroutine.eraseNames (g : Goroutine) : Goroutine :=
  { g with sig := { g.sig with stack := { g.sig.stack with
      calls := g.sig.stack.calls.map Call.eraseNames } } }

end PP
