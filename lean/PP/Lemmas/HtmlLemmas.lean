import PP.Model.Html
import PP.Lemmas.PrintLemmas
/-
Lemmas about the escapers and URL builders of PP/Model/Html.lean.

The escapers act byte by byte, so what they guarantee is a fact about each of the
256 byte values.  Those facts are the fields of `ByteFacts`, established for every
byte by one evaluation (`byteFacts`); the statements about whole strings follow by
`all_flatMap` or an induction.
-/
namespace PP.Html
open PP PP.Bytes

/-- `∀ c : UInt8` is decidable by enumeration. -/
instance decidableForallUInt8 (p : UInt8 → Prop) [DecidablePred p] : Decidable (∀ c, p c) :=
  decidable_of_iff (∀ n : Fin 256, p (UInt8.ofFin n))
    ⟨fun h c => by simpa using h c.toFin, fun h n => h _⟩

-- the test vectors of PP/Props/C17.lean are equations between `Except` values, checked by `decide`
deriving instance DecidableEq for Except

theorem all_flatMap {α β} (p : β → Bool) (f : α → List β) (l : List α)
    (h : ∀ a, ([a].flatMap f).all p = true) : (l.flatMap f).all p = true := by
  rw [List.all_flatMap, List.all_eq_true]
  intro a _
  simpa only [List.flatMap_cons, List.flatMap_nil, List.append_nil] using h a

theorem all_mono {p q : UInt8 → Bool} (h : ∀ c, p c = true → q c = true) (s : Bytes) (hs : s.all p = true) :
    s.all q = true := by
  rw [List.all_eq_true] at hs ⊢
  exact fun c hc => h c (hs c hc)

/-- the bytes that could open or close markup or an attribute value, and NUL -/
def isMarkupByte (c : UInt8) : Bool := c == 60 || c == 62 || c == 34 || c == 39 || c == 0

/-- the character references html/template's tables produce -/
def entityTails : List Bytes := [b!"amp;", b!"lt;", b!"gt;", b!"#34;", b!"#39;", b!"#43;"]

/-- every `&` starts one of the six character references -/
def ampOK : Bytes → Bool
  | [] => true
  | c :: t => (c != 38 || entityTails.any (hasPrefix t)) && ampOK t

/-- escaped character data: no `<`, `>`, `"`, `'`, NUL, and every `&` starts a reference -/
def textSafe (s : Bytes) : Bool := s.all (fun c => !isMarkupByte c) && ampOK s

theorem ampOK_append (a b : Bytes) (ha : ampOK a = true) (hb : ampOK b = true) : ampOK (a ++ b) = true := by
  induction a with
  | nil => simpa using hb
  | cons c t ih =>
    simp only [ampOK, Bool.and_eq_true, Bool.or_eq_true, List.any_eq_true] at ha
    simp only [List.cons_append, ampOK, Bool.and_eq_true, Bool.or_eq_true, List.any_eq_true]
    refine ⟨?_, ih ha.2⟩
    rcases ha.1 with h1 | ⟨e, he, hp⟩
    · exact Or.inl h1
    · -- a reference that starts in `t` is still there when `b` is appended
      obtain ⟨x, rfl⟩ := (hasPrefix_iff t e).1 hp
      refine Or.inr ⟨e, he, ?_⟩
      rw [List.append_assoc]; exact hasPrefix_append _ _

theorem htmlReplacer_nil (tbl : UInt8 → Option Bytes) : htmlReplacer tbl [] = [] := rfl

theorem htmlReplacer_append (tbl : UInt8 → Option Bytes) (a b : Bytes) :
    htmlReplacer tbl (a ++ b) = htmlReplacer tbl a ++ htmlReplacer tbl b := by
  simp [htmlReplacer]

theorem htmlReplacer_cons (tbl : UInt8 → Option Bytes) (c : UInt8) (s : Bytes) :
    htmlReplacer tbl (c :: s) = htmlReplacer tbl [c] ++ htmlReplacer tbl s :=
  htmlReplacer_append tbl [c] s

/-- the bytes `processURLOnto(norm)` can emit: ASCII letters and digits,
`- . _ ~`, `! # $ & * + , / : ; = ? @ [ ]` and `%` -/
def urlSafeByte (c : UInt8) : Bool := isAlnum c || urlUnreservedMark c || urlNormReserved c || c == 37

/-- bytes `escape(s, encodePath)` / `QueryEscape` can emit -/
def pathSafeByte (c : UInt8) : Bool :=
  isAlnum c || urlUnreservedMark c || c == 36 || c == 38 || c == 43 || c == 44 || c == 47 || c == 58 ||
  c == 59 || c == 61 || c == 64 || c == 37 || c == 42

structure ByteFacts (c : UInt8) : Prop where
  noMarkup : (htmlReplacer htmlReplacementTable [c]).all (fun b => !isMarkupByte b) = true
  noMarkupNorm : (htmlReplacer htmlNormReplacementTable [c]).all (fun b => !isMarkupByte b) = true
  amp : ampOK (htmlReplacer htmlReplacementTable [c]) = true
  noLt : (htmlEscapeString [c]).all (fun b => b != 60) = true
  urlSafe : urlSafeByte c = true →
    32 < c ∧ c < 127 ∧ c ≠ 34 ∧ c ≠ 39 ∧ c ≠ 60 ∧ c ≠ 62 ∧ c ≠ 96 ∧ c ≠ 92 ∧ c ≠ 40 ∧ c ≠ 41 ∧ isMarkupByte c = false
  pct : (pctLower c).all urlSafeByte = true
  attr : urlSafeByte c = true → (htmlReplacer htmlReplacementTable [c]).all urlSafeByte = true
  path : (urlEscape [c] .path).all pathSafeByte = true
  query : (urlEscape [c] .queryComponent).all pathSafeByte = true
  pathSafe : pathSafeByte c = true → urlSafeByte c = true

instance (c : UInt8) : Decidable (ByteFacts c) :=
  decidable_of_iff _
    ⟨fun h => ⟨h.1, h.2.1, h.2.2.1, h.2.2.2.1, h.2.2.2.2.1, h.2.2.2.2.2.1, h.2.2.2.2.2.2.1, h.2.2.2.2.2.2.2.1,
      h.2.2.2.2.2.2.2.2.1, h.2.2.2.2.2.2.2.2.2⟩,
     fun h => And.intro h.noMarkup <| And.intro h.noMarkupNorm <| And.intro h.amp <| And.intro h.noLt <|
      And.intro h.urlSafe <| And.intro h.pct <| And.intro h.attr <| And.intro h.path <| And.intro h.query h.pathSafe⟩

theorem byteFacts (c : UInt8) : ByteFacts c := by
  revert c; decide +kernel

theorem noMarkup_htmlReplacer (s : Bytes) :
    (htmlReplacer htmlReplacementTable s).all (fun c => !isMarkupByte c) = true :=
  all_flatMap _ _ _ fun c => (byteFacts c).noMarkup

theorem noMarkup_htmlReplacerNorm (s : Bytes) :
    (htmlReplacer htmlNormReplacementTable s).all (fun c => !isMarkupByte c) = true :=
  all_flatMap _ _ _ fun c => (byteFacts c).noMarkupNorm

theorem htmlEscapeString_noLt (s : Bytes) : (htmlEscapeString s).all (fun c => c != 60) = true :=
  all_flatMap _ _ _ fun c => (byteFacts c).noLt

theorem ampOK_htmlReplacer (s : Bytes) : ampOK (htmlReplacer htmlReplacementTable s) = true := by
  induction s with
  | nil => rfl
  | cons c s ih => rw [htmlReplacer_cons]; exact ampOK_append _ _ (byteFacts c).amp ih

theorem textSafe_htmlReplacer (s : Bytes) : textSafe (htmlReplacer htmlReplacementTable s) = true := by
  simp [textSafe, noMarkup_htmlReplacer, ampOK_htmlReplacer]

theorem urlSafe_noMarkup (c : UInt8) (h : urlSafeByte c = true) : (!isMarkupByte c) = true := by
  rw [((byteFacts c).urlSafe h).2.2.2.2.2.2.2.2.2.2]; rfl

theorem urlNormPass_safe (c : UInt8) (t : Bytes) (h : urlNormPass c t = true) : urlSafeByte c = true := by
  unfold urlNormPass at h
  unfold urlSafeByte
  split at h
  · simp [*]
  · split at h
    · simp [*]
    · split at h
      · simp [*]
      · simp [h]

theorem urlNormalizer_all_safe (s : Bytes) : (urlNormalizer s).all urlSafeByte = true := by
  induction s with
  | nil => rfl
  | cons c t ih =>
    unfold urlNormalizer
    rw [List.all_append, ih, Bool.and_true]
    split
    · rename_i h; simp [urlNormPass_safe c t h]
    · exact (byteFacts c).pct

theorem htmlReplacer_urlSafe (s : Bytes) (h : s.all urlSafeByte = true) :
    (htmlReplacer htmlReplacementTable s).all urlSafeByte = true := by
  induction s with
  | nil => rfl
  | cons c s ih =>
    simp only [List.all_cons, Bool.and_eq_true] at h
    rw [htmlReplacer_cons, List.all_append, (byteFacts c).attr h.1, ih h.2]; rfl

/-- a byte that is not `%` and passes is copied whatever follows -/
def urlPlainPass (c : UInt8) : Bool := urlNormReserved c || urlUnreservedMark c || isAlnum c

/-- only `%` makes `urlNormPass` look at what follows, and `%` is not alphanumeric -/
theorem urlPlainPass_pass (c : UInt8) (h : urlPlainPass c = true) (t : Bytes) : urlNormPass c t = true := by
  unfold urlNormPass
  split
  · rfl
  · split
    · rfl
    · have ha : isAlnum c = true := by simpa [urlPlainPass, *] using h
      split
      · rename_i h37
        rw [beq_iff_eq.1 h37] at ha
        exact absurd ha (by decide)
      · exact ha

theorem urlNormalizer_prefix (p r : Bytes) (hp : p.all urlPlainPass = true) :
    urlNormalizer (p ++ r) = p ++ urlNormalizer r := by
  induction p with
  | nil => rfl
  | cons c p ih =>
    simp only [List.all_cons, Bool.and_eq_true] at hp
    simp only [List.cons_append, urlNormalizer, urlPlainPass_pass c hp.1, if_true, ih hp.2, List.nil_append]

def htmlPlain (c : UInt8) : Bool := (htmlReplacementTable c).isNone

theorem htmlReplacer_prefix (p r : Bytes) (hp : p.all htmlPlain = true) :
    htmlReplacer htmlReplacementTable (p ++ r) = p ++ htmlReplacer htmlReplacementTable r := by
  induction p with
  | nil => rfl
  | cons c p ih =>
    simp only [List.all_cons, Bool.and_eq_true, htmlPlain, Option.isNone_iff_eq_none] at hp
    rw [List.cons_append, htmlReplacer_cons, ih hp.2]
    simp [htmlReplacer, hp.1]

theorem urlSafe_of_pathSafe (s : Bytes) (h : s.all pathSafeByte = true) : s.all urlSafeByte = true :=
  all_mono (fun c => (byteFacts c).pathSafe) s h

theorem urlEscape_safe (s : Bytes) (m : Enc) : (urlEscape s m).all pathSafeByte = true := by
  cases m
  · exact all_flatMap _ _ _ fun c => (byteFacts c).path
  · exact all_flatMap _ _ _ fun c => (byteFacts c).query

theorem escape_safe (s : Bytes) : (escape s).all pathSafeByte = true := by
  unfold escape escapedPath
  split
  · decide
  · exact urlEscape_safe _ _

theorem escape_urlSafe (s : Bytes) : (escape s).all urlSafeByte = true :=
  urlSafe_of_pathSafe _ (escape_safe s)

theorem queryEscape_urlSafe (s : Bytes) : (queryEscape s).all urlSafeByte = true :=
  urlSafe_of_pathSafe _ (urlEscape_safe _ _)

theorem natToDec_urlSafe (n : Nat) : (natToDec n).all urlSafeByte = true :=
  all_mono (fun c (h : isDigit c = true) => by
    unfold isDigit at h
    simp only [urlSafeByte, isAlnum, h, Bool.or_true, Bool.true_or]) _ (natToDec_all_digit n)

/-! ### the URLs the builders make -/

/-- `u` is empty or starts with one of the prefixes -/
def startsWithOneOf (ps : List Bytes) (u : Bytes) : Bool := u.isEmpty || ps.any (hasPrefix u)

def srcSchemes : List Bytes := [pfxGithub, pfxFile]
def pkgSchemes : List Bytes := [pfxGolangPkg, pfxGodoc, pfxPkgGoDev]
def allSchemes : List Bytes := srcSchemes ++ pkgSchemes

theorem startsWithOneOf_src {u : Bytes} (h : startsWithOneOf srcSchemes u = true) :
    u = [] ∨ hasPrefix u pfxGithub = true ∨ hasPrefix u pfxFile = true := by
  simpa only [startsWithOneOf, srcSchemes, Bool.or_eq_true, List.any_cons, List.any_nil, Bool.or_false,
    List.isEmpty_iff] using h

theorem startsWithOneOf_pkg {u : Bytes} (h : startsWithOneOf pkgSchemes u = true) :
    u = [] ∨ hasPrefix u pfxGolangPkg = true ∨ hasPrefix u pfxGodoc = true ∨ hasPrefix u pfxPkgGoDev = true := by
  simpa only [startsWithOneOf, pkgSchemes, Bool.or_eq_true, List.any_cons, List.any_nil, Bool.or_false,
    List.isEmpty_iff] using h

/-- both escapers of an `href` hole copy the fixed prefixes unchanged -/
theorem allSchemes_plain : ∀ p ∈ allSchemes, p.all urlPlainPass = true ∧ p.all htmlPlain = true := by
  decide +kernel

theorem allSchemes_urlSafe (p : Bytes) (hp : p ∈ allSchemes) : p.all urlSafeByte = true :=
  all_mono (fun c h => by
    simp only [urlPlainPass, Bool.or_eq_true] at h
    simp only [urlSafeByte, Bool.or_eq_true]
    rcases h with (h | h) | h <;> simp [h]) p (allSchemes_plain p hp).1

/-- What every link builder returns: nothing, or one of the fixed prefixes `ps` followed by a
tail whose bytes are URL-safe provided `ok` holds (`ok` is about the one component that
`getSrcBranchURL` copies without escaping). -/
def BuiltURL (ps : List Bytes) (ok : Prop) (u : Bytes) : Prop :=
  u = [] ∨ ∃ p ∈ ps, ∃ x, u = p ++ x ∧ (ok → x.all urlSafeByte = true)

theorem BuiltURL.nil (ps : List Bytes) (ok : Prop) : BuiltURL ps ok [] := Or.inl rfl

theorem BuiltURL.of_prefix {ps : List Bytes} {ok : Prop} {p : Bytes} (hp : p ∈ ps) (x : Bytes)
    (hx : ok → x.all urlSafeByte = true) : BuiltURL ps ok (p ++ x) :=
  Or.inr ⟨p, hp, x, rfl, hx⟩

theorem BuiltURL.imp {ps : List Bytes} {ok ok' : Prop} {u : Bytes} (h : ok' → ok) :
    BuiltURL ps ok u → BuiltURL ps ok' u
  | .inl h0 => .inl h0
  | .inr ⟨p, hp, x, hu, hx⟩ => .inr ⟨p, hp, x, hu, fun h' => hx (h h')⟩

theorem BuiltURL.startsWith {ps : List Bytes} {ok : Prop} {u : Bytes} (h : BuiltURL ps ok u) :
    startsWithOneOf ps u = true := by
  simp only [startsWithOneOf, Bool.or_eq_true, List.any_eq_true, List.isEmpty_iff]
  rcases h with h0 | ⟨p, hp, x, rfl, _⟩
  · exact Or.inl h0
  · exact Or.inr ⟨p, hp, hasPrefix_append p x⟩

theorem BuiltURL.urlSafe {ps : List Bytes} {ok : Prop} {u : Bytes} (hps : ∀ p ∈ ps, p ∈ allSchemes) (hok : ok)
    (h : BuiltURL ps ok u) : u.all urlSafeByte = true := by
  rcases h with rfl | ⟨p, hp, x, rfl, hx⟩
  · rfl
  · rw [List.all_append, allSchemes_urlSafe p (hps p hp), hx hok]; rfl

theorem cut_eq {s : Bytes} {sep : UInt8} {a b : Bytes} (h : cut s sep = some (a, b)) : s = a ++ sep :: b := by
  induction s generalizing a b with
  | nil => cases h
  | cons c t ih =>
    unfold cut at h
    split at h
    · rename_i hc
      injection h with h; injection h with h1 h2
      rw [← h1, ← h2, beq_iff_eq.1 hc]; rfl
    · cases hc : cut t sep with
      | none => rw [hc] at h; cases h
      | some ab =>
        obtain ⟨x, y⟩ := ab
        rw [hc] at h
        injection h with h; injection h with h1 h2
        rw [← h1, ← h2, List.cons_append, ← ih hc]

theorem cut_all (p : UInt8 → Bool) (s : Bytes) (sep : UInt8) (a b : Bytes)
    (h : cut s sep = some (a, b)) (hs : s.all p = true) : a.all p = true ∧ b.all p = true := by
  rw [cut_eq h, List.all_append, List.all_cons, Bool.and_eq_true, Bool.and_eq_true] at hs
  exact ⟨hs.1, hs.2.2⟩

theorem splitN3_all (p : UInt8 → Bool) (s a b c : Bytes) (h : splitN3 s = some (a, b, c)) (hs : s.all p = true) :
    a.all p = true ∧ b.all p = true ∧ c.all p = true := by
  unfold splitN3 at h
  split at h
  · cases h
  · rename_i a' r h1
    split at h
    · cases h
    · rename_i b' c' h2
      injection h with h; injection h with ha h; injection h with hb hc; subst ha; subst hb; subst hc
      have := cut_all p s 47 _ _ h1 hs
      have h3 := cut_all p _ 47 _ _ h2 this.2
      exact ⟨this.1, h3.1, h3.2⟩

theorem splitHost_all (p : UInt8 → Bool) (s : Bytes) (hs : s.all p = true) : (splitHost s).2.all p = true := by
  unfold splitHost
  split
  · rfl
  · rename_i a b h; exact (cut_all p s 47 a b h hs).2

theorem afterVendor_all (p : UInt8 → Bool) (s : Bytes) (hs : s.all p = true) : (afterVendor s).all p = true := by
  unfold afterVendor
  split
  · rw [List.all_eq_true] at hs ⊢
    exact fun c hc => hs c (List.mem_of_mem_drop hc)
  · exact hs

/-- the repository name `splitTag` returns is a piece of its input (not escaped) -/
theorem splitTag_fst_all (p : UInt8 → Bool) (s : Bytes) (hs : s.all p = true) : (splitTag s).1.all p = true := by
  unfold splitTag
  split
  · exact hs
  · rename_i a b h; exact (cut_all p s 64 a b h hs).1

theorem splitTag_snd_safe (s : Bytes) : (splitTag s).2.1.all urlSafeByte = true := by
  unfold splitTag
  split
  · show (b!"master").all urlSafeByte = true; decide
  · exact queryEscape_urlSafe _

theorem fileURL_built (c : Call) (t : Bytes) : BuiltURL srcSchemes True (fileURL c t).1 := by
  have hf : pfxFile ∈ srcSchemes := by simp [srcSchemes]
  unfold fileURL
  split
  · exact .of_prefix hf _ fun _ => escape_urlSafe _
  · split
    · exact .of_prefix hf _ fun _ => escape_urlSafe _
    · exact .nil _ _

theorem pfxGithub_mem : pfxGithub ∈ srcSchemes := by simp [srcSchemes]

theorem stdlibURL_built (v : Bytes) (c : Call) : BuiltURL srcSchemes True (stdlibURL v c) := by
  unfold stdlibURL
  simp only [List.append_assoc]
  refine .of_prefix pfxGithub_mem _ fun _ => ?_
  simp only [List.all_append, escape_urlSafe, queryEscape_urlSafe, natToDec_urlSafe, Bool.and_true]
  decide

/-- the middle of a github.com link: the repository name `(splitTag p1).1` is the raw component -/
theorem blobPath_urlSafe (p1 p2 : Bytes) (line : Nat) (h1 : p1.all urlSafeByte = true) :
    ((splitTag p1).1 ++ b!"/blob/" ++ (splitTag p1).2.1 ++ b!"/" ++ escape p2 ++ b!"#L" ++ natToDec line).all
      urlSafeByte = true := by
  simp only [List.all_append, escape_urlSafe, natToDec_urlSafe, splitTag_snd_safe, splitTag_fst_all urlSafeByte p1 h1,
    Bool.and_true]
  decide

theorem githubURL_built (rest : Bytes) (line : Nat) (ut : Bytes × Bytes) (h : githubURL rest line = some ut) :
    BuiltURL srcSchemes (rest.all urlSafeByte = true) ut.1 := by
  unfold githubURL at h
  split at h
  · rename_i p0 p1 p2 hs
    injection h with h; subst h
    simp only [List.append_assoc]
    refine .of_prefix pfxGithub_mem _ fun hr => ?_
    have h3 := splitN3_all urlSafeByte rest p0 p1 p2 hs hr
    have := blobPath_urlSafe p1 p2 line h3.2.1
    simp only [List.append_assoc] at this
    rw [List.all_append, escape_urlSafe, List.all_append, this]; rfl
  · cases h

theorem golangURL_built (rest : Bytes) (line : Nat) (ut : Bytes × Bytes) (h : golangURL rest line = some ut) :
    BuiltURL srcSchemes (rest.all urlSafeByte = true) ut.1 := by
  unfold golangURL at h
  split at h
  · rename_i p0 p1 p2 hs
    split at h
    · injection h with h; subst h
      simp only [List.append_assoc]
      refine .of_prefix pfxGithub_mem _ fun hr => ?_
      have h3 := splitN3_all urlSafeByte rest p0 p1 p2 hs hr
      have := blobPath_urlSafe p1 p2 line h3.2.1
      simp only [List.append_assoc] at this
      rw [List.all_append, this]; rfl
    · cases h
  · cases h

theorem nonStdlibURL_built (c : Call) : BuiltURL srcSchemes (c.relSrcPath.all urlSafeByte = true) (nonStdlibURL c).1 := by
  have hrest : c.relSrcPath.all urlSafeByte = true → (splitHost (afterVendor c.relSrcPath)).2.all urlSafeByte = true :=
    fun hr => splitHost_all _ _ (afterVendor_all _ _ hr)
  have hfile : ∀ t, BuiltURL srcSchemes (c.relSrcPath.all urlSafeByte = true) (fileURL c t).1 :=
    fun t => (fileURL_built c t).imp fun _ => trivial
  have hgetD : ∀ (o : Option (Bytes × Bytes)),
      (∀ ut, o = some ut → BuiltURL srcSchemes ((splitHost (afterVendor c.relSrcPath)).2.all urlSafeByte = true) ut.1) →
      BuiltURL srcSchemes (c.relSrcPath.all urlSafeByte = true) (o.getD (fileURL c [])).1 := by
    intro o ho
    cases o with
    | none => exact hfile _
    | some ut => exact (ho ut rfl).imp hrest
  unfold nonStdlibURL
  split
  · simp only []
    split
    · exact hgetD _ (githubURL_built _ _)
    · split
      · exact hgetD _ (golangURL_built _ _)
      · exact hfile _
  · exact hfile _

theorem srcURL_eq (ver : Bytes) (c : Call) (u : Bytes) (h : srcURL ver c = .ok u) :
    ∃ ut, getSrcBranchURL ver c = .ok ut ∧ u = ut.1 := by
  unfold srcURL at h
  cases hg : getSrcBranchURL ver c with
  | error e => rw [hg] at h; cases h
  | ok ut => rw [hg] at h; injection h with h; exact ⟨ut, rfl, h.symm⟩

theorem getSrcBranchURL_built (ver : Bytes) (c : Call) (ut : Bytes × Bytes) (h : getSrcBranchURL ver c = .ok ut) :
    BuiltURL srcSchemes (c.location = .stdlib ∨ c.relSrcPath.all urlSafeByte = true) ut.1 := by
  unfold getSrcBranchURL at h
  split at h
  · split at h
    · cases h
    · injection h with h; subst h; exact (stdlibURL_built _ _).imp fun _ => trivial
  · rename_i hl
    injection h with h; subst h
    exact (nonStdlibURL_built c).imp fun hr => hr.resolve_left fun hs => hl (beq_iff_eq.2 hs)

theorem srcURL_built (ver : Bytes) (c : Call) (u : Bytes) (h : srcURL ver c = .ok u) :
    BuiltURL srcSchemes (c.location = .stdlib ∨ c.relSrcPath.all urlSafeByte = true) u := by
  obtain ⟨ut, hg, rfl⟩ := srcURL_eq ver c u h
  exact getSrcBranchURL_built ver c ut hg

theorem srcURL_scheme (ver : Bytes) (c : Call) (u : Bytes) (h : srcURL ver c = .ok u) :
    startsWithOneOf srcSchemes u = true :=
  (srcURL_built ver c u h).startsWith

theorem pkgSite_mem (ver : Bytes) (c : Call) (u : Bytes) (h : pkgSite ver c = .ok u) : u ∈ pkgSchemes := by
  unfold pkgSite at h
  split at h
  · injection h with h; subst h; simp [pkgSchemes]
  · split at h
    · cases h
    · split at h <;> (injection h with h; subst h; simp [pkgSchemes])

theorem pkgURL_built (ver : Bytes) (c : Call) (u : Bytes) (h : pkgURL ver c = .ok u) : BuiltURL pkgSchemes True u := by
  unfold pkgURL at h
  simp only [] at h
  split at h
  · injection h with h; subst h; exact .nil _ _
  · split at h
    · cases h
    · rename_i site hs
      have hm := pkgSite_mem ver c site hs
      split at h <;> (injection h with h; subst h)
      · simp only [List.append_assoc]
        refine .of_prefix hm _ fun _ => ?_
        simp only [List.all_append, escape_urlSafe, symbol, Bool.true_and]
        split <;> exact queryEscape_urlSafe _
      · exact .of_prefix hm _ fun _ => escape_urlSafe _

theorem pkgURL_scheme (ver : Bytes) (c : Call) (u : Bytes) (h : pkgURL ver c = .ok u) :
    startsWithOneOf pkgSchemes u = true :=
  (pkgURL_built ver c u h).startsWith

theorem renderHole_href (v : Bytes) : renderHole .href v = .ok (attrEscaper (urlNormalizer v)) := rfl

theorem hrefHole_all_safe (v : Bytes) : (attrEscaper (urlNormalizer v)).all urlSafeByte = true :=
  htmlReplacer_urlSafe _ (urlNormalizer_all_safe v)

theorem hrefHole_prefix (ps : List Bytes) (hps : ∀ p ∈ ps, p.all urlPlainPass = true ∧ p.all htmlPlain = true)
    (v : Bytes) (h : startsWithOneOf ps v = true) : startsWithOneOf ps (attrEscaper (urlNormalizer v)) = true := by
  simp only [startsWithOneOf, Bool.or_eq_true, List.any_eq_true, List.isEmpty_iff] at h ⊢
  rcases h with rfl | ⟨p, hp, hpre⟩
  · left; rfl
  · right
    obtain ⟨x, rfl⟩ := (hasPrefix_iff v p).1 hpre
    refine ⟨p, hp, ?_⟩
    rw [urlNormalizer_prefix p x (hps p hp).1]
    unfold attrEscaper
    rw [htmlReplacer_prefix p _ (hps p hp).2]
    exact hasPrefix_append _ _

end PP.Html
