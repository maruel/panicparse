import PP.Spec.TypeAst
/-
Helper definitions and lemmas about `PP.TN.extractArgumentsType`
(PP/Model/TypeNames.lean): the loop in closed form, in terms of
`PP.Spec.usedFields` / `isEllipsis` (PP/Spec/TypeAst.lean).
-/
namespace PP.TN
open PP PP.Bytes PP.Spec

/-- value of the variable `ellipsis` after the loop over `fs` when it was `e`
before -/
def lastFlag : List GoField → Bool → Bool
  | [], e => e
  | f :: fs, _ => lastFlag fs (fieldToType f).2

theorem mult_eq_max (f : GoField) : mult f = max 1 f.names := by
  unfold mult
  split <;> omega

theorem mult_pos (f : GoField) : 1 ≤ mult f := by
  rw [mult_eq_max]; omega

theorem unparen_paren (x : GoExpr) : unparen (.paren x) = unparen x := rfl

theorem unparen_ne_paren : ∀ (e y : GoExpr), unparen e ≠ .paren y
  | .paren x, y => unparen_ne_paren x y
  | .ident _, _ | .selector _ _, _ | .star _, _ | .basicLit _, _ | .ellipsis _, _ | .arrayType _ _, _ | .funcType, _
  | .interfaceType, _ | .mapType _ _, _ | .chanType _, _ | .other, _ => nofun

theorem unparen_idem : ∀ e : GoExpr, unparen (unparen e) = unparen e
  | .paren x => unparen_idem x
  | .ident _ | .selector _ _ | .star _ | .basicLit _ | .ellipsis _ | .arrayType _ _ | .funcType | .interfaceType
  | .mapType _ _ | .chanType _ | .other => rfl

/-- Go's `name` switches on `unparen(e)`: the structurally recursive model
agrees with it -/
theorem name_eq_unparen : ∀ e : GoExpr, name e = name (unparen e)
  | .paren x => name_eq_unparen x
  | .ident _ | .selector _ _ | .star _ | .basicLit _ | .ellipsis _ | .arrayType _ _ | .funcType | .interfaceType
  | .mapType _ _ | .chanType _ | .other => rfl

theorem fieldToType_unparen (n : Nat) (t : GoExpr) : fieldToType ⟨n, t⟩ = fieldToType ⟨n, unparen t⟩ := by
  simp only [fieldToType, unparen_idem]

theorem fieldToType_snd (f : GoField) : (fieldToType f).2 = isEllipsis f.typ := by
  obtain ⟨n, t⟩ := f
  simp only [fieldToType, isEllipsis]
  generalize unparen t = u
  cases u with
  | arrayType len elt => cases len <;> rfl
  | _ => rfl

theorem fieldToType_names (n m : Nat) (t : GoExpr) : fieldToType ⟨n, t⟩ = fieldToType ⟨m, t⟩ := rfl

theorem recvFields_append (d : GoFuncDecl) : recvFields d.recv ++ d.params = usedFields d := by
  obtain ⟨recv, params⟩ := d
  cases recv with
  | none => rfl
  | some l =>
    cases l with
    | nil => rfl
    | cons f t =>
      cases t with
      | nil =>
        obtain ⟨n, ty⟩ := f
        simp only [recvFields, usedFields]
        generalize unparen ty = u
        cases u <;> rfl
      | cons g t => rfl

theorem extractLoop_cons (a : GoField) (rest : List GoField) (types : List Bytes) (e : Bool) :
    extractLoop (a :: rest) types e =
      extractLoop rest (types ++ List.replicate (mult a) (fieldToType a).1) (fieldToType a).2 := rfl

theorem extractLoop_eq (fs : List GoField) (types : List Bytes) (e : Bool) :
    extractLoop fs types e =
      (types ++ fs.flatMap (fun f => List.replicate (mult f) (fieldToType f).1), lastFlag fs e) := by
  induction fs generalizing types e with
  | nil => simp [extractLoop, lastFlag]
  | cons a rest ih =>
    rw [extractLoop_cons, ih]
    simp [lastFlag, List.flatMap_cons, List.append_assoc]

theorem extractLoop_acc (fs : List GoField) (types : List Bytes) (e : Bool) :
    extractLoop fs types e = (types ++ (extractLoop fs [] e).1, (extractLoop fs [] e).2) := by
  rw [extractLoop_eq, extractLoop_eq fs [], List.nil_append]

theorem lastFlag_getLast? (fs : List GoField) (e : Bool) :
    lastFlag fs e = match fs.getLast? with
      | some f => isEllipsis f.typ
      | none => e := by
  induction fs generalizing e with
  | nil => rfl
  | cons a rest ih =>
    rw [lastFlag, ih]
    cases rest with
    | nil => simp [fieldToType_snd]
    | cons b t =>
      rw [List.getLast?_cons_cons]
      cases h : (b :: t).getLast? with
      | none => simp at h
      | some f => rfl

end PP.TN
