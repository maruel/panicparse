import PP.Spec.Console
import PP.Lemmas.PrintLemmas
/-
Removing escape sequences: `stripAnsi` passes ESC-free text through and drops
concatenations of escape sequences, whatever follows.  First, `NoEsc` (no ESC
byte) holds of the pieces the renderer concatenates: literals, numerals, padding.
-/
namespace PP.Console
open PP PP.Bytes

theorem noEsc_nil : NoEsc [] := List.not_mem_nil

/-- a literal of the renderer -/
theorem noEsc_lit (s : Bytes) (h : ESC ∉ s := by decide) : NoEsc s := h

theorem noEsc_append {a b : Bytes} (ha : NoEsc a) (hb : NoEsc b) : NoEsc (a ++ b) := by
  simp only [NoEsc, List.mem_append, not_or] at *
  exact ⟨ha, hb⟩

theorem noEsc_ite {a b : Bytes} (c : Prop) [Decidable c] (ha : NoEsc a) (hb : NoEsc b) :
    NoEsc (if c then a else b) := by
  split
  · exact ha
  · exact hb

theorem noEsc_replicate (n : Nat) (c : UInt8) (hc : c ≠ ESC) : NoEsc (List.replicate n c) := by
  simp only [NoEsc, List.mem_replicate, not_and]
  intro _ h; exact hc h.symm

/-- ESC is neither a decimal nor a hexadecimal digit -/
theorem noEsc_natToDec (n : Nat) : NoEsc (natToDec n) := not_mem_of_all (natToDec_all_digit n) rfl
theorem noEsc_natToHex (n : Nat) : NoEsc (natToHex n) := not_mem_natToHex n ESC rfl
theorem noEsc_fmtDec (n : Nat) : NoEsc (fmtDec n) := noEsc_natToDec n
theorem noEsc_fmtHex (n : Nat) : NoEsc (fmtHex n) := noEsc_natToHex n

theorem noEsc_fmtHex08 (n : Nat) : NoEsc (fmtHex08 n) :=
  noEsc_append (noEsc_replicate _ _ (by decide)) (noEsc_natToHex n)

theorem noEsc_padRight (w : Nat) {s : Bytes} (h : NoEsc s) : NoEsc (padRight w s) :=
  noEsc_append h (noEsc_replicate _ _ (by decide))

theorem noEsc_fmtPadRight (w : Nat) {s : Bytes} (h : NoEsc s) : NoEsc (fmtPadRight w s) :=
  noEsc_ite _ (noEsc_append (noEsc_lit _) h) (noEsc_padRight w h)

theorem stripGo_out_nil : stripGo .out [] = [] := rfl

theorem strip_text {a : Bytes} (h : NoEsc a) (b : Bytes) : stripGo .out (a ++ b) = a ++ stripGo .out b := by
  induction a with
  | nil => rfl
  | cons c t ih =>
    have hc : c ≠ ESC := by intro e; apply h; simp [e]
    have ht : NoEsc t := by intro e; apply h; simp [e]
    simp only [List.cons_append, stripGo, if_neg hc, ih ht]

theorem stripGo_seq_body {body : Bytes} (h : (109 : UInt8) ∉ body) (b : Bytes) :
    stripGo .seq (body ++ 109 :: b) = stripGo .out b := by
  induction body with
  | nil => simp [stripGo]
  | cons c t ih =>
    have hc : c ≠ 109 := by intro e; apply h; simp [e]
    have ht : (109 : UInt8) ∉ t := by intro e; apply h; simp [e]
    simp only [List.cons_append, stripGo, if_neg hc, ih ht]

theorem strip_seq {e : Bytes} (h : IsAnsiSeq e) (b : Bytes) : stripGo .out (e ++ b) = stripGo .out b := by
  obtain ⟨body, hb, rfl⟩ := h
  simp only [List.cons_append, List.append_assoc, stripGo, if_true]
  exact stripGo_seq_body hb b

theorem strip_codes {p : Bytes} (h : AnsiCodes p) (b : Bytes) : stripGo .out (p ++ b) = stripGo .out b := by
  induction h with
  | nil => rfl
  | cons he _ ih => rw [List.append_assoc, strip_seq he, ih]

theorem ansiCodes_nil : AnsiCodes [] := AnsiCodes.nil

theorem ansiCodes_one (body : Bytes) (h : (109 : UInt8) ∉ body) : AnsiCodes (ESC :: 91 :: (body ++ [109])) := by
  have := AnsiCodes.cons (e := ESC :: 91 :: (body ++ [109])) ⟨body, h, rfl⟩ AnsiCodes.nil
  simpa using this

theorem ansiCodes_two (b1 b2 : Bytes) (h1 : (109 : UInt8) ∉ b1) (h2 : (109 : UInt8) ∉ b2) :
    AnsiCodes ((ESC :: 91 :: (b1 ++ [109])) ++ (ESC :: 91 :: (b2 ++ [109]))) :=
  AnsiCodes.cons ⟨b1, h1, rfl⟩ (ansiCodes_one b2 h2)

end PP.Console
