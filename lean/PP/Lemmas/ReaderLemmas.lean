import PP.Model.Reader
/-
Helper lemmas for C09 (line reader refinement).
-/
namespace PP

theorem cutNL_append_none {a : Bytes} (b : Bytes) (h : cutNL a = none) :
    cutNL (a ++ b) = (cutNL b).map (fun p => (a ++ p.1, p.2)) := by
  fun_induction cutNL a with
  | case1 => cases hb : cutNL b <;> simp [hb]
  | case2 | case3 => simp at h
  | case4 x xs hx hc ih =>
    simp only [List.cons_append, cutNL, hx, if_false, ih hc]
    cases cutNL b <;> rfl

theorem cutNL_none_iff (bs : Bytes) : cutNL bs = none ↔ (10 : UInt8) ∉ bs := by
  fun_induction cutNL bs with
  | case1 => simp
  | case2 => simp
  | case3 x xs hx l r hc ih =>
    have : (10 : UInt8) ∈ xs := Classical.not_not.mp fun h => by simp [ih.mpr h] at hc
    simp [this]
  | case4 x xs hx hc ih => simp [ih.mp hc, Ne.symm hx]

theorem cutNL_some_spec {bs l rest : Bytes} (h : cutNL bs = some (l, rest)) :
    ∃ p, (10 : UInt8) ∉ p ∧ l = p ++ [10] ∧ bs = l ++ rest := by
  fun_induction cutNL bs generalizing l with
  | case1 => simp at h
  | case2 =>
    cases h
    exact ⟨[], by simp, rfl, rfl⟩
  | case3 x xs hx l' r' hc ih =>
    cases h
    obtain ⟨p, hp, rfl, rfl⟩ := ih hc
    exact ⟨x :: p, by simp [hp, Ne.symm hx], rfl, rfl⟩
  | case4 => simp at h

theorem cutNL_line (p rest : Bytes) (hp : (10 : UInt8) ∉ p) :
    cutNL (p ++ [10] ++ rest) = some (p ++ [10], rest) := by
  rw [List.append_assoc, cutNL_append_none _ ((cutNL_none_iff p).mpr hp)]
  rfl

theorem cutNL_some_iff (bs l rest : Bytes) :
    cutNL bs = some (l, rest) ↔ ∃ p, (10 : UInt8) ∉ p ∧ l = p ++ [10] ∧ bs = l ++ rest := by
  constructor
  · exact cutNL_some_spec
  · rintro ⟨p, hp, rfl, rfl⟩
    exact cutNL_line p rest hp

theorem cutNL_append_left {a l r : Bytes} (b : Bytes) (h : cutNL a = some (l, r)) :
    cutNL (a ++ b) = some (l, r ++ b) := by
  obtain ⟨p, hp, rfl, rfl⟩ := cutNL_some_spec h
  rw [List.append_assoc]
  exact cutNL_line p (r ++ b) hp

theorem cutNL_some_length {bs l rest : Bytes} (h : cutNL bs = some (l, rest)) :
    rest.length < bs.length := by
  obtain ⟨p, _, rfl, rfl⟩ := cutNL_some_spec h
  simp; omega

theorem splitLines_of_cutNL_none {bs : Bytes} (h : cutNL bs = none) : splitLines bs = ([], bs) := by
  fun_induction cutNL bs with
  | case1 => rfl
  | case2 | case3 => simp at h
  | case4 x xs hx hc ih => simp [splitLines, ih hc, hx]

theorem splitLines_of_cutNL_some {bs l rest : Bytes} (h : cutNL bs = some (l, rest)) :
    splitLines bs = (l :: (splitLines rest).1, (splitLines rest).2) := by
  fun_induction cutNL bs generalizing l with
  | case1 => simp at h
  | case2 => cases h; simp [splitLines]
  | case3 x xs hx l' r' hc ih => cases h; simp [splitLines, ih hc, hx]
  | case4 => simp at h

theorem splitLines_line_append (p bs : Bytes) (hp : (10 : UInt8) ∉ p) :
    splitLines (p ++ [10] ++ bs) = ((p ++ [10]) :: (splitLines bs).1, (splitLines bs).2) :=
  splitLines_of_cutNL_some (cutNL_line p bs hp)

theorem splitLines_join (bs : Bytes) : (splitLines bs).1.flatten ++ (splitLines bs).2 = bs := by
  fun_induction splitLines bs with
  | case1 => rfl
  | case2 bs ls t h ih => simpa [h] using ih
  | case3 b bs t hb h ih => simpa [h] using ih
  | case4 b bs t hb l ls' h ih => simpa [h] using ih

theorem splitLines_tail_noNL (bs : Bytes) : (10 : UInt8) ∉ (splitLines bs).2 := by
  fun_induction splitLines bs with
  | case1 => simp
  | case2 bs ls t h ih => simpa [h] using ih
  | case3 b bs t hb h ih => simpa [h, Ne.symm hb] using ih
  | case4 b bs t hb l ls' h ih => simpa [h] using ih

theorem splitLines_lines (bs : Bytes) :
    ∀ l ∈ (splitLines bs).1, ∃ p, (10 : UInt8) ∉ p ∧ l = p ++ [10] := by
  fun_induction splitLines bs with
  | case1 => simp
  | case2 bs ls t h ih =>
    intro l hl
    rcases List.mem_cons.mp hl with rfl | hl
    · exact ⟨[], by simp, rfl⟩
    · exact ih l (by simpa [h] using hl)
  | case3 b bs t hb h ih => simp
  | case4 b bs t hb l0 ls' h ih =>
    rw [h] at ih
    intro l hl
    rcases List.mem_cons.mp hl with rfl | hl
    · obtain ⟨p, hp, rfl⟩ := ih l0 (by simp)
      exact ⟨b :: p, by simp [hp, Ne.symm hb], rfl⟩
    · exact ih l (by simp [hl])

open maxZeroRun

theorem zeroPrefix_le_maxZeroRun (l : List Nat) : zeroPrefix l ≤ maxZeroRun l := by
  fun_cases maxZeroRun l with
  | case1 => exact Nat.le_refl _
  | case2 t => exact Nat.le_max_left _ _
  | case3 x t hx =>
    rw [zeroPrefix]
    · exact Nat.zero_le _
    · intro t' h; cases h; exact hx rfl

theorem maxZeroRun_drop_one_le (l : List Nat) : maxZeroRun (l.drop 1) ≤ maxZeroRun l := by
  fun_cases maxZeroRun l with
  | case1 => exact Nat.le_refl _
  | case2 t => exact Nat.le_max_right _ _
  | case3 x t hx => exact Nat.le_refl _

/-- number of bytes the next `Read` is willing to deliver -/
def Src.nextN (s : Src) (space : Nat) : Nat :=
  match s.sched with
  | [] => space
  | k :: _ => min k space

theorem Src.read_eq (s : Src) (space : Nat) :
    s.read space =
      if s.rest = [] then ([], some s.final, s)
      else
        let s' : Src := { s with rest := s.rest.drop (s.nextN space), sched := s.sched.drop 1 }
        if s.rest.drop (s.nextN space) = [] && s.withData && s.nextN space > 0 then
          (s.rest.take (s.nextN space), some s.final, s')
        else (s.rest.take (s.nextN space), none, s') := rfl

theorem Src.nextN_le (s : Src) (space : Nat) : s.nextN space ≤ space := by
  unfold Src.nextN; split <;> omega

theorem Src.nextN_zero {s : Src} {space : Nat} (h : s.nextN space = 0) (hsp : 0 < space) :
    zeroPrefix (s.sched.drop 1) + 1 ≤ zeroPrefix s.sched := by
  unfold Src.nextN at h
  split at h
  · omega
  · rename_i k t hs
    obtain rfl : k = 0 := by omega
    rw [hs, List.drop_one, List.tail_cons, zeroPrefix]
    exact Nat.le_of_eq (Nat.add_comm _ _)

/-- everything the proofs need to know about one `Read` -/
theorem Src.read_spec {s : Src} {space : Nat} {c : Bytes} {e : Option RErr} {s' : Src}
    (h : s.read space = (c, e, s')) :
    c ++ s'.rest = s.rest ∧ c.length ≤ space ∧ s'.final = s.final ∧ s'.withData = s.withData ∧
    maxZeroRun s'.sched ≤ maxZeroRun s.sched ∧
    (∀ x, e = some x → x = s.final ∧ s'.rest = []) ∧
    (e = none → c = [] → 0 < space → zeroPrefix s'.sched + 1 ≤ zeroPrefix s.sched) := by
  rw [Src.read_eq] at h
  have hle := Src.nextN_le s space
  have hlen : (s.rest.take (s.nextN space)).length ≤ space := by
    rw [List.length_take]; omega
  split at h
  · rename_i hr
    cases h
    simp [hr]
  · rename_i hr
    dsimp only at h
    split at h
    · rename_i hcond
      cases h
      simp only [Bool.and_eq_true, decide_eq_true_eq] at hcond
      exact ⟨List.take_append_drop _ _, hlen, rfl, rfl, maxZeroRun_drop_one_le _,
        fun x hx => ⟨(Option.some.inj hx).symm, hcond.1.1⟩, fun h => nomatch h⟩
    · cases h
      refine ⟨List.take_append_drop _ _, hlen, rfl, rfl, maxZeroRun_drop_one_le _, fun x hx => (nomatch hx), ?_⟩
      intro _ hc hsp
      rcases List.take_eq_nil_iff.mp hc with hc | hc
      · exact Src.nextN_zero hc hsp
      · exact absurd hc hr

theorem fillLoop_spec (N : Nat) (k : Nat) (r : Rd) :
    (fillLoop N k r).buf ++ (fillLoop N k r).src.rest = r.buf ++ r.src.rest ∧
    (r.buf.length ≤ N → (fillLoop N k r).buf.length ≤ N) ∧
    (fillLoop N k r).src.final = r.src.final ∧
    maxZeroRun (fillLoop N k r).src.sched ≤ maxZeroRun r.src.sched ∧
    r.buf.length ≤ (fillLoop N k r).buf.length ∧
    (((fillLoop N k r).err = r.err ∧ r.buf.length < (fillLoop N k r).buf.length) ∨
     ((fillLoop N k r).err = some r.src.final ∧ (fillLoop N k r).src.rest = []) ∨
     ((fillLoop N k r).err = some .noProgress ∧
        (r.buf.length < N → k ≤ zeroPrefix r.src.sched))) := by
  fun_induction fillLoop N k r with
  | case1 r => simp
  | case2 k r c s' r' x hrd =>
    obtain ⟨h1, h2, h3, _, h5, h6, _⟩ := Src.read_spec hrd
    obtain ⟨rfl, hx⟩ := h6 x rfl
    refine ⟨by simp [r', h1], fun hb => ?_, h3, h5, by simp [r'], Or.inr (Or.inl ⟨rfl, hx⟩)⟩
    exact List.length_append ▸ Nat.add_le_of_le_sub' hb h2
  | case3 k r c s' r' hc hrd =>
    obtain ⟨h1, h2, h3, _, h5, _, _⟩ := Src.read_spec hrd
    refine ⟨by simp [r', h1], fun hb => ?_, h3, h5, by simp [r'], Or.inl ⟨rfl, ?_⟩⟩
    · exact List.length_append ▸ Nat.add_le_of_le_sub' hb h2
    · exact List.length_append ▸ Nat.lt_add_of_pos_right hc
  | case4 k r c s' r' hc hrd ih =>
    obtain ⟨h1, _, h3, _, h5, _, h7⟩ := Src.read_spec hrd
    obtain rfl : c = [] := List.eq_nil_of_length_eq_zero (Nat.eq_zero_of_not_pos hc)
    rw [show r'.buf = r.buf from List.append_nil _, show r'.src = s' from rfl, show r'.err = r.err from rfl] at ih
    obtain ⟨i1, i2, i3, i4, i5, i6⟩ := ih
    rw [List.nil_append] at h1
    refine ⟨by rw [i1, h1], i2, by rw [i3, h3], Nat.le_trans i4 h5, i5, ?_⟩
    rcases i6 with i6 | i6 | i6
    · exact Or.inl i6
    · exact Or.inr (Or.inl ⟨by rw [i6.1, h3], i6.2⟩)
    · exact Or.inr (Or.inr ⟨i6.1, fun hlt =>
        Nat.le_trans (Nat.succ_le_succ (i6.2 hlt)) (h7 rfl rfl (Nat.sub_pos_of_lt hlt))⟩)

theorem fillLoop_prefix (N k : Nat) (r : Rd) : (fillLoop N k r).buf.take r.buf.length = r.buf := by
  obtain ⟨h1, _, _, _, h5, _⟩ := fillLoop_spec N k r
  have := congrArg (List.take r.buf.length) h1
  rwa [List.take_append_of_le_length h5, List.take_append_of_le_length (Nat.le_refl _), List.take_length] at this

theorem fill_of_lt {N : Nat} (retry : Nat) {r : Rd} (h : r.buf.length < N) :
    fill N retry r = .ok (fillLoop N retry r) :=
  if_neg (Nat.not_le.mpr h)

/-- the three ways out of `readSlice` without another `fill`: a line is buffered, an error is pending,
the buffer is full -/
def sliceExit (N : Nat) (r : Rd) : Option (Bytes × Option SliceErr × Rd) :=
  match cutNL r.buf with
  | some (l, rest) => some (l, none, { r with buf := rest })
  | none =>
    match r.err with
    | some e => some (r.buf, some (.rerr e), { r with buf := [], err := none })
    | none => if r.buf.length = N then some (r.buf, some .bufferFull, { r with buf := [] }) else none

/-- under the capacity bound `readSlice` leaves through an exit or fills and goes round: the panic of
`fill` is dead -/
theorem readSlice_succ (N retry fuel : Nat) (r : Rd) (hb : r.buf.length ≤ N) :
    readSlice N retry (fuel + 1) r =
      match sliceExit N r with
      | some x => some (.ok x)
      | none => readSlice N retry fuel (fillLoop N retry r) := by
  rw [readSlice, sliceExit]
  cases cutNL r.buf with
  | some p => rfl
  | none =>
    cases r.err with
    | some e => rfl
    | none =>
      by_cases hN : r.buf.length = N
      · simp only [hN, if_true]
      · simp only [hN, if_false, fill_of_lt retry (Nat.lt_of_le_of_ne hb hN)]

/-- reader invariant: capacity respected; a pending error is the terminal error and the
source is drained -/
def Good (N : Nat) (r : Rd) : Prop :=
  r.buf.length ≤ N ∧ (r.err = none ∨ (r.err = some r.src.final ∧ r.src.rest = []))

theorem sliceExit_inv {N : Nat} {r r' : Rd} {f : Bytes} {e : Option SliceErr}
    (h : sliceExit N r = some (f, e, r')) (hb : r.buf.length ≤ N) :
    r'.buf.length ≤ N ∧ f ++ (r'.buf ++ r'.src.rest) = r.buf ++ r.src.rest ∧
    (e = some .bufferFull → f.length = N ∧ r'.buf = []) := by
  unfold sliceExit at h
  split at h
  · rename_i l rest hc
    cases h
    obtain ⟨p, _, rfl, hbuf⟩ := cutNL_some_spec hc
    simp [hbuf] at hb ⊢
    omega
  · split at h
    · cases h; simp
    · split at h
      · rename_i hfull; cases h; simp [hfull]
      · cases h

/-- what `readSlice` hands out of the remaining stream `bs` with terminal error `fin`: the next line; or, when
there is none, all of it with the error; or a full buffer without newline -/
def SliceOut (N : Nat) (bs : Bytes) (fin : RErr) (f : Bytes) (e : Option SliceErr) (r' : Rd) : Prop :=
  (e = none ∧ cutNL bs = some (f, r'.buf ++ r'.src.rest)) ∨
  (e = some (.rerr fin) ∧ cutNL bs = none ∧ f = bs ∧ r'.buf = [] ∧ r'.src.rest = [] ∧ r'.err = none) ∨
  (e = some .bufferFull ∧ cutNL f = none ∧ f.length = N ∧ f ++ r'.src.rest = bs ∧ r'.buf = [] ∧ r'.err = none)

theorem sliceExit_spec {N : Nat} {r r' : Rd} {f : Bytes} {e : Option SliceErr}
    (h : sliceExit N r = some (f, e, r')) (hG : Good N r) :
    Good N r' ∧ r'.src = r.src ∧
    SliceOut N (r.buf ++ r.src.rest) r.src.final f e r' := by
  obtain ⟨hb, hE⟩ := hG
  have hb' := (sliceExit_inv h hb).1
  unfold sliceExit at h
  split at h
  · rename_i l rest hc
    cases h
    exact ⟨⟨hb', hE⟩, rfl, Or.inl ⟨rfl, cutNL_append_left _ hc⟩⟩
  · rename_i hc
    split at h
    · rename_i x hx
      cases h
      rcases hE with hE | ⟨hE, hrest⟩
      · rw [hE] at hx; cases hx
      · obtain rfl : r.src.final = x := Option.some.inj (hE.symm.trans hx)
        exact ⟨⟨hb', Or.inl rfl⟩, rfl, Or.inr (Or.inl ⟨rfl, by simp [hrest, hc], by simp [hrest], rfl, hrest, rfl⟩)⟩
    · rename_i he
      split at h
      · rename_i hfull
        cases h
        exact ⟨⟨hb', Or.inl he⟩, rfl, Or.inr (Or.inr ⟨rfl, hc, hfull, rfl, rfl, he⟩)⟩
      · cases h

theorem readSlice_inv (N retry fuel : Nat) (r : Rd) (hb : r.buf.length ≤ N) :
    (∀ p, readSlice N retry fuel r ≠ some (.error p)) ∧
    (∀ f e r', readSlice N retry fuel r = some (.ok (f, e, r')) →
      r'.buf.length ≤ N ∧ f ++ (r'.buf ++ r'.src.rest) = r.buf ++ r.src.rest ∧
      (e = some .bufferFull → f.length = N ∧ r'.buf = [])) := by
  induction fuel generalizing r with
  | zero => simp [readSlice]
  | succ fuel ih =>
    rw [readSlice_succ N retry fuel r hb]
    cases hx : sliceExit N r with
    | some x =>
      refine ⟨fun _ h => (nomatch h), fun f e r' h => ?_⟩
      cases h
      exact sliceExit_inv hx hb
    | none =>
      obtain ⟨g1, g2, _⟩ := fillLoop_spec N retry r
      rw [← g1]
      exact ih _ (g2 hb)

theorem sliceExit_eq_none {N : Nat} {r : Rd} (h : sliceExit N r = none) :
    cutNL r.buf = none ∧ r.err = none ∧ r.buf.length ≠ N := by
  unfold sliceExit at h
  split at h
  · cases h
  · rename_i hc
    split at h
    · cases h
    · rename_i he
      split at h
      · cases h
      · rename_i hN; exact ⟨hc, he, hN⟩

/-- `N - |buf| + 1` fills suffice (one when an error is pending) -/
theorem readSlice_isSome (N retry fuel : Nat) (r : Rd) (hb : r.buf.length ≤ N)
    (h1 : 1 ≤ fuel) (h2 : r.err = none → N + 1 ≤ fuel + r.buf.length) :
    (readSlice N retry fuel r).isSome := by
  induction fuel generalizing r with
  | zero => omega
  | succ fuel ih =>
    rw [readSlice_succ N retry fuel r hb]
    cases hx : sliceExit N r with
    | some x => rfl
    | none =>
      obtain ⟨_, he, hN⟩ := sliceExit_eq_none hx
      obtain ⟨_, g2, _, _, _, g6⟩ := fillLoop_spec N retry r
      have h2' := h2 he
      refine ih _ (g2 hb) (by omega) fun he' => ?_
      rcases g6 with g | g | g
      · omega
      · rw [he'] at g; cases g.1
      · rw [he'] at g; cases g.1

theorem readSlice_spec (N retry fuel : Nat) (r : Rd) (f : Bytes) (e : Option SliceErr) (r' : Rd)
    (hG : Good N r) (hR : maxZeroRun r.src.sched < retry)
    (h : readSlice N retry fuel r = some (.ok (f, e, r'))) :
    Good N r' ∧ r'.src.final = r.src.final ∧ maxZeroRun r'.src.sched ≤ maxZeroRun r.src.sched ∧
    SliceOut N (r.buf ++ r.src.rest) r.src.final f e r' := by
  induction fuel generalizing r with
  | zero => simp [readSlice] at h
  | succ fuel ih =>
    rw [readSlice_succ N retry fuel r hG.1] at h
    cases hx : sliceExit N r with
    | some x =>
      rw [hx] at h
      cases h
      obtain ⟨s1, s2, s3⟩ := sliceExit_spec hx hG
      exact ⟨s1, by rw [s2], by rw [s2]; exact Nat.le_refl _, s3⟩
    | none =>
      rw [hx] at h
      obtain ⟨_, he, hN⟩ := sliceExit_eq_none hx
      obtain ⟨g1, g2, g3, g4, _, g6⟩ := fillLoop_spec N retry r
      have hz := zeroPrefix_le_maxZeroRun r.src.sched
      have hG' : Good N (fillLoop N retry r) := by
        refine ⟨g2 hG.1, ?_⟩
        rcases g6 with g | g | g
        · exact Or.inl (by rw [g.1, he])
        · exact Or.inr ⟨by rw [g.1, g3], g.2⟩
        · exact absurd (Nat.le_trans (g.2 (Nat.lt_of_le_of_ne hG.1 hN)) hz) (Nat.not_le.mpr hR)
      obtain ⟨i1, i2, i3, i4⟩ := ih _ hG' (Nat.lt_of_le_of_lt g4 hR) h
      exact ⟨i1, by rw [i2, g3], Nat.le_trans i3 g4, g1 ▸ g3 ▸ i4⟩

theorem readLine_inv (N retry fuel : Nat) (acc : Bytes) (r : Rd) (hb : r.buf.length ≤ N) :
    (∀ p, readLine N retry fuel acc r ≠ some (.error p)) ∧
    (∀ l e r', readLine N retry fuel acc r = some (.ok (l, e, r')) → r'.buf.length ≤ N) := by
  fun_induction readLine N retry fuel acc r with
  | case1 | case2 => simp
  | case3 fuel acc r p hs => exact absurd hs ((readSlice_inv N retry _ r hb).1 p)
  | case4 fuel acc r f r' hs ih => exact ih ((readSlice_inv N retry _ r hb).2 _ _ _ hs).1
  | case5 _ _ r _ _ _ hs | case6 _ _ r _ _ hs =>
    refine ⟨fun _ h => (nomatch h), fun l e r'' h => ?_⟩
    cases h
    exact ((readSlice_inv N retry _ r hb).2 _ _ _ hs).1

theorem readLine_isSome (N retry fuel : Nat) (acc : Bytes) (r : Rd) (hN : 0 < N)
    (hb : r.buf.length ≤ N) (hf : r.buf.length + r.src.rest.length + 1 ≤ fuel) :
    (readLine N retry fuel acc r).isSome := by
  fun_induction readLine N retry fuel acc r with
  | case1 => omega
  | case2 fuel acc r hs =>
    have := readSlice_isSome N retry (N + 2) r hb (by omega) (by intro; omega)
    rw [hs] at this; cases this
  | case3 | case5 | case6 => rfl
  | case4 fuel acc r f r' hs ih =>
    obtain ⟨c0, c1, c2⟩ := (readSlice_inv N retry _ r hb).2 _ _ _ hs
    obtain ⟨c2, c3⟩ := c2 rfl
    have hlen := congrArg List.length c1
    simp only [List.length_append, c3, List.length_nil, Nat.zero_add] at hlen
    exact ih c0 (by rw [c3]; simp only [List.length_nil]; omega)

theorem readLine_spec_aux (N retry fuel : Nat) (acc : Bytes) (r : Rd) (line : Bytes)
    (e : Option RErr) (r' : Rd)
    (hG : Good N r) (hR : maxZeroRun r.src.sched < retry) (hacc : cutNL acc = none)
    (h : readLine N retry fuel acc r = some (.ok (line, e, r'))) :
    Good N r' ∧ r'.src.final = r.src.final ∧ maxZeroRun r'.src.sched ≤ maxZeroRun r.src.sched ∧
    ((e = none ∧ cutNL (acc ++ (r.buf ++ r.src.rest)) = some (line, r'.buf ++ r'.src.rest)) ∨
     (e = some r.src.final ∧ cutNL (acc ++ (r.buf ++ r.src.rest)) = none ∧
        line = acc ++ (r.buf ++ r.src.rest) ∧ r'.buf = [] ∧ r'.src.rest = [] ∧ r'.err = none)) := by
  fun_induction readLine N retry fuel acc r with
  | case1 | case2 | case3 => cases h
  | case4 fuel acc r f r1 hs ih =>
    obtain ⟨s1, s2, s3, s4⟩ := readSlice_spec _ _ _ _ _ _ _ hG hR hs
    rcases s4 with ⟨⟨⟩, _⟩ | ⟨⟨⟩, _⟩ | ⟨_, t1, _, t3, t4, _⟩
    have hacc' : cutNL (acc ++ f) = none := by rw [cutNL_append_none _ hacc, t1]; rfl
    obtain ⟨i1, i2, i3, i4⟩ := ih s1 (Nat.lt_of_le_of_lt s3 hR) hacc' h
    rw [t4, List.nil_append, List.append_assoc, t3, s2] at i4
    exact ⟨i1, by rw [i2, s2], Nat.le_trans i3 s3, i4⟩
  | case5 fuel acc r f x r1 hs =>
    cases h
    obtain ⟨s1, s2, s3, s4⟩ := readSlice_spec _ _ _ _ _ _ _ hG hR hs
    rcases s4 with ⟨⟨⟩, _⟩ | ⟨⟨⟩, t1, t2, t3, t4, t5⟩ | ⟨⟨⟩, _⟩
    refine ⟨s1, s2, s3, Or.inr ⟨rfl, ?_, by rw [t2], t3, t4, t5⟩⟩
    rw [cutNL_append_none _ hacc, t1]; rfl
  | case6 fuel acc r f r1 hs =>
    cases h
    obtain ⟨s1, s2, s3, s4⟩ := readSlice_spec _ _ _ _ _ _ _ hG hR hs
    rcases s4 with ⟨_, t1⟩ | ⟨⟨⟩, _⟩ | ⟨⟨⟩, _⟩
    refine ⟨s1, s2, s3, Or.inl ⟨rfl, ?_⟩⟩
    rw [cutNL_append_none _ hacc, t1]; rfl

theorem specLines_of_cutNL_some {bs l rest : Bytes} (e : RErr) (h : cutNL bs = some (l, rest)) :
    specLines bs e = (l, none) :: specLines rest e := by
  simp [specLines, splitLines_of_cutNL_some h]

theorem specLines_of_cutNL_none {bs : Bytes} (e : RErr) (h : cutNL bs = none) :
    specLines bs e = [(bs, some e)] := by
  simp [specLines, splitLines_of_cutNL_none h]

theorem Src.read_zero (s : Src) (space : Nat) (t : List Nat) (hs : s.sched = 0 :: t)
    (hne : s.rest ≠ []) : s.read space = ([], none, { s with sched := t }) := by
  rw [Src.read_eq]
  have hn : s.nextN space = 0 := by simp [Src.nextN, hs]
  simp [hne, hn, hs]

theorem fillLoop_noProgress (N retry : Nat) (r : Rd) (t : List Nat)
    (hs : r.src.sched = List.replicate retry 0 ++ t) (hne : r.src.rest ≠ []) :
    fillLoop N retry r = { r with err := some .noProgress, src := { r.src with sched := t } } := by
  induction retry generalizing r with
  | zero =>
    simp at hs
    simp [fillLoop, ← hs]
  | succ k ih =>
    have hs' : r.src.sched = 0 :: (List.replicate k 0 ++ t) := by
      rw [hs, List.replicate_succ]; rfl
    simp only [fillLoop, Src.read_zero _ _ _ hs' hne, List.append_nil, List.length_nil,
      Nat.lt_irrefl, gt_iff_lt, if_false]
    exact ih { r with src := { r.src with sched := List.replicate k 0 ++ t } } rfl hne

end PP
