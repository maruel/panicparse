import PP.Lemmas.Greedy
/-
Lemmas for C12: the signature kept for a bucket generalises its members.

* scalar arguments flattened in `walk` order (`Arg.flat`, `Signature.flatArgs`);
  `merge` acts position-wise on the flattened lists (`mergeScalar`);
* `Gen k ms`: what the key `k` of a bucket says about the signatures `ms` of its
  members, in arrival order; it is established by a new bucket and kept by the
  two ways a goroutine joins a bucket (`equal`: key kept, otherwise `merge`);
* hence `Gen` holds of every entry and the goroutines it was filed from (`Filed.gen`), which with
  distinct ids are the members of the bucket (`members_toBucket`).
-/
namespace PP

/-! ### flattened scalar arguments -/

/-- what is displayed for a scalar argument (the `inaccurate` flag is ignored) -/
structure Scalar where
  name : Bytes
  value : Nat
  isPtr : Bool
  otl : Bool
  deriving DecidableEq, Repr

mutual
/-- the scalar arguments below an argument, in `walk` order -/
def Arg.flat : Arg → List Scalar
  | .scalar n v p o _ => [⟨n, v, p, o⟩]
  | .agg fs _ => Arg.flatL fs
def Arg.flatL : List Arg → List Scalar
  | [] => []
  | a :: as => Arg.flat a ++ Arg.flatL as
end

def callsFlat (cs : List Call) : List Scalar := cs.flatMap (fun c => Arg.flatL c.args.values)

def Signature.flatArgs (s : Signature) : List Scalar :=
  s.stack.calls.flatMap (fun c => Arg.flatL c.args.values)

theorem Signature.flatArgs_eq (s : Signature) : s.flatArgs = callsFlat s.stack.calls := rfl

theorem callsFlat_cons (c : Call) (cs : List Call) :
    callsFlat (c :: cs) = Arg.flatL c.args.values ++ callsFlat cs := by
  simp [callsFlat]

/-- one position of `Args.merge`: kept when both sides agree, starred otherwise -/
def mergeScalar (x y : Scalar) : Scalar :=
  if x = y then x else ⟨star, x.value, x.isPtr, false⟩

/-! ### similar ⇒ same shape -/

theorem Arg.flat_length_of_similar (l : Lvl) :
    (∀ a b, Arg.similar l a b = true → (Arg.flat a).length = (Arg.flat b).length) ∧
    (∀ as bs, Arg.similarL l as bs = true → (Arg.flatL as).length = (Arg.flatL bs).length) :=
  Arg.similar_induct {
    scalar := fun _ _ _ _ _ _ _ _ _ _ _ => rfl
    agg := fun _ _ _ _ ih => ih
    nil := rfl
    cons := fun _ _ _ _ _ _ iha ihs => by simp only [Arg.flatL, List.length_append, iha, ihs] }

theorem callsFlat_length_of_similar (l : Lvl) :
    ∀ as bs : List Call, callsSimilar l as bs = true → (callsFlat as).length = (callsFlat bs).length :=
  callsSimilar_induct rfl fun a b _ _ hab _ ih => by
    simp only [callsFlat_cons, List.length_append, ih,
      (Arg.flat_length_of_similar l).2 _ _ (Call.similar_args hab)]

theorem Signature.flatArgs_length_of_similar (l : Lvl) (a b : Signature)
    (hs : Signature.similar l a b = true) : a.flatArgs.length = b.flatArgs.length :=
  callsFlat_length_of_similar l _ _ (Signature.similar_calls hs)

/-! ### the exact levels compare every scalar -/

def Lvl.exact (l : Lvl) : Prop := l = .exactFlags ∨ l = .exactLines

theorem Arg.flat_eq_of_exact_both {l : Lvl} (hl : l.exact) :
    (∀ a b, Arg.similar l a b = true → Arg.flat a = Arg.flat b) ∧
    (∀ as bs, Arg.similarL l as bs = true → Arg.flatL as = Arg.flatL bs) :=
  Arg.similar_induct {
    scalar := fun n v p o i n' v' p' o' i' hs => by
      rcases hl with rfl | rfl <;> simp [Arg.similar] at hs <;> simp [Arg.flat, hs]
    agg := fun _ _ _ _ ih => ih
    nil := rfl
    cons := fun _ _ _ _ _ _ iha ihs => by simp only [Arg.flatL, iha, ihs] }

theorem Arg.flat_eq_of_exact {l : Lvl} (hl : l.exact) :
    ∀ a b : Arg, Arg.similar l a b = true → Arg.flat a = Arg.flat b :=
  (Arg.flat_eq_of_exact_both hl).1

theorem callsFlat_eq_of_exact {l : Lvl} (hl : l.exact) :
    ∀ as bs : List Call, callsSimilar l as bs = true → callsFlat as = callsFlat bs :=
  callsSimilar_induct rfl fun a b _ _ hab _ ih => by
    simp only [callsFlat_cons, ih, (Arg.flat_eq_of_exact_both hl).2 _ _ (Call.similar_args hab)]

theorem Signature.flatArgs_eq_of_exact {l : Lvl} (hl : l.exact) (a b : Signature)
    (hs : Signature.similar l a b = true) : a.flatArgs = b.flatArgs :=
  callsFlat_eq_of_exact hl _ _ (Signature.similar_calls hs)

theorem Signature.flatArgs_eq_of_equal (a b : Signature) (h : Signature.equal a b = true) :
    a.flatArgs = b.flatArgs := by
  simp only [Signature.equal, Stack.equal, Stack.similar, Bool.and_eq_true] at h
  exact callsFlat_eq_of_exact (.inl rfl) _ _ h.2.2

/-! ### merge is position-wise on the flattened arguments -/

theorem Arg.equal_scalar_iff (n : Bytes) (v : Nat) (p o i : Bool) (n' : Bytes) (v' : Nat)
    (p' o' i' : Bool) :
    Arg.equal (.scalar n v p o i) (.scalar n' v' p' o' i') = true ↔
      (⟨n, v, p, o⟩ : Scalar) = ⟨n', v', p', o'⟩ := by
  simp only [Arg.equal, Arg.similar, Bool.and_eq_true, beq_iff_eq, Scalar.mk.injEq]
  grind

theorem Arg.flat_merge_both (l : Lvl) :
    (∀ a b, Arg.similar l a b = true →
      Arg.flat (Arg.merge a b) = List.zipWith mergeScalar (Arg.flat a) (Arg.flat b)) ∧
    (∀ as bs, Arg.similarL l as bs = true →
      Arg.flatL (Arg.mergeL as bs) = List.zipWith mergeScalar (Arg.flatL as) (Arg.flatL bs)) :=
  Arg.similar_induct {
    scalar := fun n v p o i n' v' p' o' i' _ => by
      simp only [Arg.merge]
      by_cases h : Arg.equal (.scalar n v p o i) (.scalar n' v' p' o' i') = true
      · rw [if_pos h]
        simp [Arg.flat, mergeScalar, (Arg.equal_scalar_iff ..).1 h]
      · rw [if_neg h]
        have h' : ¬ (⟨n, v, p, o⟩ : Scalar) = ⟨n', v', p', o'⟩ :=
          fun e => h ((Arg.equal_scalar_iff ..).2 e)
        simp only [Arg.flat, List.zipWith_cons_cons, List.zipWith_nil_left, mergeScalar, if_neg h']
    agg := fun _ _ _ _ ih => ih
    nil := rfl
    cons := fun a b as bs hs _ iha ihs => by
      simp only [Arg.mergeL, Arg.flatL]
      rw [List.zipWith_append ((Arg.flat_length_of_similar l).1 a b hs), iha, ihs] }

theorem Arg.flat_merge (l : Lvl) : ∀ a b : Arg, Arg.similar l a b = true →
    Arg.flat (Arg.merge a b) = List.zipWith mergeScalar (Arg.flat a) (Arg.flat b) :=
  (Arg.flat_merge_both l).1

theorem callsFlat_merge (l : Lvl) : ∀ as bs : List Call, callsSimilar l as bs = true →
    callsFlat (callsMerge as bs) = List.zipWith mergeScalar (callsFlat as) (callsFlat bs) :=
  callsSimilar_induct (by simp [callsMerge, callsFlat]) fun a b _ _ hab _ ih => by
    have hv := Call.similar_args hab
    simp only [callsMerge, callsFlat_cons]
    rw [List.zipWith_append ((Arg.flat_length_of_similar l).2 _ _ hv), ← (Arg.flat_merge_both l).2 _ _ hv, ih]
    rfl

theorem Signature.flatArgs_merge (l : Lvl) (k r : Signature)
    (hs : Signature.similar l k r = true) :
    (Signature.merge k r).flatArgs = List.zipWith mergeScalar k.flatArgs r.flatArgs :=
  callsFlat_merge l _ _ (Signature.similar_calls hs)

theorem mergeScalar_pos (xs ys : List Scalar) (hlen : xs.length = ys.length) (i : Nat) :
    ((List.zipWith mergeScalar xs ys)[i]? = xs[i]? ∧ ys[i]? = xs[i]?) ∨
    (((List.zipWith mergeScalar xs ys)[i]?).map Scalar.name = some star ∧ ys[i]? ≠ xs[i]?) := by
  rw [List.getElem?_zipWith]
  by_cases hi : i < xs.length
  · have hi' : i < ys.length := hlen ▸ hi
    rw [List.getElem?_eq_getElem hi, List.getElem?_eq_getElem hi']
    by_cases e : xs[i] = ys[i]
    · left; simp [mergeScalar, e]
    · right
      refine ⟨by simp [mergeScalar, e], ?_⟩
      intro e'
      exact e (Option.some.inj e').symm
  · have h1 : xs[i]? = none := List.getElem?_eq_none (by omega)
    have h2 : ys[i]? = none := List.getElem?_eq_none (by omega)
    left; simp [h1, h2]

def Call.strip (c : Call) : Call := { c with args := {} }

theorem callsMerge_strip : ∀ as bs : List Call,
    (callsMerge as bs).map Call.strip = as.map Call.strip
  | [], _ => by simp [callsMerge]
  | _ :: _, [] => by simp [callsMerge]
  | a :: as, b :: bs => by
    simp only [callsMerge, List.map_cons, callsMerge_strip as bs]
    rfl

/-! ### what a key says about its members -/

/-- the key `k` generalises the member signatures `ms` (arrival order) -/
structure Gen (k : Signature) (ms : List Signature) : Prop where
  minLe : ∀ m ∈ ms, k.sleepMin ≤ m.sleepMin
  minAtt : ∃ m ∈ ms, m.sleepMin = k.sleepMin
  maxGe : ∀ m ∈ ms, m.sleepMax ≤ k.sleepMax
  maxAtt : ∃ m ∈ ms, m.sleepMax = k.sleepMax
  locked : k.locked = true ↔ ∃ m ∈ ms, m.locked = true
  first : ∃ m₀ rest, ms = m₀ :: rest ∧ k.state = m₀.state ∧ k.createdBy = m₀.createdBy ∧
    k.stack.elided = m₀.stack.elided ∧
    k.stack.calls.map Call.strip = m₀.stack.calls.map Call.strip
  len : ∀ m ∈ ms, m.flatArgs.length = k.flatArgs.length
  args : ∀ i : Nat, (∀ m ∈ ms, m.flatArgs[i]? = k.flatArgs[i]?) ∨
    ((k.flatArgs[i]?).map Scalar.name = some star ∧
      ∃ m ∈ ms, ∃ m' ∈ ms, m.flatArgs[i]? ≠ m'.flatArgs[i]?)

theorem Gen.single (s : Signature) : Gen s [s] where
  minLe := by simp
  minAtt := ⟨s, by simp, rfl⟩
  maxGe := by simp
  maxAtt := ⟨s, by simp, rfl⟩
  locked := by simp
  first := ⟨s, [], rfl, rfl, rfl, rfl, rfl⟩
  len := by simp
  args := fun i => .inl (by simp)

theorem forall_mem_snoc {α : Type} {P : α → Prop} {ms : List α} {r : α} :
    (∀ m ∈ ms ++ [r], P m) ↔ (∀ m ∈ ms, P m) ∧ P r := by
  rw [List.forall_mem_append, List.forall_mem_singleton]

theorem exists_mem_snoc {α : Type} {P : α → Prop} {ms : List α} {r : α} :
    (∃ m ∈ ms ++ [r], P m) ↔ (∃ m ∈ ms, P m) ∨ P r := by
  simp [or_and_right, exists_or]

theorem exists_mem_map {α β : Type} {f : α → β} {l : List α} {P : β → Prop} :
    (∃ i ∈ l.map f, P i) ↔ ∃ j ∈ l, P (f j) :=
  ⟨fun ⟨_, hi, hp⟩ => by
    obtain ⟨j, hj, rfl⟩ := List.mem_map.1 hi
    exact ⟨j, hj, hp⟩, fun ⟨j, hj, hp⟩ => ⟨f j, List.mem_map_of_mem hj, hp⟩⟩

theorem Gen.snoc_equal {k r : Signature} {ms : List Signature} (h : Gen k ms)
    (he : Signature.equal k r = true) : Gen k (ms ++ [r]) := by
  have hf : k.flatArgs = r.flatArgs := Signature.flatArgs_eq_of_equal k r he
  simp only [Signature.equal, Bool.and_eq_true, beq_iff_eq] at he
  obtain ⟨⟨⟨⟨_, hl⟩, hmin⟩, hmax⟩, _⟩ := he
  exact {
    minLe := forall_mem_snoc.2 ⟨h.minLe, Nat.le_of_eq hmin⟩
    minAtt := exists_mem_snoc.2 (.inl h.minAtt)
    maxGe := forall_mem_snoc.2 ⟨h.maxGe, Nat.le_of_eq hmax.symm⟩
    maxAtt := exists_mem_snoc.2 (.inl h.maxAtt)
    locked := by rw [exists_mem_snoc, ← h.locked, ← hl]; exact (or_self_iff).symm
    first := by
      obtain ⟨m₀, rest, e, hr⟩ := h.first
      exact ⟨m₀, rest ++ [r], by simp [e], hr⟩
    len := forall_mem_snoc.2 ⟨h.len, by rw [hf]⟩
    args := fun i => (h.args i).imp (fun hA => forall_mem_snoc.2 ⟨hA, by rw [hf]⟩)
      (fun ⟨hs, m, hm, m', hm', hne⟩ =>
        ⟨hs, m, List.mem_append_left _ hm, m', List.mem_append_left _ hm', hne⟩) }

theorem Gen.snoc_merge {l : Lvl} {k r : Signature} {ms : List Signature} (h : Gen k ms)
    (hs : Signature.similar l k r = true) : Gen (Signature.merge k r) (ms ++ [r]) := by
  have hf := Signature.flatArgs_merge l k r hs
  have hlen := Signature.flatArgs_length_of_similar l k r hs
  have hl' : (Signature.merge k r).flatArgs.length = k.flatArgs.length := by
    rw [hf, List.length_zipWith, hlen, Nat.min_self]
  exact {
    minLe := forall_mem_snoc.2
      ⟨fun m hm => Nat.le_trans (Nat.min_le_left _ _) (h.minLe m hm), Nat.min_le_right _ _⟩
    minAtt := exists_mem_snoc.2 <| by
      show (∃ m ∈ ms, m.sleepMin = min k.sleepMin r.sleepMin) ∨ r.sleepMin = min k.sleepMin r.sleepMin
      rcases Nat.le_total k.sleepMin r.sleepMin with hle | hle
      · rw [Nat.min_eq_left hle]; exact .inl h.minAtt
      · rw [Nat.min_eq_right hle]; exact .inr rfl
    maxGe := forall_mem_snoc.2
      ⟨fun m hm => Nat.le_trans (h.maxGe m hm) (Nat.le_max_left _ _), Nat.le_max_right _ _⟩
    maxAtt := exists_mem_snoc.2 <| by
      show (∃ m ∈ ms, m.sleepMax = max k.sleepMax r.sleepMax) ∨ r.sleepMax = max k.sleepMax r.sleepMax
      rcases Nat.le_total k.sleepMax r.sleepMax with hle | hle
      · rw [Nat.max_eq_right hle]; exact .inr rfl
      · rw [Nat.max_eq_left hle]; exact .inl h.maxAtt
    locked := by
      show (k.locked || r.locked) = true ↔ _
      rw [exists_mem_snoc, ← h.locked, Bool.or_eq_true]
    first := by
      obtain ⟨m₀, rest, e, h1, h2, h3, h4⟩ := h.first
      refine ⟨m₀, rest ++ [r], by simp [e], h1, h2, h3, ?_⟩
      simp only [Signature.merge, Stack.merge, callsMerge_strip]
      exact h4
    len := forall_mem_snoc.2 ⟨fun m hm => by rw [hl']; exact h.len m hm, by rw [hl']; exact hlen.symm⟩
    args := fun i => by
      rw [hf]
      rcases mergeScalar_pos k.flatArgs r.flatArgs hlen i with ⟨hk, hr⟩ | ⟨hstar, hne⟩
      · -- the newcomer agrees with the key here: the position is as before
        rw [hk]
        exact (h.args i).imp (fun hA => forall_mem_snoc.2 ⟨hA, hr⟩)
          (fun ⟨hs', m, hm, m', hm', hne⟩ =>
            ⟨hs', m, List.mem_append_left _ hm, m', List.mem_append_left _ hm', hne⟩)
      · -- it differs from the key, hence from the first member or from whoever differed before
        refine .inr ⟨hstar, ?_⟩
        rcases h.args i with hA | ⟨_, m, hm, m', hm', hne'⟩
        · obtain ⟨m₀, rest, e, _⟩ := h.first
          have hm₀ : m₀ ∈ ms := by simp [e]
          exact ⟨r, by simp, m₀, by simp [hm₀], by rw [hA m₀ hm₀]; exact hne⟩
        · exact ⟨m, by simp [hm], m', by simp [hm'], hne'⟩ }

/-! ### the members of a bucket -/

/-- the goroutines of `gs` listed in bucket `b`, in arrival order -/
def Bucket.members (b : Bucket) (gs : List Goroutine) : List Goroutine :=
  gs.filter (fun g => b.ids.contains g.id)

theorem filter_ids_of_sublist {ms gs : List Goroutine} (h : ms.Sublist gs)
    (hnd : (gs.map (·.id)).Nodup) : gs.filter (fun g => (ms.map (·.id)).contains g.id) = ms := by
  induction h with
  | slnil => rfl
  | @cons ms gs g h ih =>
    rw [List.map_cons, List.nodup_cons] at hnd
    have hg : (ms.map (·.id)).contains g.id = false := by
      rw [List.contains_eq_mem, decide_eq_false_iff_not]
      exact fun hm => hnd.1 (List.map_subset _ h.subset hm)
    rw [List.filter_cons, hg, if_neg Bool.false_ne_true, ih hnd.2]
  | @cons_cons ms gs g h ih =>
    rw [List.map_cons, List.nodup_cons] at hnd
    have e : gs.filter (fun x => ((g :: ms).map (·.id)).contains x.id) =
        gs.filter (fun x => (ms.map (·.id)).contains x.id) :=
      List.filter_congr fun x hx => by
        have : x.id ≠ g.id := fun e => hnd.1 (e ▸ List.mem_map_of_mem hx)
        simp [this]
    rw [List.filter_cons, if_pos (by simp), e, ih hnd.2]

theorem members_toBucket {l : Lvl} {k : Bkt} {ms gs : List Goroutine} (hf : Filed l k ms)
    (hsub : ms.Sublist gs) (hnd : (gs.map (·.id)).Nodup) : k.toBucket.members gs = ms := by
  rw [← filter_ids_of_sublist hsub hnd, ← hf.ids]
  apply List.filter_congr
  intro g _
  exact Bool.eq_iff_iff.2 (by simp [Bkt.toBucket, mem_sortNat])

theorem Filed.gen {l : Lvl} {b : Bkt} {ms : List Goroutine} (h : Filed l b ms) :
    Gen b.key (ms.map (·.sig)) := by
  induction h with
  | new i g => exact Gen.single g.sig
  | upd g _ hs ih =>
    rw [List.map_append]
    simp only [Bkt.upd]
    split
    · rename_i he; exact ih.snoc_equal he
    · exact ih.snoc_merge hs

theorem bucket_gen {π : Oracle} (hπ : ValidOracle π) (l : Lvl) (gs : List Goroutine)
    (hnd : (gs.map (·.id)).Nodup) :
    ∀ b ∈ aggregateWith π l gs, Gen b.sig ((b.members gs).map (·.sig)) := by
  intro b hb
  obtain ⟨k, hk, rfl⟩ := (mem_aggregateWith hπ l gs b).1 hb
  obtain ⟨ms, hsub, hf⟩ := bucketLoop_filed hπ l gs k hk
  rw [members_toBucket hf hsub hnd]
  exact hf.gen

theorem mem_members {b : Bucket} {gs : List Goroutine} {g : Goroutine} :
    g ∈ b.members gs ↔ g ∈ gs ∧ g.id ∈ b.ids := by
  simp [Bucket.members]

/-! ### what `similar` fixes frame by frame -/

theorem callsSimilar_getElem? (l : Lvl) :
    ∀ (as bs : List Call), callsSimilar l as bs = true → ∀ (i : Nat) (c c' : Call),
      as[i]? = some c → bs[i]? = some c' → Call.similar l c c' = true :=
  callsSimilar_induct (fun _ _ _ h => by simp at h) fun a b _ _ hab _ ih i c c' h1 h2 => by
    cases i with
    | zero =>
      simp only [List.getElem?_cons_zero, Option.some.injEq] at h1 h2
      rw [← h1, ← h2]; exact hab
    | succ i => exact ih i c c' (by simpa using h1) (by simpa using h2)

theorem Signature.similar_frames (l : Lvl) (a b : Signature)
    (hs : Signature.similar l a b = true) :
    a.state = b.state ∧ Stack.similar l a.createdBy b.createdBy = true ∧
    a.stack.elided = b.stack.elided ∧ a.stack.calls.length = b.stack.calls.length ∧
    ∀ (i : Nat) (c c' : Call), a.stack.calls[i]? = some c → b.stack.calls[i]? = some c' →
      c.fn.complete = c'.fn.complete ∧ c.remoteSrcPath = c'.remoteSrcPath ∧ c.line = c'.line ∧
        c.args.elided = c'.args.elided := by
  simp only [Signature.similar, Bool.and_eq_true, beq_iff_eq] at hs
  obtain ⟨⟨⟨hst, hcb⟩, _⟩, hstack⟩ := hs
  simp only [Stack.similar, Bool.and_eq_true, beq_iff_eq] at hstack
  refine ⟨hst, hcb, hstack.1, callsSimilar_length l _ _ hstack.2, ?_⟩
  intro i c c' h1 h2
  have := callsSimilar_getElem? l _ _ hstack.2 i c c' h1 h2
  simp only [Call.similar, Args.similar, Bool.and_eq_true, beq_iff_eq] at this
  exact ⟨this.1.1.2, this.1.2, this.1.1.1, this.2.1⟩

end PP
