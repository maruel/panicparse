import PP.Lemmas.HtmlDocLits
/-
What the proofs need to know about the bytes of the template's text nodes, the
four long ones (`<meta>` block, style sheet, legend) included.  These are facts
about a fixed table: they are collected in one decidable structure, `DocLitsFacts`, which
`decide +kernel` evaluates.
-/
namespace PP.Html
open PP PP.Bytes

structure DocLitsFacts : Prop where
  /-- neither `"data:` nor `"javascript:` can begin in a text node and end in what follows it,
  and `"javascript:` occurs in none -/
  scan : ∀ a ∈ docLits, litOK patData a = true ∧ litOK patJavascript a = true ∧ occ patJavascript a = 0
  /-- `"data:` occurs once in the head … -/
  dataHead : (headLits'.map (occ patData)).sum = 1
  /-- … and nowhere else -/
  dataRest : ∀ a ∈ contentLits ++ metaLits, occ patData a = 0
  /-- the text nodes of the head and of the Metadata section do not end with a quote (no attribute
  value is left open for a hole), and every `&` in them starts a character reference -/
  edges : ∀ a ∈ headLits' ++ metaLits, endsQuote a = false ∧ ampOK a = true
  /-- the one `"data:` is the favicon link, at the very end of text node 1 -/
  favicon : hasSuffix Lit.t1 b!"<link rel=\"shortcut icon\" type=\"image/gif\" href=\"data:image/gif;base64," = true

instance : Decidable DocLitsFacts :=
  decidable_of_iff _
    ⟨fun h => ⟨h.1, h.2.1, h.2.2.1, h.2.2.2.1, h.2.2.2.2⟩,
     fun h => And.intro h.scan <| And.intro h.dataHead <| And.intro h.dataRest <| And.intro h.edges h.favicon⟩

theorem docLitsFacts : DocLitsFacts := by decide +kernel

end PP.Html
