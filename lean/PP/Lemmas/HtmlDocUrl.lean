import PP.Lemmas.HtmlDocMeta
import PP.Lemmas.HtmlDocTable
/-
Occurrences of a quoted URL scheme (`"data:`, `"javascript:`) in the rendered
document.  Every attribute of the template is double-quoted and no hole can emit
a quote, so an attribute value starting with `data:` shows up in the bytes as
the string `"data:`.  The lemmas count the occurrences of such a pattern in the
rendering of a piece list: they are those of the template's literals.
-/
namespace PP.Html
open PP PP.Bytes

/-! ### how `occ` splits over `++` -/

theorem hasPrefix_nil (s : Bytes) : hasPrefix s [] = true := by cases s <;> rfl

theorem hasPrefix_short (s pat : Bytes) (h : s.length < pat.length) : hasPrefix s pat = false := by
  rw [Bool.eq_false_iff]
  intro hp
  obtain ⟨r, rfl⟩ := (hasPrefix_iff s pat).1 hp
  rw [List.length_append] at h
  omega

theorem hasPrefix_append_of_le (s x pat : Bytes) (h : pat.length ≤ s.length) :
    hasPrefix (s ++ x) pat = hasPrefix s pat := by
  induction pat generalizing s with
  | nil => rw [hasPrefix_nil, hasPrefix_nil]
  | cons p ps ih =>
    cases s with
    | nil => simp at h
    | cons c t =>
      simp only [List.length_cons] at h
      simp only [List.cons_append, hasPrefix, ih t (by omega)]

theorem occ_short (pat s : Bytes) (h : s.length < pat.length) : occ pat s = 0 := by
  induction s with
  | nil => rfl
  | cons c t ih =>
    simp only [List.length_cons] at h
    simp only [occ, hasPrefix_short (c :: t) pat (by simpa using h), ih (by omega)]
    rfl

theorem hasPrefix_of_append (s x pat : Bytes) (h : hasPrefix (s ++ x) pat = true) (hl : s.length ≤ pat.length) :
    hasPrefix pat s = true := by
  induction s generalizing pat with
  | nil => exact hasPrefix_nil pat
  | cons c t ih =>
    cases pat with
    | nil => simp at hl
    | cons p ps =>
      simp only [List.cons_append, hasPrefix, Bool.and_eq_true] at h
      simp only [List.length_cons] at hl
      simp only [hasPrefix, Bool.and_eq_true]
      refine ⟨?_, ih ps h.2 (by omega)⟩
      have := h.1
      simp only [beq_iff_eq] at this ⊢
      exact this.symm

theorem hasPrefix_append_of_noPartial (pat s x : Bytes) (h : partialAt pat s = false) :
    hasPrefix (s ++ x) pat = hasPrefix s pat := by
  by_cases hl : pat.length ≤ s.length
  · exact hasPrefix_append_of_le s x pat hl
  · have hs : hasPrefix s pat = false := hasPrefix_short s pat (by omega)
    rw [hs]
    cases hc : hasPrefix (s ++ x) pat with
    | false => rfl
    | true =>
      have := hasPrefix_of_append s x pat hc (by omega)
      simp [partialAt, this, hs] at h

theorem occ_lit_append (pat a b : Bytes) (h : noPartial pat a = true) :
    occ pat (a ++ b) = occ pat a + occ pat b := by
  induction a with
  | nil => rw [List.nil_append, occ, Nat.zero_add]
  | cons c t ih =>
    simp only [noPartial, Bool.and_eq_true, Bool.not_eq_true'] at h
    have := hasPrefix_append_of_noPartial pat (c :: t) b h.1
    simp only [List.cons_append] at this
    simp only [List.cons_append, occ, this, ih h.2]
    omega

theorem occ_skip (q : UInt8) (p' a b : Bytes) (h : a.all (fun c => c != q) = true) :
    occ (q :: p') (a ++ b) = occ (q :: p') b := by
  induction a with
  | nil => rfl
  | cons c t ih =>
    simp only [List.all_cons, Bool.and_eq_true, bne_iff_ne] at h
    have : (c == q) = false := by simpa using h.1
    simp only [List.cons_append, occ, hasPrefix, this, Bool.false_and, ih h.2]
    simp

theorem eq_dropLast_of_endsQuote (a : Bytes) (h : endsQuote a = true) : a = a.dropLast ++ [34] := by
  simp only [endsQuote, beq_iff_eq] at h
  have hne : a ≠ [] := by intro h0; subst h0; simp at h
  have := List.dropLast_concat_getLast hne
  rw [List.getLast?_eq_some_getLast hne] at h
  injection h with h
  rw [h] at this
  exact this.symm

/-- a literal ending with a quote: one more match iff what follows starts with the rest of the pattern -/
theorem occ_quoteLit_append (p' a b : Bytes) (hp : p' ≠ []) (he : endsQuote a = true)
    (h : noPartial (34 :: p') a.dropLast = true) :
    occ (34 :: p') (a ++ b) = occ (34 :: p') a + (if hasPrefix b p' then 1 else 0) + occ (34 :: p') b := by
  have ha := eq_dropLast_of_endsQuote a he
  have hpl : 0 < p'.length := List.length_pos_iff.2 hp
  have h1 : occ (34 :: p') a = occ (34 :: p') a.dropLast := by
    conv => lhs; rw [ha]
    rw [occ_lit_append _ _ _ h, occ_short _ [34] (by simp only [List.length_cons, List.length_nil]; omega),
      Nat.add_zero]
  have h2 : occ (34 :: p') (a ++ b) = occ (34 :: p') a.dropLast + occ (34 :: p') (34 :: b) := by
    conv => lhs; rw [ha]
    rw [List.append_assoc]
    exact occ_lit_append _ _ _ h
  rw [h2, h1]
  simp only [occ, hasPrefix, beq_self_eq_true, Bool.true_and]
  omega

/-! ### what fills an attribute value -/

/-- the value of a URL hole is a builder's URL (empty, or with a fixed prefix), that of a
class hole a `funcClass` value -/
def goodHole : Piece → Bool
  | .hole .href v => startsWithOneOf allSchemes v
  | .hole .cls v => hasPrefix v b!"Func"
  | _ => true

/-- every literal ending with a quote is followed by a hole that satisfies `g` and a literal starting with a quote -/
def quotedBy (g : HoleKind → Bytes → Bool) : List Piece → Bool
  | [] => true
  | .lit a :: rest =>
    (if endsQuote a then
      match rest with
      | .hole k v :: .lit c :: _ => g k v && c.head? == some 34
      | _ => false
     else true) && quotedBy g rest
  | .hole _ _ :: rest => quotedBy g rest

theorem quotedBy_append (g : HoleKind → Bytes → Bool) (a b : List Piece) (ha : quotedBy g a = true)
    (hb : quotedBy g b = true) : quotedBy g (a ++ b) = true := by
  induction a with
  | nil => simpa using hb
  | cons p ps ih =>
    cases p with
    | hole k v => simp only [List.cons_append, quotedBy] at ha ⊢; exact ih ha
    | lit x =>
      simp only [List.cons_append, quotedBy, Bool.and_eq_true] at ha ⊢
      refine ⟨?_, ih ha.2⟩
      have h1 := ha.1
      split at h1
      · rename_i he
        rw [if_pos he]
        match ps, h1 with
        | .hole k v :: .lit c :: rest, h1 => simpa using h1
      · rename_i he
        rw [if_neg he]

theorem quotedBy_of_noQuote (g : HoleKind → Bytes → Bool) (ps : List Piece) (h : ∀ a ∈ litsOf ps, endsQuote a = false) :
    quotedBy g ps = true := by
  induction ps with
  | nil => rfl
  | cons p ps ih =>
    cases p with
    | hole k v => exact ih h
    | lit x =>
      rw [litsOf_lit] at h
      simp only [quotedBy, h x (List.mem_cons_self ..), Bool.false_eq_true, if_false, Bool.true_and]
      exact ih fun a ha => h a (List.mem_cons_of_mem _ ha)

/-- What counting needs: every literal ending with a quote is followed by a URL or class hole
with a good value and a literal starting with a quote.  (Other holes are not constrained: the
favicon hole follows a literal that leaves the attribute value open after `base64,`.) -/
def guardOK (ps : List Piece) : Bool := quotedBy (fun k v => k != .text && goodHole (.hole k v)) ps

/-- every attribute value the template opens is filled by a URL or class hole and closed -/
def quotesOK (ps : List Piece) : Bool := quotedBy (fun k _ => k != .text) ps

/-- What the templates of the content division satisfy: `quotesOK`, which does not depend on
the values of the holes, and every URL or class hole has a good value. -/
def holesOK (ps : List Piece) : Bool := quotesOK ps && ps.all goodHole

theorem holesOK_iff {ps : List Piece} : holesOK ps = true ↔ quotesOK ps = true ∧ ps.all goodHole = true :=
  Bool.and_eq_true_iff

theorem holesOK_append (a b : List Piece) (ha : holesOK a = true) (hb : holesOK b = true) :
    holesOK (a ++ b) = true := by
  rw [holesOK_iff] at ha hb ⊢
  exact ⟨quotedBy_append _ a b ha.1 hb.1, by rw [List.all_append, ha.2, hb.2]; rfl⟩

theorem holesOK_of_plain {S : List Bytes} (hS : ∀ a ∈ S, endsQuote a = false) {ps : List Piece}
    (h : plainPart S ps = true) : holesOK ps = true := by
  refine holesOK_iff.2 ⟨quotedBy_of_noQuote _ ps fun a ha => hS a (inS_iff.1 (plainPart_lits h) ha), ?_⟩
  simp only [plainPart, List.all_eq_true] at h ⊢
  intro p hp
  have := h p hp
  cases p with
  | lit a => rfl
  | hole k v => rw [beq_iff_eq.1 this]; rfl

theorem guardOK_of_holesOK {ps : List Piece} (h : holesOK ps = true) : guardOK ps = true := by
  obtain ⟨hq, hg⟩ := holesOK_iff.1 h
  clear h
  induction ps with
  | nil => rfl
  | cons p ps ih =>
    simp only [List.all_cons, Bool.and_eq_true] at hg
    cases p with
    | hole k v => exact ih hq hg.2
    | lit x =>
      simp only [quotesOK, guardOK, quotedBy, Bool.and_eq_true] at hq ih ⊢
      refine ⟨?_, ih hq.2 hg.2⟩
      have h1 := hq.1
      split at h1
      · rename_i he
        rw [if_pos he]
        match ps, h1, hg.2 with
        | .hole k v :: .lit c :: rest, h1, hg2 =>
          simp only [List.all_cons, Bool.and_eq_true] at hg2
          simp only [Bool.and_eq_true] at h1 ⊢
          exact ⟨⟨h1.1, hg2.1⟩, h1.2⟩
      · rename_i he
        rw [if_neg he]

/-- the text starts with `"`, `h`, `f` or `F` -/
def headQHF : Bytes → Bool
  | [] => false
  | c :: _ => c == 34 || c == 104 || c == 102 || c == 70

/-- a pattern whose first byte is none of these: no good hole value and no quote can start it -/
def patOK (p : Bytes) : Bool := !p.isEmpty && !headQHF p

theorem headQHF_append (a b : Bytes) (h : headQHF a = true) : headQHF (a ++ b) = true := by
  cases a with
  | nil => cases h
  | cons c t => exact h

theorem not_hasPrefix_of_head (p' s : Bytes) (hp : patOK p' = true) (hs : headQHF s = true) :
    hasPrefix s p' = false := by
  cases s with
  | nil => cases hs
  | cons c t =>
    cases p' with
    | nil => cases hp
    | cons q qs =>
      have hq : headQHF (q :: qs) = false := by simpa [patOK] using hp
      have : (c == q) = false := by
        rw [beq_eq_false_iff_ne]; rintro rfl
        cases hs.symm.trans hq
      simp [hasPrefix, this]

theorem renderHole_good_head (k : HoleKind) (v h : Bytes) (hk : k ≠ .text) (hg : goodHole (.hole k v) = true)
    (hr : renderHole k v = .ok h) : h = [] ∨ headQHF h = true := by
  cases k with
  | text => exact absurd rfl hk
  | href =>
    rw [renderHole_href] at hr; injection hr with hr; subst hr
    have := hrefHole_prefix allSchemes allSchemes_plain v hg
    simp only [startsWithOneOf, Bool.or_eq_true, List.any_eq_true, List.isEmpty_iff] at this
    rcases this with h0 | ⟨p, hp, hpre⟩
    · exact Or.inl h0
    · obtain ⟨x, hx⟩ := (hasPrefix_iff _ p).1 hpre
      rw [hx]
      exact Or.inr (headQHF_append p x ((by decide : ∀ p ∈ allSchemes, headQHF p = true) p hp))
  | cls =>
    obtain ⟨x, rfl⟩ := (hasPrefix_iff v _).1 hg
    simp only [renderHole, attrEscaperHTML, stripTags] at hr
    split at hr
    · cases hr
    · injection hr with hr; subst hr
      rw [htmlReplacer_append]
      exact Or.inr rfl

theorem noQuote_of_markup_nil (r : Bytes) (h : markup r = []) : r.all (fun c => c != 34) = true := by
  rw [markup, List.filter_eq_nil_iff] at h
  rw [List.all_eq_true]
  intro c hc
  have := h c hc
  simp only [bne_iff_ne, ne_eq]
  intro h34; subst h34
  exact this (by decide)

/-- Occurrences of `"` followed by `p'` in the rendering of a guarded piece list
(followed by anything): exactly those inside the literals. -/
theorem occ_renderPieces (p' : Bytes) (hp : patOK p' = true) (S : List Bytes)
    (hS : ∀ a ∈ S, litOK (34 :: p') a = true)
    (ps : List Piece) (hg : guardOK ps = true) (hl : inS S (litsOf ps) = true) (hwf : ps.all Piece.wf = true)
    (r : Bytes) (hr : renderPieces ps = .ok r) (y : Bytes) :
    occ (34 :: p') (r ++ y) = ((litsOf ps).map (occ (34 :: p'))).sum + occ (34 :: p') y := by
  have hpne : p' ≠ [] := by intro h; subst h; simp [patOK] at hp
  induction ps generalizing r with
  | nil => simp only [renderPieces] at hr; injection hr with hr; subst hr; simp
  | cons p ps ih =>
    obtain ⟨b, r', hb, hr', rfl⟩ := renderPieces_cons_inv hr
    simp only [List.all_cons, Bool.and_eq_true] at hwf
    cases p with
    | hole k v =>
      simp only [guardOK, quotedBy] at hg
      simp only [litsOf_hole] at hl ⊢
      obtain ⟨x, hx, hxm⟩ := renderHole_spec k v hwf.1
      simp only [Piece.render] at hb
      rw [hx] at hb; injection hb with hb; subst hb
      rw [List.append_assoc, occ_skip 34 p' x _ (noQuote_of_markup_nil x hxm)]
      exact ih hg hl hwf.2 r' hr'
    | lit a =>
      simp only [Piece.render] at hb; injection hb with hb; subst hb
      simp only [guardOK, quotedBy, Bool.and_eq_true] at hg
      simp only [litsOf_lit, inS_cons, Bool.and_eq_true, List.contains_iff_mem] at hl
      have hlit := hS a hl.1
      have ih' := ih hg.2 hl.2 hwf.2 r' hr'
      simp only [litsOf_lit, List.map_cons, List.sum_cons]
      rw [List.append_assoc]
      by_cases he : endsQuote a = true
      · simp only [litOK, he, if_true] at hlit
        rw [occ_quoteLit_append p' a _ hpne he hlit, ih']
        have h1 := hg.1
        rw [if_pos he] at h1
        -- what follows the quote: the rendering of a URL or class hole, then a literal that starts with a quote
        have hnp : hasPrefix (r' ++ y) p' = false := by
          match ps, h1, hr', hwf.2 with
          | .hole k v :: .lit c :: rest, h1, hr', hwf2 =>
            simp only [Bool.and_eq_true, beq_iff_eq, bne_iff_ne, ne_eq] at h1
            simp only [List.all_cons, Bool.and_eq_true] at hwf2
            obtain ⟨x, hx, _⟩ := renderHole_spec k v hwf2.1
            obtain ⟨rr, hrr, _⟩ := renderPieces_spec rest hwf2.2.2
            have : r' = x ++ (c ++ rr) := by
              simp only [renderPieces, Piece.render, hx, hrr] at hr'
              injection hr' with hr'; exact hr'.symm
            subst this
            apply not_hasPrefix_of_head p' _ hp
            have hc : headQHF c = true := by
              cases c with
              | nil => simp at h1
              | cons c0 ct =>
                have hc0 : c0 = 34 := by simpa using h1.2
                rw [hc0]; rfl
            rcases renderHole_good_head k v x h1.1.1 h1.1.2 hx with h0 | hx'
            · subst h0
              rw [List.nil_append, List.append_assoc]; exact headQHF_append _ _ hc
            · rw [List.append_assoc]; exact headQHF_append _ _ hx'
        rw [hnp]; simp; omega
      · simp only [litOK, he, Bool.false_eq_true, if_false] at hlit
        rw [occ_lit_append _ a _ hlit, ih']
        omega

theorem sum_map_zero_of_inS (f : Bytes → Nat) (S l : List Bytes) (hS : ∀ a ∈ S, f a = 0) (h : inS S l = true) :
    (l.map f).sum = 0 := by
  induction l with
  | nil => rfl
  | cons x xs ih =>
    rw [inS_cons, Bool.and_eq_true, List.contains_iff_mem] at h
    rw [List.map_cons, List.sum_cons, hS x h.1, ih h.2]

/-! ### the holes of every part of the document -/

@[simp] theorem eq_c5 : endsQuote Lit.c5 = false := by decide
@[simp] theorem eq_c6 : endsQuote Lit.c6 = false := by decide
@[simp] theorem eq_c7 : endsQuote Lit.c7 = false := by decide
@[simp] theorem eq_r1 : endsQuote Lit.r1 = false := by decide
@[simp] theorem eq_r2 : endsQuote Lit.r2 = false := by decide
@[simp] theorem eq_r3 : endsQuote Lit.r3 = false := by decide

theorem srcPathLits_noQuote : ∀ a ∈ srcPathLits, endsQuote a = false := by simp [srcPathLits]

theorem startsWithOneOf_mono {S T : List Bytes} {u : Bytes} (hST : S ⊆ T)
    (h : startsWithOneOf S u = true) : startsWithOneOf T u = true := by
  simp only [startsWithOneOf, Bool.or_eq_true, List.any_eq_true] at h ⊢
  rcases h with h | ⟨p, hp, hh⟩
  · exact Or.inl h
  · exact Or.inr ⟨p, hST hp, hh⟩

theorem goodHole_srcURL (ver : Bytes) (c : Call) (u : Bytes) (h : srcURL ver c = .ok u) :
    goodHole (.hole .href u) = true :=
  startsWithOneOf_mono (List.subset_append_left _ _) (srcURL_scheme ver c u h)

theorem goodHole_pkgURL (ver : Bytes) (c : Call) (u : Bytes) (h : pkgURL ver c = .ok u) :
    goodHole (.hole .href u) = true :=
  startsWithOneOf_mono (List.subset_append_right _ _) (pkgURL_scheme ver c u h)

theorem goodHole_funcClass (c : Call) : goodHole (.hole .cls (funcClass c)) = true := by
  show hasPrefix (funcClass c) b!"Func" = true
  unfold funcClass
  split
  · decide
  · exact hasPrefix_append _ _

theorem callRow_holesOK (ver : Bytes) (i : Nat) (c : Call) (r : List Piece) (h : callRow ver i c = .ok r) :
    holesOK r = true := by
  unfold callRow at h
  split at h
  · rename_i pu su hpu hsu
    injection h with h; subst h
    have g1 : startsWithOneOf allSchemes pu = true := goodHole_pkgURL ver c pu hpu
    have g2 : startsWithOneOf allSchemes su = true := goodHole_srcURL ver c su hsu
    have g3 : hasPrefix (funcClass c) b!"Func" = true := goodHole_funcClass c
    refine holesOK_append _ _ (holesOK_append _ _ (holesOK_append _ _ (holesOK_append _ _ ?_ ?_) ?_) ?_) rfl
    · exact holesOK_iff.2 ⟨rfl, by simp [tx, txNat, goodHole, g1]⟩
    · exact holesOK_of_plain srcPathLits_noQuote (srcPathPieces_plain c)
    · exact holesOK_iff.2 ⟨rfl, by simp [tx, txNat, goodHole, g1, g2, g3]⟩
    · exact holesOK_of_plain (by decide +kernel) (renderArgs_plain _)
  · cases h
  · cases h

theorem renderCalls_holesOK (ver : Bytes) (s : Stack) (r : List Piece) (h : renderCalls ver s = .ok r) :
    holesOK r = true := by
  unfold renderCalls at h
  split at h
  · cases h
  · rename_i rows hrows
    injection h with h; subst h
    rw [callRows_eq] at hrows
    refine holesOK_append _ _ (holesOK_append _ _ (holesOK_append _ _ rfl ?_) ?_) rfl
    · exact concatMapIdx_closed (holesOK · = true) rfl holesOK_append (callRow_holesOK ver) hrows
    · split <;> rfl

theorem createdPieces_holesOK (ver : Bytes) (s : Signature) (r : List Piece) (h : createdPieces ver s = .ok r) :
    holesOK r = true := by
  unfold createdPieces at h
  split at h
  · injection h with h; subst h; rfl
  · rename_i c _ _
    split at h
    · cases h
    · rename_i ps hps
      injection h with h; subst h
      refine holesOK_append _ _ (holesOK_append _ _ rfl ?_) rfl
      unfold renderCreatedBy at hps
      split at hps
      · rename_i pu su hpu hsu
        injection hps with hps; subst hps
        have g1 : startsWithOneOf allSchemes pu = true := goodHole_pkgURL ver c pu hpu
        have g2 : startsWithOneOf allSchemes su = true := goodHole_srcURL ver c su hsu
        have g3 : hasPrefix (funcClass c) b!"Func" = true := goodHole_funcClass c
        refine holesOK_append _ _ (holesOK_append _ _ rfl (holesOK_of_plain srcPathLits_noQuote (srcPathPieces_plain c))) ?_
        exact holesOK_iff.2 ⟨rfl, by simp [tx, txNat, goodHole, g1, g2, g3]⟩
      · cases hps
      · cases hps

theorem BlockShape.holesOK {ver marker : Bytes} {sig : Signature} {r : List Piece} (hs : BlockShape ver marker sig r)
    (hm : endsQuote marker = false) : holesOK r = true := by
  obtain ⟨head, cr, calls, hhead, hcr, hcalls⟩ := hs
  refine holesOK_append _ _ (holesOK_append (_ :: _) _ ?_ (createdPieces_holesOK ver _ cr hcr))
    (renderCalls_holesOK ver _ calls hcalls)
  have h := holesOK_iff.1 (holesOK_of_plain (by decide +kernel) hhead)
  refine holesOK_iff.2 ⟨?_, by rw [List.all_cons, h.2]; rfl⟩
  simp only [quotesOK, quotedBy, hm, Bool.false_eq_true, if_false, Bool.true_and]
  exact h.1

theorem docPieces_holesOK (d : DocData) (c : List Piece) (hc : contentOf d.ver d.body = .ok c) :
    holesOK (c ++ metaPieces d.ver d.toDocMeta) = true := by
  refine holesOK_append _ _ ?_ ?_
  · exact contentOf_closed (holesOK · = true) rfl holesOK_append
      (fun m sig r hm hs => hs.holesOK (by rcases hm with rfl | rfl <;> decide +kernel)) hc
  · exact holesOK_of_plain (fun a ha => (docLitsFacts.edges a (List.mem_append_right _ ha)).1)
      (metaPieces_plain d.ver d.toDocMeta)

theorem docPieces_guard (d : DocData) (ps : List Piece) (h : docPieces d = .ok ps) : guardOK ps = true := by
  obtain ⟨c, hc, rfl⟩ := docPieces_eq d ps h
  rw [List.append_assoc]
  refine quotedBy_append _ _ _ (quotedBy_of_noQuote _ _ ?_) (guardOK_of_holesOK (docPieces_holesOK d c hc))
  -- the favicon hole follows `Lit.t1`, which ends with `base64,`
  rw [headPieces_lits]
  exact fun a ha => (docLitsFacts.edges a (List.mem_append_left _ ha)).1

/-! ### the two patterns -/

/-- Occurrences of `"data:` in everything written before the footer (followed by
any bytes `y`): one, plus those of `y`. -/
theorem occ_data_doc (d : DocData) (ps : List Piece) (h : docPieces d = .ok ps) (r : Bytes)
    (hr : renderPieces ps = .ok r) (y : Bytes) : occ patData (r ++ y) = 1 + occ patData y := by
  obtain ⟨hl, hwf⟩ := docPieces_spec d ps h
  have := occ_renderPieces b!"data:" (by decide) docLits (fun a ha => (docLitsFacts.scan a ha).1) ps
    (docPieces_guard d ps h) hl hwf r hr y
  rw [show (34 : UInt8) :: b!"data:" = patData from rfl] at this
  rw [this]
  obtain ⟨c, hc, rfl⟩ := docPieces_eq d ps h
  obtain ⟨c1, _⟩ := contentOf_spec d.ver d.body c hc
  rw [litsOf_append, litsOf_append, List.map_append, List.map_append, List.sum_append, List.sum_append,
    headPieces_lits, docLitsFacts.dataHead,
    sum_map_zero_of_inS _ contentLits _ (fun a ha => docLitsFacts.dataRest a (List.mem_append_left _ ha)) c1,
    sum_map_zero_of_inS _ metaLits _ (fun a ha => docLitsFacts.dataRest a (List.mem_append_right _ ha))
      (metaPieces_lits d.ver d.toDocMeta)]

/-- Occurrences of `"javascript:` before the footer: none. -/
theorem occ_javascript_doc (d : DocData) (ps : List Piece) (h : docPieces d = .ok ps) (r : Bytes)
    (hr : renderPieces ps = .ok r) (y : Bytes) : occ patJavascript (r ++ y) = occ patJavascript y := by
  obtain ⟨hl, hwf⟩ := docPieces_spec d ps h
  have := occ_renderPieces b!"javascript:" (by decide) docLits (fun a ha => (docLitsFacts.scan a ha).2.1) ps
    (docPieces_guard d ps h) hl hwf r hr y
  rw [show (34 : UInt8) :: b!"javascript:" = patJavascript from rfl] at this
  rw [this, sum_map_zero_of_inS _ docLits _ (fun a ha => (docLitsFacts.scan a ha).2.2) hl]
  omega

end PP.Html
