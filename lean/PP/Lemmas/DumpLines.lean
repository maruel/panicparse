import PP.Lemmas.LinePrint
import PP.Lemmas.ReaderLemmas
/-
For C01 (round trip), the printed dump as a list of raw lines — every raw line of a
well-formed dump is newline-terminated and has no other newline, so the reader's
canonical split (`specLines`) of the printed bytes is exactly `dumpRaw`.
-/
namespace PP.Spec
open PP Bytes

theorem tailByte_of_lowerHex {x : UInt8} (h : isLowerHex x = true) : tailByte x = true := by
  simp [tailByte, h]

theorem all_tailByte_of_lowerHex {s : Bytes} (h : s.all isLowerHex = true) : s.all tailByte = true := by
  rw [List.all_eq_true] at *
  intro x hx
  exact tailByte_of_lowerHex (h x hx)

theorem natToHex_all_tailByte (n : Nat) : (natToHex n).all tailByte = true :=
  all_tailByte_of_lowerHex (natToHex_all_lowerHex n)

theorem natToDec_all_tailByte (n : Nat) : (natToDec n).all tailByte = true := by
  have h := natToDec_all_digit n
  rw [List.all_eq_true] at *
  intro x hx
  exact tailByte_of_lowerHex (by simp [isLowerHex, h x hx])

theorem offText_all_tailByte (off : Option Nat) : (offText off).all tailByte = true := by
  cases off with
  | none => rfl
  | some o =>
    unfold offText
    rw [List.all_append, natToHex_all_tailByte]
    decide

theorem fpText_all_tailByte (fp : Option (Nat × Nat × Option Nat)) : (fpText fp).all tailByte = true := by
  rcases fp with _ | ⟨a, b, _ | p⟩
  · rfl
  · simp only [fpText, List.all_append, natToHex_all_tailByte, List.all_nil, Bool.and_true]
    decide
  · simp only [fpText, List.all_append, natToHex_all_tailByte, Bool.and_true]
    decide

theorem tailText_all_tailByte (line : Nat) (off : Option Nat) (fp : Option (Nat × Nat × Option Nat)) :
    (tailText line off fp).all tailByte = true := by
  unfold tailText
  simp only [List.all_append, natToDec_all_tailByte, offText_all_tailByte, fpText_all_tailByte,
    Bool.and_true]
  decide

/-- every byte of the tail of a file line is a lower-hex digit or one of `: +xps=` -/
theorem tailText_bytes (line : Nat) (off : Option Nat) (fp : Option (Nat × Nat × Option Nat)) :
    ∀ x ∈ tailText line off fp, tailByte x = true :=
  List.all_eq_true.1 (tailText_all_tailByte line off fp)

theorem tailText_lacks (line : Nat) (off : Option Nat) (fp : Option (Nat × Nat × Option Nat)) (c : UInt8)
    (h : tailByte c = false) : c ∉ tailText line off fp := by
  intro hm
  rw [tailText_bytes line off fp c hm] at h
  exact Bool.noConfusion h

theorem tailText_ne_nil (line : Nat) (off : Option Nat) (fp : Option (Nat × Nat × Option Nat)) :
    tailText line off fp ≠ [] := by
  unfold tailText
  simp

theorem printGoroutine_eq_flatten (c : PrintCfg) (g : GSpec) :
    printGoroutine c g = (goroutineRaw c g).flatten := by
  unfold printGoroutine goroutineRaw
  rw [List.flatMap_def]
  rfl

theorem printDump_eq_flatten (c : PrintCfg) (d : List GSpec) : printDump c d = (dumpRaw c d).flatten := by
  unfold printDump
  induction d with
  | nil => rfl
  | cons g gs ih =>
    cases gs with
    | nil =>
      show printGoroutine c g = (goroutineRaw c g).flatten
      exact printGoroutine_eq_flatten c g
    | cons g' gs' =>
      show printGoroutine c g ++ c.eol ++ join c.eol ((g' :: gs').map (printGoroutine c)) =
        (goroutineRaw c g ++ [eolOf c.crlf] ++ dumpRaw c (g' :: gs')).flatten
      rw [ih, List.flatten_append, List.flatten_append, printGoroutine_eq_flatten, eol_eq]
      simp

/-- the byte string contains no newline -/
def noNL (l : Bytes) : Prop := (10 : UInt8) ∉ l

instance (l : Bytes) : Decidable (noNL l) := inferInstanceAs (Decidable ((10 : UInt8) ∉ l))

theorem noNL_append_iff {a b : Bytes} : noNL (a ++ b) ↔ noNL a ∧ noNL b := by
  simp only [noNL, List.mem_append, not_or]

theorem noNL_append {a b : Bytes} (ha : noNL a) (hb : noNL b) : noNL (a ++ b) :=
  noNL_append_iff.2 ⟨ha, hb⟩

theorem noNL_nil : noNL [] := List.not_mem_nil

theorem natToDec_noNL (n : Nat) : noNL (natToDec n) := not_mem_natToDec n 10 (by decide)

theorem wordWF_noNL {w : Bytes} (h : wordWF w = true) : noNL w := by
  simp only [wordWF, Bool.and_eq_true] at h
  exact (lacks_iff _ _).1 h.2

/- In the lemmas below a line is a concatenation of literals and of pieces known to be free of newlines:
`simp` splits the concatenation (`noNL_append_iff`) and evaluates the literals. -/

theorem gpmText_noNL (gpm : Option (Bytes × Bytes × Option Bytes)) (h : gpmWF gpm = true) :
    noNL (gpmText gpm) := by
  match gpm, h with
  | none, _ => exact noNL_nil
  | some (gp, m, none), h =>
    simp only [gpmWF, Bool.and_eq_true] at h
    simp (decide := true) only [gpmText, noNL_append_iff, wordWF_noNL h.1.1, wordWF_noNL h.1.2, and_self]
  | some (gp, m, some mp), h =>
    simp only [gpmWF, Bool.and_eq_true] at h
    simp (decide := true) only [gpmText, noNL_append_iff, wordWF_noNL h.1.1, wordWF_noNL h.1.2,
      wordWF_noNL h.2, and_self]

theorem statusText_noNL (g : GSpec) (h : noNL (expState g)) : noNL (statusText g) :=
  statusText_lacks g 10 h rfl (by decide)

theorem headerLine_noNL (g : GSpec) (hst : statusWF g = true) (hgpm : gpmWF g.gpm = true) :
    noNL (headerLine g) := by
  simp (decide := true) only [headerLine, noNL_append_iff, natToDec_noNL, gpmText_noNL _ hgpm,
    statusText_noNL g (statusWF_iff g hst).2.1, and_self]

theorem escapePkg_noNL (p : Bytes) : noNL (escapePkg p) := by
  intro h
  have := (escapePkg_bytes p 10 h).1
  revert this; decide

theorem symbol_noNL (f : FrameSpec) (hn : noNL f.name) : noNL f.symbol := by
  unfold FrameSpec.symbol
  split
  · exact hn
  · simp (decide := true) only [noNL_append_iff, escapePkg_noNL, hn, and_self]

theorem funcLine_noNL (f : FrameSpec) (hn : noNL f.name) : noNL (funcLine f) := by
  have ha : noNL (printArgList f.args f.argsElide) := printArgList_lacks _ _ 10 (by decide)
  unfold funcLine
  split <;> simp (decide := true) only [noNL_append_iff, symbol_noNL f hn, ha, and_self]

theorem fileIndent_noNL {fi : Bytes} (h : FileIndentOK fi) : noNL fi := by
  cases h with
  | tab => decide
  | spaces n =>
    intro hm
    have := (List.mem_replicate.1 hm).2
    revert this; decide

theorem tailText_noNL (line : Nat) (off : Option Nat) (fp : Option (Nat × Nat × Option Nat)) :
    noNL (tailText line off fp) := tailText_lacks line off fp 10 (by decide)

theorem fileText_eq (f : FrameSpec) : fileText f = f.file ++ tailText f.line f.off f.fp := by
  simp [fileText, tailText]

theorem fileLine_noNL (c : PrintCfg) (f : FrameSpec) (hc : CfgOK c) (hf : noNL f.file) :
    noNL (c.fileIndent ++ fileText f) := by
  rw [fileText_eq]
  exact noNL_append (fileIndent_noNL hc.fileIndent) (noNL_append hf (tailText_noNL _ _ _))

theorem marker_noNL (cnt : Option Nat) : noNL (elidedMarker cnt) := by
  cases cnt with
  | none => decide
  | some n => simp (decide := true) only [elidedMarker, noNL_append_iff, natToDec_noNL, and_self]

theorem unavailLine_noNL (c : PrintCfg) (hc : CfgOK c) : noNL (unavailLine c) :=
  noNL_append (fileIndent_noNL hc.fileIndent) (by decide)

theorem parentText_noNL (p : Option Nat) : noNL (parentText p) := by
  cases p with
  | none => exact noNL_nil
  | some n => simp (decide := true) only [parentText, noNL_append_iff, natToDec_noNL, and_self]

/-- the creator's file line has no frame-pointer annotation -/
theorem createdFile_eq (f : FrameSpec) :
    f.file ++ b!":" ++ natToDec f.line ++ offText f.off = f.file ++ tailText f.line f.off none := by
  simp [tailText, fpText]

theorem createdLines_noNL (c : PrintCfg) (cr : Option (FrameSpec × Option Nat)) (hc : CfgOK c)
    (h : ∀ f p, cr = some (f, p) → noNL f.name ∧ noNL f.file) :
    ∀ l ∈ createdLines c cr, noNL l := by
  match cr, h with
  | none, _ => intro l hl; simp [createdLines] at hl
  | some (f, p), h =>
    obtain ⟨hn, hf⟩ := h f p rfl
    intro l hl
    simp only [createdLines, List.mem_cons, List.not_mem_nil, or_false] at hl
    rcases hl with rfl | rfl
    · simp (decide := true) only [noNL_append_iff, symbol_noNL f hn, parentText_noNL, and_self]
    · rw [createdFile_eq]
      exact noNL_append (fileIndent_noNL hc.fileIndent) (noNL_append hf (tailText_noNL _ _ _))

theorem frameLines_noNL (c : PrintCfg) (f : FrameSpec) (hc : CfgOK c) (hn : noNL f.name) (hf : noNL f.file) :
    ∀ l ∈ frameLines c f, noNL l := by
  intro l hl
  simp only [frameLines, List.mem_cons, List.not_mem_nil, or_false] at hl
  rcases hl with hl | hl
  · rw [hl]; exact funcLine_noNL f hn
  · rw [hl]; exact fileLine_noNL c f hc hf

theorem flatMap_frameLines_noNL (c : PrintCfg) (fs : List FrameSpec) (hc : CfgOK c)
    (h : ∀ f ∈ fs, noNL f.name ∧ noNL f.file) :
    ∀ l ∈ fs.flatMap (frameLines c), noNL l := by
  intro l hl
  obtain ⟨f, hf, hlf⟩ := List.mem_flatMap.1 hl
  exact frameLines_noNL c f hc (h f hf).1 (h f hf).2 l hlf

theorem stackLines_noNL (c : PrintCfg) (fs : List FrameSpec) (el : Option (Option Nat × Nat)) (hc : CfgOK c)
    (h : ∀ f ∈ fs, noNL f.name ∧ noNL f.file) :
    ∀ l ∈ stackLines c fs el, noNL l := by
  intro l hl
  unfold stackLines at hl
  split at hl
  · exact flatMap_frameLines_noNL c fs hc h l hl
  · split at hl
    · simp only [List.mem_append, List.mem_singleton] at hl
      rcases hl with (hl | hl) | hl
      · exact flatMap_frameLines_noNL c _ hc (fun f hf => h f (List.mem_of_mem_take hf)) l hl
      · rw [hl]; exact marker_noNL _
      · exact flatMap_frameLines_noNL c _ hc (fun f hf => h f (List.mem_of_mem_drop hf)) l hl
    · exact flatMap_frameLines_noNL c fs hc h l hl

theorem goroutineLines_noNL (c : PrintCfg) (g : GSpec) (hc : CfgOK c) (hg : GOK c g) :
    ∀ l ∈ goroutineLines c g, (10 : UInt8) ∉ l := by
  intro l hl
  unfold goroutineLines at hl
  simp only [List.mem_append, List.mem_singleton] at hl
  rcases hl with (hl | hl) | hl
  · rw [hl]; exact headerLine_noNL g hg.status hg.gpm
  · cases hu : g.unavail with
    | true =>
      rw [hu] at hl
      simp only [if_true, List.mem_singleton] at hl
      rw [hl]; exact unavailLine_noNL c hc
    | false =>
      rw [hu] at hl
      simp only [Bool.false_eq_true, if_false] at hl
      exact stackLines_noNL c g.frames g.elided hc
        (fun f hf => ⟨((hg.frames hu).2.1 f hf).sym.nl, ((hg.frames hu).2.1 f hf).file.nl⟩) l hl
  · exact createdLines_noNL c g.created hc
      (fun f p he => ⟨(hg.created f p he).sym.nl, (hg.created f p he).file.nl⟩) l hl

theorem splitLines_flatten (ls : List Bytes) (h : ∀ l ∈ ls, ∃ x, l = x ++ [10] ∧ (10 : UInt8) ∉ x) :
    splitLines ls.flatten = (ls, []) := by
  induction ls with
  | nil => rfl
  | cons l ls ih =>
    obtain ⟨x, hx, hnl⟩ := h l (List.mem_cons_self ..)
    have ih' := ih (fun l' hl' => h l' (List.mem_cons_of_mem _ hl'))
    rw [List.flatten_cons, hx, splitLines_line_append x ls.flatten hnl, ih']

theorem mem_dumpRaw {c : PrintCfg} {d : List GSpec} {l : Bytes} (h : l ∈ dumpRaw c d) :
    l = eolOf c.crlf ∨ ∃ g ∈ d, ∃ t ∈ goroutineLines c g, l = rawLine c t := by
  induction d with
  | nil => simp [dumpRaw] at h
  | cons g gs ih =>
    have hg : l ∈ goroutineRaw c g → ∃ g' ∈ g :: gs, ∃ t ∈ goroutineLines c g', l = rawLine c t := by
      intro hm
      obtain ⟨t, ht, e⟩ := List.mem_map.1 hm
      exact ⟨g, List.mem_cons_self .., t, ht, e.symm⟩
    cases gs with
    | nil => exact Or.inr (hg h)
    | cons g' gs' =>
      have h' : l ∈ goroutineRaw c g ++ [eolOf c.crlf] ++ dumpRaw c (g' :: gs') := h
      simp only [List.mem_append, List.mem_singleton] at h'
      rcases h' with (h' | h') | h'
      · exact Or.inr (hg h')
      · exact Or.inl h'
      · rcases ih h' with h2 | ⟨g2, hg2, t, ht, e⟩
        · exact Or.inl h2
        · exact Or.inr ⟨g2, List.mem_cons_of_mem _ hg2, t, ht, e⟩

theorem eolLine_line (crlf : Bool) (t : Bytes) (ht : noNL t) :
    ∃ x, t ++ eolOf crlf = x ++ [10] ∧ (10 : UInt8) ∉ x := by
  cases crlf with
  | false => exact ⟨t, rfl, ht⟩
  | true => exact ⟨t ++ [13], by simp [eolOf], noNL_append ht (by decide)⟩

theorem indent_noNL {c : PrintCfg} (hc : CfgOK c) : noNL c.indent :=
  not_mem_of_all hc.indent (by decide)

theorem dumpRaw_lines (c : PrintCfg) (d : List GSpec) (hc : CfgOK c) (hd : ∀ g ∈ d, GOK c g) :
    ∀ l ∈ dumpRaw c d, ∃ x, l = x ++ [10] ∧ (10 : UInt8) ∉ x := by
  intro l hl
  rcases mem_dumpRaw hl with h | ⟨g, hg, t, ht, e⟩
  · rw [h]; exact eolLine_line _ [] noNL_nil
  · rw [e]
    exact eolLine_line _ _ (noNL_append (indent_noNL hc) (goroutineLines_noNL c g hc (hd g hg) t ht))

/-- what the reader yields for a printed dump that runs to EOF -/
theorem specLines_dump (c : PrintCfg) (d : List GSpec) (hc : CfgOK c) (hd : ∀ g ∈ d, GOK c g) :
    specLines (printDump c d) .eof = (dumpRaw c d).map (fun l => (l, none)) ++ [([], some .eof)] := by
  unfold specLines
  rw [printDump_eq_flatten, splitLines_flatten _ (dumpRaw_lines c d hc hd)]

#print axioms specLines_dump
#print axioms goroutineLines_noNL

end PP.Spec
