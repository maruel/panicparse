import PP.Lemmas.RootsLemmas
/-
`isRootedIn` as the least cut of the path whose rest is a file; one iteration of
the loop of `findRoots` as a relation (`StepOutcome`) with the induction rule of
the loop.  Soundness of `findRoots`: every root it records is explained by a
file of the dump and a probe of the file-system oracle that succeeded; no slice
expression is out of range.
-/
namespace PP
open Bytes

/-! ### joining -/

theorem join_cons_ne (sep x : Bytes) {t : List Bytes} (h : t ≠ []) :
    Bytes.join sep (x :: t) = x ++ sep ++ Bytes.join sep t := by
  cases t with
  | nil => exact absurd rfl h
  | cons y ys => rfl

theorem join_append (sep : Bytes) {a b : List Bytes} (ha : a ≠ []) (hb : b ≠ []) :
    Bytes.join sep (a ++ b) = Bytes.join sep a ++ sep ++ Bytes.join sep b := by
  induction a with
  | nil => exact absurd rfl ha
  | cons x t ih =>
    cases t with
    | nil =>
      simp only [List.singleton_append]
      rw [join_cons_ne sep x hb]
      rfl
    | cons y ys =>
      have h1 : (y :: ys) ++ b ≠ [] := by simp
      rw [List.cons_append, join_cons_ne sep x h1, ih (by simp), join_cons_ne sep x (by simp)]
      simp [List.append_assoc]

theorem take_ne_nil {α : Type} {l : List α} {i : Nat} (h1 : 0 < i) (h2 : i < l.length) : l.take i ≠ [] := by
  intro h
  rcases List.take_eq_nil_iff.mp h with rfl | rfl
  · omega
  · simp at h2

theorem pathJoin_take_drop (parts : List Bytes) (i : Nat) (h1 : 0 < i) (h2 : i < parts.length) :
    pathJoin (parts.take i) ++ b!"/" ++ pathJoin (parts.drop i) = pathJoin parts := by
  have hb : parts.drop i ≠ [] := fun h => by rw [List.drop_eq_nil_iff] at h; omega
  have := join_append b!"/" (take_ne_nil h1 h2) hb
  rw [List.take_append_drop] at this
  exact this.symm

/-- `parts[:i]` joined -/
def pfx (ps : List Bytes) (i : Nat) : Bytes := pathJoin (ps.take i)

theorem pfx_succ {ps : List Bytes} {i : Nat} (h1 : 0 < i) (h2 : i < ps.length) :
    pfx ps (i + 1) = pfx ps i ++ 47 :: ps[i] := by
  have e : ps.take (i + 1) = ps.take i ++ [ps[i]] := by
    rw [List.take_add_one, List.getElem?_eq_getElem h2]
    rfl
  unfold pfx pathJoin
  rw [e, join_append b!"/" (take_ne_nil h1 h2) (by simp)]
  simp [Bytes.join]

theorem pfx_dropLast (parts : List Bytes) {i : Nat} (h : i < parts.length) :
    pfx parts.dropLast i = pfx parts i := by
  unfold pfx
  rw [List.dropLast_eq_take, List.take_take, Nat.min_eq_left (by omega)]

theorem mem_tail_getElem {ps : List Bytes} {i : Nat} (h1 : 0 < i) (h2 : i < ps.length) : ps[i] ∈ ps.tail := by
  cases ps with
  | nil => simp at h2
  | cons a t =>
    cases i with
    | zero => omega
    | succ n => simp

/-! ### isRootedIn -/

theorem isRootedIn_cases (fs : FS) (root : Bytes) (parts : List Bytes) :
    (∃ i, 0 < i ∧ i < parts.length ∧ fs.isFile (root ++ b!"/" ++ pathJoin (parts.drop i)) = true ∧
      isRootedIn fs root parts = pathJoin (parts.take i) ∧
      ∀ j, 0 < j → j < i → fs.isFile (root ++ b!"/" ++ pathJoin (parts.drop j)) = false) ∨
    (isRootedIn fs root parts = [] ∧
      ∀ j, 0 < j → j < parts.length → fs.isFile (root ++ b!"/" ++ pathJoin (parts.drop j)) = false) := by
  unfold isRootedIn
  cases hf : (List.range' 1 (parts.length - 1)).find?
      (fun i => fs.isFile (pathJoin [root, pathJoin (parts.drop i)])) with
  | some i =>
    obtain ⟨hp, hm, hmin⟩ := List.find?_range'_eq_some.mp hf
    rw [List.mem_range'_1] at hm
    rw [pathJoin_pair] at hp
    refine Or.inl ⟨i, by omega, by omega, hp, rfl, fun j h1 h2 => ?_⟩
    simpa [pathJoin_pair] using hmin j h1 h2
  | none =>
    refine Or.inr ⟨rfl, fun j h1 h2 => ?_⟩
    simpa [pathJoin_pair] using List.find?_range'_eq_none.mp hf j h1 (by omega)

theorem isRootedIn_spec {fs : FS} {root : Bytes} {parts : List Bytes}
    (h : isRootedIn fs root parts ≠ []) :
    ∃ i, 0 < i ∧ i < parts.length ∧
      fs.isFile (root ++ b!"/" ++ pathJoin (parts.drop i)) = true ∧
      isRootedIn fs root parts = pathJoin (parts.take i) ∧
      ∀ j, 0 < j → j < i → fs.isFile (root ++ b!"/" ++ pathJoin (parts.drop j)) = false :=
  (isRootedIn_cases fs root parts).resolve_right fun h' => h h'.1

theorem isRootedIn_none {fs : FS} {root : Bytes} {parts : List Bytes}
    (h : ∀ j, 0 < j → j < parts.length → fs.isFile (root ++ b!"/" ++ pathJoin (parts.drop j)) = false) :
    isRootedIn fs root parts = [] := by
  rcases isRootedIn_cases fs root parts with ⟨i, h1, h2, hf, _⟩ | h'
  · rw [h i h1 h2] at hf
    cases hf
  · exact h'.1

theorem isRootedIn_first {fs : FS} {root : Bytes} {parts : List Bytes} {i : Nat}
    (h1 : 0 < i) (h2 : i < parts.length)
    (hf : fs.isFile (root ++ b!"/" ++ pathJoin (parts.drop i)) = true)
    (hmin : ∀ j, 0 < j → j < i → fs.isFile (root ++ b!"/" ++ pathJoin (parts.drop j)) = false) :
    isRootedIn fs root parts = pathJoin (parts.take i) := by
  rcases isRootedIn_cases fs root parts with ⟨i', h1', _, hf', e, hmin'⟩ | h'
  · have : i' = i := by
      rcases Nat.lt_trichotomy i' i with hlt | heq | hgt
      · rw [hmin i' h1' hlt] at hf'; cases hf'
      · exact heq
      · rw [hmin' i h1 hgt] at hf; cases hf
    rw [e, this]
  · rw [h'.2 i h1 h2] at hf
    cases hf

section
variable {fs : FS}

/-- The probe under `root` answers `R ++ dir` when the parts of the path are
`pR ++ pDir ++ pRel` with `pR` joined `= R`, `pDir` joined `= dir` (`src`, or
`pkg`,`mod`), the rest exists under `root`, and no proper suffix of the path
longer than the rest does (`noSpurious`). -/
theorem isRootedIn_of_present {root R : Bytes} {parts pR pDir pRel : List Bytes}
    (hsplit : parts = pR ++ pDir ++ pRel) (hR : pR ≠ []) (hD : pDir ≠ []) (hRel : pRel ≠ [])
    (hroot : pathJoin pR = R)
    (present : fs.isFile (root ++ b!"/" ++ pathJoin pRel) = true)
    (noSpurious : ∀ j, 0 < j → j < pR.length + pDir.length →
      fs.isFile (root ++ b!"/" ++ pathJoin (parts.drop j)) = false) :
    isRootedIn fs root parts = R ++ b!"/" ++ pathJoin pDir := by
  have hlen : parts.length = pR.length + pDir.length + pRel.length := by
    rw [hsplit]; simp; omega
  have hl1 : 0 < pR.length := List.length_pos_iff.mpr hR
  have hl3 : 0 < pRel.length := List.length_pos_iff.mpr hRel
  have hdrop : parts.drop (pR.length + pDir.length) = pRel := by
    rw [hsplit]; exact List.drop_left' (by simp)
  have htake : parts.take (pR.length + pDir.length) = pR ++ pDir := by
    rw [hsplit]; exact List.take_left' (by simp)
  rw [isRootedIn_first (i := pR.length + pDir.length) (by omega) (by omega)
    (by rw [hdrop]; exact present) noSpurious, htake]
  unfold pathJoin at hroot ⊢
  rw [join_append b!"/" hR hD, hroot]

end

/-! ### suffix test -/

/-- `strings.HasSuffix(r, suf)` makes `r[:len(r)-len(suf)]` a valid slice -/
theorem length_le_of_hasSuffix {r suf : Bytes} (h : hasSuffix r suf = true) : suf.length ≤ r.length := by
  simp only [hasSuffix, Bool.and_eq_true, decide_eq_true_eq] at h
  exact h.1

theorem take_append_of_hasSuffix {r suf : Bytes} (h : hasSuffix r suf = true) :
    r.take (r.length - suf.length) ++ suf = r := by
  obtain ⟨a, rfl⟩ := (hasSuffix_iff _ _).mp h
  simp

theorem hasSuffix_nil_false {suf : Bytes} (h : suf ≠ []) : hasSuffix [] suf = false := by
  cases suf with
  | nil => exact absurd rfl h
  | cons x t => simp [hasSuffix]

/-- A root key `k` found by a probe under the local directory `loc`: `k ++ suf`
(`suf` is `/src` or `/pkg/mod`) is `parts[:i]` joined for a proper, non-empty
prefix of the parts of `f`, and `parts[i:]` joined is a file under `loc`. -/
def RootWitness (fs : FS) (f loc suf k : Bytes) : Prop :=
  ∃ i, 0 < i ∧ i < (splitPath f).length ∧ k ++ suf = pathJoin ((splitPath f).take i) ∧
    fs.isFile (loc ++ b!"/" ++ pathJoin ((splitPath f).drop i)) = true

theorem RootWitness.prefix {fs : FS} {f loc suf k : Bytes} (h : RootWitness fs f loc suf k) :
    ∃ rel, pathJoin (splitPath f) = k ++ suf ++ b!"/" ++ rel ∧
      fs.isFile (loc ++ b!"/" ++ rel) = true := by
  obtain ⟨i, h1, h2, e, hf⟩ := h
  exact ⟨pathJoin ((splitPath f).drop i), by rw [e, pathJoin_take_drop _ i h1 h2], hf⟩

theorem rootWitness_of_isRootedIn {fs : FS} {f loc suf : Bytes} (hsuf : suf ≠ [])
    (h : hasSuffix (isRootedIn fs loc (splitPath f)) suf = true) :
    RootWitness fs f loc suf
      ((isRootedIn fs loc (splitPath f)).take ((isRootedIn fs loc (splitPath f)).length - suf.length)) := by
  have hne : isRootedIn fs loc (splitPath f) ≠ [] := by
    intro e
    rw [e, hasSuffix_nil_false hsuf] at h
    exact absurd h (by simp)
  obtain ⟨i, h1, h2, hfile, hr, _⟩ := isRootedIn_spec hne
  exact ⟨i, h1, h2, by rw [take_append_of_hasSuffix h, hr], hfile⟩

/-! ### the loop over the local GOPATHs -/

theorem srcDir_ne : srcDir ≠ [] := by decide
theorem pkgmodDir_ne : pkgmodDir ≠ [] := by decide

/-- One local GOPATH of the loop.  The slices `r[:len(r)-len(suf)]` are taken after
`strings.HasSuffix(r, suf)`, so the out-of-range branches of the model are never taken. -/
theorem findGopath_cons (fs : FS) (parts : List Bytes) (l : Bytes) (ls : List Bytes) :
    findGopath fs parts (l :: ls) =
      if hasSuffix (isRootedIn fs (l ++ srcDir) parts) srcDir then
        .ok (some ((isRootedIn fs (l ++ srcDir) parts).take
          ((isRootedIn fs (l ++ srcDir) parts).length - srcDir.length), l))
      else if hasSuffix (isRootedIn fs (l ++ pkgmodDir) parts) pkgmodDir then
        .ok (some ((isRootedIn fs (l ++ pkgmodDir) parts).take
          ((isRootedIn fs (l ++ pkgmodDir) parts).length - pkgmodDir.length), l))
      else findGopath fs parts ls := by
  rw [findGopath]
  dsimp only
  by_cases h1 : hasSuffix (isRootedIn fs (l ++ srcDir) parts) srcDir = true
  · rw [if_pos h1, if_pos h1, if_neg (Nat.not_lt.mpr (length_le_of_hasSuffix h1))]
  · rw [if_neg h1, if_neg h1]
    by_cases h2 : hasSuffix (isRootedIn fs (l ++ pkgmodDir) parts) pkgmodDir = true
    · rw [if_pos h2, if_pos h2, if_neg (Nat.not_lt.mpr (length_le_of_hasSuffix h2))]
    · rw [if_neg h2, if_neg h2]

theorem findGopath_spec {fs : FS} {f : Bytes} {lgs : List Bytes} {k l : Bytes}
    (h : findGopath fs (splitPath f) lgs = .ok (some (k, l))) :
    l ∈ lgs ∧ (RootWitness fs f (l ++ srcDir) srcDir k ∨ RootWitness fs f (l ++ pkgmodDir) pkgmodDir k) := by
  induction lgs with
  | nil => cases h
  | cons a t ih =>
    rw [findGopath_cons] at h
    split at h
    · rename_i h1
      cases h
      exact ⟨List.mem_cons_self, Or.inl (rootWitness_of_isRootedIn srcDir_ne h1)⟩
    · split at h
      · rename_i h1
        cases h
        exact ⟨List.mem_cons_self, Or.inr (rootWitness_of_isRootedIn pkgmodDir_ne h1)⟩
      · exact ⟨List.mem_cons_of_mem _ (ih h).1, (ih h).2⟩

/-- the slice expressions of the GOPATH loop are in range -/
theorem findGopath_ok (fs : FS) (parts lgs : List Bytes) : ∃ o, findGopath fs parts lgs = .ok o := by
  induction lgs with
  | nil => exact ⟨none, rfl⟩
  | cons a t ih =>
    rw [findGopath_cons]
    split
    · exact ⟨_, rfl⟩
    · split
      · exact ⟨_, rfl⟩
      · exact ih

theorem take_append_length (a b : Bytes) : (a ++ b).take ((a ++ b).length - b.length) = a := by
  simp

theorem findGopath_src_hit {fs : FS} {parts : List Bytes} {L R : Bytes} (rest : List Bytes)
    (h : isRootedIn fs (L ++ srcDir) parts = R ++ srcDir) :
    findGopath fs parts (L :: rest) = .ok (some (R, L)) := by
  rw [findGopath_cons, h, hasSuffix_append, if_pos rfl, take_append_length]

theorem findGopath_pkgmod_hit {fs : FS} {parts : List Bytes} {L R : Bytes} (rest : List Bytes)
    (hq : hasSuffix (isRootedIn fs (L ++ srcDir) parts) srcDir = false)
    (h : isRootedIn fs (L ++ pkgmodDir) parts = R ++ pkgmodDir) :
    findGopath fs parts (L :: rest) = .ok (some (R, L)) := by
  rw [findGopath_cons, hq, h, hasSuffix_append, if_neg (by decide), if_pos rfl, take_append_length]

/-! ### isGoModule -/

theorem isGoModuleGo_spec {fs : FS} {parts : List Bytes} {n : Nat} {cache cache' : List Bytes}
    {root m : Bytes} (h : isGoModuleGo fs parts n cache = (cache', root, m)) (hr : root ≠ []) :
    ∃ i b, 0 < i ∧ i ≤ n ∧ root = pathJoin (parts.take i) ∧
      fs.readFile (pathJoin [root, b!"go.mod"]) = some b ∧ reModule b = some m := by
  induction n generalizing cache with
  | zero =>
    simp only [isGoModuleGo, Prod.mk.injEq] at h
    exact absurd h.2.1.symm hr
  | succ i ih =>
    simp only [isGoModuleGo] at h
    split at h
    · simp only [Prod.mk.injEq] at h
      exact absurd h.2.1.symm hr
    · split at h
      · obtain ⟨j, b, h1, h2, h3⟩ := ih h
        exact ⟨j, b, h1, by omega, h3⟩
      · rename_i b hb
        split at h
        · rename_i m' hm
          simp only [Prod.mk.injEq] at h
          obtain ⟨_, rfl, rfl⟩ := h
          exact ⟨i + 1, b, by omega, Nat.le_refl _, rfl, hb, hm⟩
        · obtain ⟨j, b', h1, h2, h3⟩ := ih h
          exact ⟨j, b', h1, by omega, h3⟩

/-! ### the invariant of the loop of findRoots -/

def GopathOK (fs : FS) (lgs files : List Bytes) (kv : Bytes × Bytes) : Prop :=
  kv.2 ∈ lgs ∧ ∃ f ∈ files,
    RootWitness fs f (kv.2 ++ srcDir) srcDir kv.1 ∨ RootWitness fs f (kv.2 ++ pkgmodDir) pkgmodDir kv.1

def GomodOK (fs : FS) (files : List Bytes) (kv : Bytes × Bytes) : Prop :=
  ∃ f ∈ files,
    (∃ i b, 0 < i ∧ i < (splitPath f).length ∧ kv.1 = pathJoin ((splitPath f).take i) ∧
        fs.readFile (pathJoin [kv.1, b!"go.mod"]) = some b ∧ reModule b = some kv.2) ∨
    (fs.isFile f = true ∧ kv.1 = pathDir f ∧ kv.2 = b!"main")

structure Sound (fs : FS) (lg : Bytes) (lgs files : List Bytes) (g0 : Bytes) (st : RootsState) : Prop where
  goroot : st.goroot = g0 ∨ ∃ f ∈ files, RootWitness fs f (lg ++ srcDir) srcDir st.goroot
  gopaths : ∀ kv ∈ st.gopaths, GopathOK fs lgs files kv
  gomods : ∀ kv ∈ st.gomods, GomodOK fs files kv

theorem findModule_spec {fs : FS} {cache parts : List Bytes} (hr : (findModule fs cache parts).2.1 ≠ []) :
    ∃ i b, 0 < i ∧ i < parts.length ∧ (findModule fs cache parts).2.1 = pathJoin (parts.take i) ∧
      fs.readFile (pathJoin [(findModule fs cache parts).2.1, b!"go.mod"]) = some b ∧
      reModule b = some (findModule fs cache parts).2.2 := by
  unfold findModule at hr ⊢
  split
  · rename_i hlen
    simp only [hlen, if_true] at hr
    obtain ⟨i, b, h1, h2, h3, h4, h5⟩ :=
      isGoModuleGo_spec (fs := fs) (parts := parts.dropLast)
        (n := parts.dropLast.length) (cache := cache) rfl hr
    simp only [List.length_dropLast] at h2
    exact ⟨i, b, h1, by omega, h3.trans (pfx_dropLast parts (by omega)), h4, h5⟩
  · rename_i hlen
    simp [hlen] at hr

/-! ### one iteration, case by case -/

theorem gorootProbe_suffix {fs : FS} {lg : Bytes} {st : RootsState} {parts : List Bytes} :
    hasSuffix (gorootProbe fs lg st parts) srcDir = true ↔
      st.goroot = [] ∧ hasSuffix (isRootedIn fs (lg ++ srcDir) parts) srcDir = true := by
  unfold gorootProbe
  by_cases hg : st.goroot = []
  · simp [hg]
  · simp [hg, hasSuffix_nil_false srcDir_ne]

theorem gorootProbe_of_nil {fs : FS} {lg : Bytes} {st : RootsState} {parts : List Bytes} (hg : st.goroot = []) :
    gorootProbe fs lg st parts = isRootedIn fs (lg ++ srcDir) parts := by
  simp [gorootProbe, hg]

/-- the tests under which an iteration passes over the file: it lies under a root already recorded -/
def skips (st : RootsState) (f : Bytes) : Bool :=
  (st.goroot != [] && hasPrefix f (st.goroot ++ srcSep)) || hasSrcPrefix f st.gopaths || mapHasPrefix f st.gomods

theorem findRootsStep_eq (fs : FS) (lg : Bytes) (lgs : List Bytes) (st : RootsState) (f : Bytes) :
    findRootsStep fs lg lgs st f = if skips st f then .ok st else findRootsDisk fs lg lgs st f := by
  unfold findRootsStep skips
  cases (st.goroot != [] && hasPrefix f (st.goroot ++ srcSep)) <;> cases hasSrcPrefix f st.gopaths <;>
    cases mapHasPrefix f st.gomods <;> rfl

theorem findRootsMod_cases (fs : FS) (st : RootsState) (f : Bytes) (parts : List Bytes) :
    ((findModule fs st.cache parts).2.1 ≠ [] ∧ findRootsMod fs st f parts =
      { st with cache := (findModule fs st.cache parts).1,
                gomods := st.gomods.insert (findModule fs st.cache parts).2.1 (findModule fs st.cache parts).2.2 }) ∨
    ((findModule fs st.cache parts).2.1 = [] ∧ fs.isFile f = true ∧ findRootsMod fs st f parts =
      { st with cache := (findModule fs st.cache parts).1, gomods := st.gomods.insert (pathDir f) b!"main" }) ∨
    ((findModule fs st.cache parts).2.1 = [] ∧ fs.isFile f = false ∧ findRootsMod fs st f parts =
      { st with cache := (findModule fs st.cache parts).1, missing := st.missing + 1 }) := by
  unfold findRootsMod
  by_cases hr : (findModule fs st.cache parts).2.1 = []
  · cases hf : fs.isFile f <;> simp [hr]
  · simp [hr]

/-- What one iteration does to the state: nothing, or what one of the probes found. -/
inductive StepOutcome (fs : FS) (lg : Bytes) (lgs : List Bytes) (st : RootsState) (f : Bytes) : RootsState → Prop
  | skip (hs : skips st f = true) : StepOutcome fs lg lgs st f st
  | goroot (hg : st.goroot = []) (hr : hasSuffix (isRootedIn fs (lg ++ srcDir) (splitPath f)) srcDir = true) :
      StepOutcome fs lg lgs st f { st with goroot := ((isRootedIn fs (lg ++ srcDir) (splitPath f)).take
        ((isRootedIn fs (lg ++ srcDir) (splitPath f)).length - srcDir.length)) }
  | gopath (k l : Bytes) (hs : skips st f = false) (hq : hasSuffix (gorootProbe fs lg st (splitPath f)) srcDir = false)
      (hg : findGopath fs (splitPath f) lgs = .ok (some (k, l))) :
      StepOutcome fs lg lgs st f { st with gopaths := st.gopaths.insert k l }
  | mod (hs : skips st f = false) (hq : hasSuffix (gorootProbe fs lg st (splitPath f)) srcDir = false)
      (hg : findGopath fs (splitPath f) lgs = .ok none) :
      StepOutcome fs lg lgs st f (findRootsMod fs st f (splitPath f))

theorem findRootsStep_outcome {fs : FS} {lg : Bytes} {lgs : List Bytes} {st st' : RootsState} {f : Bytes}
    (h : findRootsStep fs lg lgs st f = .ok st') : StepOutcome fs lg lgs st f st' := by
  rw [findRootsStep_eq] at h
  split at h
  · cases h; exact .skip ‹_›
  · rename_i hs
    unfold findRootsDisk at h
    split at h
    · rename_i hr
      obtain ⟨hg, hr'⟩ := gorootProbe_suffix.mp hr
      rw [gorootProbe_of_nil hg, if_neg (Nat.not_lt.mpr (length_le_of_hasSuffix hr'))] at h
      cases h
      exact .goroot hg hr'
    · rename_i hq
      split at h
      · cases h
      · cases h; exact .gopath _ _ (by simpa using hs) (by simpa using hq) ‹_›
      · cases h; exact .mod (by simpa using hs) (by simpa using hq) ‹_›

theorem findRootsLoop_induct {fs : FS} {lg : Bytes} {lgs : List Bytes} {P : RootsState → Prop} (todo : List Bytes)
    (hstep : ∀ f ∈ todo, ∀ st st', P st → findRootsStep fs lg lgs st f = .ok st' → P st')
    {st st' : RootsState} (h0 : P st) (h : findRootsLoop fs lg lgs st todo = .ok st') : P st' := by
  induction todo generalizing st with
  | nil => cases h; exact h0
  | cons f t ih =>
    rw [findRootsLoop] at h
    split at h
    · cases h
    · rename_i st1 h1
      exact ih (fun x hx => hstep x (List.mem_cons_of_mem _ hx)) (hstep f List.mem_cons_self _ _ h0 h1) h

/-! ### soundness -/

theorem findRootsMod_sound {fs : FS} {lg : Bytes} {lgs files : List Bytes} {g0 f : Bytes} {st : RootsState}
    (hs : Sound fs lg lgs files g0 st) (hf : f ∈ files) :
    Sound fs lg lgs files g0 (findRootsMod fs st f (splitPath f)) := by
  rcases findRootsMod_cases fs st f (splitPath f) with ⟨hr, e⟩ | ⟨_, hfile, e⟩ | ⟨_, _, e⟩ <;> rw [e]
  · refine ⟨hs.goroot, hs.gopaths, fun kv hkv => ?_⟩
    rcases AMap.mem_insert hkv with rfl | hkv
    · exact ⟨f, hf, Or.inl (findModule_spec hr)⟩
    · exact hs.gomods kv hkv
  · refine ⟨hs.goroot, hs.gopaths, fun kv hkv => ?_⟩
    rcases AMap.mem_insert hkv with rfl | hkv
    · exact ⟨f, hf, Or.inr ⟨hfile, rfl, rfl⟩⟩
    · exact hs.gomods kv hkv
  · exact ⟨hs.goroot, hs.gopaths, hs.gomods⟩

theorem findRootsStep_sound {fs : FS} {lg : Bytes} {lgs files : List Bytes} {g0 f : Bytes} {st st' : RootsState}
    (hs : Sound fs lg lgs files g0 st) (hf : f ∈ files)
    (h : findRootsStep fs lg lgs st f = .ok st') : Sound fs lg lgs files g0 st' := by
  cases findRootsStep_outcome h with
  | skip => exact hs
  | goroot _ hr => exact ⟨Or.inr ⟨f, hf, rootWitness_of_isRootedIn srcDir_ne hr⟩, hs.gopaths, hs.gomods⟩
  | gopath k l _ _ hg =>
    refine ⟨hs.goroot, fun kv hkv => ?_, hs.gomods⟩
    rcases AMap.mem_insert hkv with rfl | hkv
    · exact ⟨(findGopath_spec hg).1, f, hf, (findGopath_spec hg).2⟩
    · exact hs.gopaths kv hkv
  | mod => exact findRootsMod_sound hs hf

theorem findRootsLoop_sound {fs : FS} {lg : Bytes} {lgs files : List Bytes} {g0 : Bytes}
    (todo : List Bytes) (hsub : ∀ f ∈ todo, f ∈ files) {st st' : RootsState}
    (hs : Sound fs lg lgs files g0 st)
    (h : findRootsLoop fs lg lgs st todo = .ok st') : Sound fs lg lgs files g0 st' :=
  findRootsLoop_induct todo (fun f hf _ _ hs h => findRootsStep_sound hs (hsub f hf) h) hs h

/-! ### no slice out of range -/

theorem findRootsStep_ok (fs : FS) (lg : Bytes) (lgs : List Bytes) (st : RootsState) (f : Bytes) :
    ∃ st', findRootsStep fs lg lgs st f = .ok st' := by
  rw [findRootsStep_eq]
  split
  · exact ⟨_, rfl⟩
  · unfold findRootsDisk
    split
    · rename_i hr
      rw [if_neg (Nat.not_lt.mpr (length_le_of_hasSuffix hr))]
      exact ⟨_, rfl⟩
    · obtain ⟨o, ho⟩ := findGopath_ok fs (splitPath f) lgs
      rw [ho]
      cases o <;> exact ⟨_, rfl⟩

theorem findRootsLoop_ok (fs : FS) (lg : Bytes) (lgs : List Bytes) (st : RootsState) (todo : List Bytes) :
    ∃ st', findRootsLoop fs lg lgs st todo = .ok st' := by
  induction todo generalizing st with
  | nil => exact ⟨st, rfl⟩
  | cons f t ih =>
    obtain ⟨st1, h1⟩ := findRootsStep_ok fs lg lgs st f
    simp only [findRootsLoop, h1]
    exact ih st1

/-! ### getFiles -/

theorem mem_insertUniq {a x : Bytes} {l : List Bytes} : x ∈ insertUniq a l ↔ x = a ∨ x ∈ l := by
  induction l with
  | nil => simp [insertUniq]
  | cons b t ih =>
    simp only [insertUniq]
    split
    · rename_i hab
      simp only [beq_iff_eq] at hab
      subst hab
      simp
    · split
      · simp
      · simp only [List.mem_cons, ih]
        exact or_left_comm

theorem mem_foldr_insertUniq {x : Bytes} {l : List Bytes} : x ∈ l.foldr insertUniq [] ↔ x ∈ l := by
  induction l with
  | nil => simp
  | cons a t ih => simp [List.foldr, mem_insertUniq, ih]

/-- the files examined are exactly the source paths of the stack frames -/
theorem mem_getFiles {gs : List Goroutine} {f : Bytes} :
    f ∈ getFiles gs ↔ ∃ g ∈ gs, ∃ c ∈ g.sig.stack.calls, c.remoteSrcPath = f := by
  simp [getFiles, mem_foldr_insertUniq, List.mem_flatMap]

end PP
