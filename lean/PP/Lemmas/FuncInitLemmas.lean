import PP.Model.Scan
import PP.Lemmas.ScanStep
import PP.Lemmas.PrintLemmas
/-
Func.Init never hits a slice-bounds panic (C03, section 2).  The name is unescaped with
`url.PathUnescape` (model `pathUnescape`: `%XX` only); a `.` is not a hex digit, so
cutting the raw name at a `.` never cuts an escape in two (`qu_split`).
-/
namespace PP
open Bytes

theorem pathUnescape_cons (c : UInt8) (t : Bytes) (h37 : c ≠ 37) :
    pathUnescape (c :: t) = (pathUnescape t).map (fun u => c :: u) := by
  rw [pathUnescape.eq_5]
  all_goals (intros; contradiction)

theorem pathUnescape_pct (a b : UInt8) (t : Bytes) :
    pathUnescape (37 :: a :: b :: t) =
      if isHex a && isHex b then (pathUnescape t).map (fun u => (hexVal a * 16 + hexVal b).toUInt8 :: u) else none := by
  simp only [pathUnescape]

theorem isHex_dot : isHex 46 = false := by decide

theorem qu_split (a b c : Bytes) (h : pathUnescape (a ++ 46 :: b) = some c) :
    ∃ a' b', pathUnescape a = some a' ∧ c = a' ++ 46 :: b' := by
  fun_induction pathUnescape a generalizing c
  · rw [List.nil_append, pathUnescape_cons _ _ (by decide)] at h
    cases hq : pathUnescape b with
    | none => simp [hq] at h
    | some b' => 
      simp [hq] at h
      exact ⟨[], b', rfl, by simp [h]⟩
  · rename_i x y rest hxy ih
    rw [List.cons_append, List.cons_append, List.cons_append, pathUnescape_pct, if_pos hxy] at h
    cases hq : pathUnescape (rest ++ 46 :: b) with
    | none => simp [hq] at h
    | some c' =>
      obtain ⟨a', b', h1, h2⟩ := ih c' hq
      simp [hq] at h
      exact ⟨(hexVal x * 16 + hexVal y).toUInt8 :: a', b', by simp [h1], by simp [← h, h2]⟩
  · rename_i x y rest hxy
    rw [List.cons_append, List.cons_append, List.cons_append, pathUnescape_pct, if_neg hxy] at h
    cases h
  · cases b with
    | nil => simp [pathUnescape] at h
    | cons y b =>
      simp only [List.cons_append, List.nil_append] at h
      rw [pathUnescape_pct] at h
      simp [isHex_dot] at h
  · simp only [List.cons_append, List.nil_append] at h
    rw [pathUnescape_pct] at h
    simp [isHex_dot] at h
  · rename_i x rest n1 n2 n3 ih
    have h37 : x ≠ 37 := by
      intro hx
      match rest with
      | [] => exact n2 hx rfl
      | [y] => exact n3 y hx rfl
      | y :: z :: r => exact n1 y z r hx rfl
    rw [List.cons_append, pathUnescape_cons _ _ h37] at h
    cases hq : pathUnescape (rest ++ 46 :: b) with
    | none => simp [hq] at h
    | some c' =>
      obtain ⟨a', b', h1, h2⟩ := ih c' hq
      simp [hq] at h
      exact ⟨x :: a', b', by simp [h1], by simp [← h, h2]⟩

theorem funcFinish_slice {c : Bytes} {ep : Option Nat} (h : funcFinish c ep = .error .slice) :
    ∃ e, ep = some e ∧ ¬ (e + 1 ≤ c.length) := by
  unfold funcFinish at h
  cases ep with
  | none => simp at h
  | some e =>
    refine ⟨e, rfl, ?_⟩
    intro hle
    simp [hle] at h

/-- the part of `Func.Init` after `endPkg` is known cannot hit a slice panic when
`endPkg` points at a '.' of the raw name -/
theorem funcInit_tail_no_slice (raw complete : Bytes) (e : Nat)
    (hq : pathUnescape raw = some complete)
    (hdot : raw[e]? = some 46) :
    funcFinish complete
      (if e > 0 then
          match pathUnescape (raw.take e) with
          | some pkg => some pkg.length
          | none => some e
        else some e) ≠ .error .slice := by
  intro h
  obtain ⟨e', he', hnb⟩ := funcFinish_slice h
  have hsplit := eq_take_cons_drop hdot
  rw [hsplit] at hq
  obtain ⟨a', b', h1, h2⟩ := qu_split _ _ _ hq
  split at he'
  · rw [h1] at he'
    dsimp only at he'
    cases he'
    apply hnb
    rw [h2]; simp
  · rename_i he0
    cases he'
    apply hnb
    rw [h2]; simp; omega

theorem funcInit_ne_slice (raw : Bytes) : funcInit raw ≠ .error .slice := by
  unfold funcInit
  cases hq : pathUnescape raw with
  | none =>
    cases hl : lastIndexByte raw 47 with
    | none => simp
    | some ls =>
      cases hi : indexByte (raw.drop (ls + 1)) 46 <;> simp [hi]
  | some complete =>
    cases hl : lastIndexByte raw 47 with
    | none =>
      dsimp only
      cases hi : indexByte raw 46 with
      | none =>
        intro h
        obtain ⟨_, he, _⟩ := funcFinish_slice h
        cases he
      | some e => exact funcInit_tail_no_slice raw complete e hq (indexByte_getElem? hi)
    | some ls =>
      cases hi : indexByte (raw.drop (ls + 1)) 46 with
      | none => simp [hi]
      | some r =>
        simp only [hi]
        refine funcInit_tail_no_slice raw complete _ hq ?_
        have := indexByte_getElem? hi
        rw [List.getElem?_drop] at this
        rw [← this]; congr 1; omega

theorem parseFunc_ne_funcSlice (line : Bytes) (c : Call) (e : Err)
    (h : parseFunc line = some (c, some e)) : e ≠ .funcSlice := by
  unfold parseFunc at h
  split at h
  · cases h
  · rename_i name args _
    split at h
    · rename_i fe hfe
      simp only [Option.some.injEq, Prod.mk.injEq] at h
      obtain ⟨_, rfl⟩ := h
      cases fe with
      | slice => exact absurd hfe (funcInit_ne_slice name)
      | noDot => simp [Err.ofFErr]
      | escape => simp [Err.ofFErr]
    · split at h
      · rename_i ae _
        simp only [Option.some.injEq, Prod.mk.injEq] at h
        obtain ⟨_, rfl⟩ := h
        cases ae <;> simp [Err.ofArgErr]
      · simp at h

theorem created_ne_funcSlice (t : Bytes) :
    (matchCreated t).map (fun n => match funcInit n with
      | .ok f => (.ok f : Except Err Func) | .error e => .error (Err.ofFErr e)) ≠ some (.error .funcSlice) := by
  intro h
  simp only [Option.map_eq_some_iff] at h
  obtain ⟨n, _, hn⟩ := h
  split at hn
  · cases hn
  · rename_i fe hfe
    cases fe with
    | slice => exact absurd hfe (funcInit_ne_slice n)
    | noDot => cases hn
    | escape => cases hn

/-- none of the errors a line carries is the slice panic -/
def LineNoSlice (l : Line) : Prop :=
  (∀ c e, l.func = some (c, some e) → e ≠ .funcSlice) ∧
  (∀ c e, l.funcL = some (c, some e) → e ≠ .funcSlice) ∧
  (∀ e, l.created = some (.error e) → e ≠ .funcSlice) ∧
  (∀ e, l.raceOp = some (.error e) → e ≠ .funcSlice) ∧
  (∀ e, l.racePrev = some (.error e) → e ≠ .funcSlice)

theorem parseRaceOp_ne_funcSlice (m : Option (Bytes × Bytes × Bytes)) (w : Bytes) (e : Err)
    (h : parseRaceOp m w = some (.error e)) : e ≠ .funcSlice := by
  unfold parseRaceOp at h
  split at h
  · cases h
  · split at h
    · cases h; decide
    · split at h
      · cases h; decide
      · cases h

theorem classify_lineNoSlice (pfx raw : Bytes) : LineNoSlice (classify pfx raw) := by
  unfold classify
  generalize stripEOL raw = p
  obtain ⟨trimmed, e⟩ := p
  dsimp only
  generalize (if (trimmed.length != 0 && pfx.length != 0) = true then
      if hasPrefix trimmed pfx = true then (true, List.drop pfx.length trimmed) else (false, trimmed)
    else (true, trimmed)) = q
  obtain ⟨i, t⟩ := q
  exact ⟨fun c e h => parseFunc_ne_funcSlice _ c e h, fun c e h => parseFunc_ne_funcSlice _ c e h,
    fun e h he => created_ne_funcSlice t (he ▸ h),
    fun e h => parseRaceOp_ne_funcSlice _ _ e h, fun e h => parseRaceOp_ne_funcSlice _ _ e h⟩

theorem classify_created_ne_funcSlice (pfx raw : Bytes) :
    (classify pfx raw).created ≠ some (.error .funcSlice) :=
  fun h => (classify_lineNoSlice pfx raw).2.2.1 _ h rfl

/-- the errors the state machine itself produces; every other error comes with the line -/
def machineErrs : List Err :=
  [.indent, .funcAfterHeader, .fileAfterFunc, .fileAfterCreated, .fileInt, .emptyAfterUnavail, .raceExpected,
   .raceFunc, .raceFile, .raceEmptyAfterFile, .raceUnknownGoroutine, .raceId, .raceOpOrGoroutine, .raceFuncOrFile]

/-- the error is one of those the classifier attached to the line -/
def Line.carries (l : Line) (e : Err) : Prop :=
  (∃ c, l.func = some (c, some e)) ∨ (∃ c, l.funcL = some (c, some e)) ∨ l.created = some (.error e) ∨
    l.raceOp = some (.error e) ∨ l.racePrev = some (.error e)

theorem funcStep_err {s s' : S} {r : Option (Call × Option Err)} {next : St} {orElse : R} {p} {e : Err}
    (h : funcStep s r next orElse = .ok (s', p, some e)) :
    (∃ c, r = some (c, some e)) ∨ orElse = .ok (s', p, some e) := by
  unfold funcStep at h
  split at h
  · split at h
    · cases h
    · cases h; exact Or.inl ⟨_, rfl⟩
  · exact Or.inr h

theorem fileStep_err {s s' : S} {l : Line} {next : St} {orElse : Err} {p} {e : Err}
    (h : fileStep s l next orElse = .ok (s', p, some e)) : e = .fileInt ∨ e = orElse := by
  unfold fileStep at h
  split at h
  · cases h
  · split at h
    · split at h <;> cases h
    · cases h; exact Or.inl rfl
    · cases h; exact Or.inr rfl

theorem raceGorStep_err {s s' : S} {l : Line} {p} {e : Err}
    (h : raceGorStep s l = .ok (s', p, some e)) : e ∈ machineErrs := by
  unfold raceGorStep at h
  split at h
  · split at h
    · split at h <;> cases h
    · cases h; decide
  · cases h; decide
  · cases h; decide

theorem raceFuncStep_err {s s' : S} {l : Line} {p} {e : Err}
    (h : raceFuncStep s l = .ok (s', p, some e)) : (∃ c, l.funcL = some (c, some e)) ∨ e = .raceFuncOrFile := by
  unfold raceFuncStep at h
  split at h
  · rename_i c e' hf
    split at h
    · cases h; exact Or.inl ⟨_, hf⟩
    · cases h
  · cases h; exact Or.inr rfl
theorem createdStep_err {s s' : S} {r : Except Err Func} {b : Bool} {p} {e : Err}
    (h : createdStep s r b = .ok (s', p, some e)) : r = .error e := by
  unfold createdStep at h
  split at h
  · dsimp only at h
    split at h <;> cases h
  · split at h
    · cases h
    · cases h; rfl

theorem scan_err_source {s s' : S} {l : Line} {p : Bool} {e : Err} (h : scan s l = .ok (s', p, some e)) :
    l.carries e ∨ e ∈ machineErrs := by
  rcases scan_early s l with h0 | h0 | ⟨hi, he⟩
  · rw [h0] at h; cases h
  · rw [h0] at h; cases h; exact Or.inr (by decide)
  · cases hs : s.st
    case looking =>
      rw [scan_looking hs (he.resolve_right fun h => h.1 hs) hi] at h
      split at h
      · cases h
      · split at h <;> cases h
    case done => rw [scan_done hs hi] at h; cases h
    case betweenRoutine =>
      rw [scan_betweenRoutine hs hi] at h
      split at h <;> cases h
    case gotRoutineHeader =>
      rw [scan_gotRoutineHeader hs hi] at h
      split at h
      · split at h <;> cases h
      · split at h
        · split at h
          · cases h
          · cases h; exact Or.inr (by decide)
        · rcases funcStep_err h with ⟨c, hc⟩ | h
          · exact Or.inl (Or.inl ⟨c, hc⟩)
          · cases h; exact Or.inr (by decide)
    case gotFunc =>
      rw [scan_gotFunc hs hi] at h
      rcases fileStep_err h with rfl | rfl <;> exact Or.inr (by decide)
    case gotCreated =>
      rw [scan_gotCreated hs hi] at h
      split at h
      · cases h
      · split at h
        · split at h <;> cases h
        · cases h; exact Or.inr (by decide)
        · cases h; exact Or.inr (by decide)
    case gotFileFunc =>
      rw [scan_gotFileFunc hs hi] at h
      split at h
      · rename_i r hr
        rw [createdStep_err h] at hr
        exact Or.inl (Or.inr (Or.inr (Or.inl hr)))
      · split at h
        · split at h <;> cases h
        · rcases funcStep_err h with ⟨c, hc⟩ | h
          · exact Or.inl (Or.inl ⟨c, hc⟩)
          · split at h <;> cases h
    case gotFileCreated =>
      rw [scan_gotFileCreated hs hi] at h
      split at h <;> cases h
    case gotUnavail =>
      rw [scan_gotUnavail hs hi] at h
      split at h
      · cases h
      · split at h
        · rename_i r hr
          rw [createdStep_err h] at hr
          exact Or.inl (Or.inr (Or.inr (Or.inl hr)))
        · cases h; exact Or.inr (by decide)
    case gotRaceHeader1 =>
      rw [scan_gotRaceHeader1 hs hi] at h
      split at h <;> cases h
    case gotRaceHeader2 =>
      rw [scan_gotRaceHeader2 hs hi] at h
      split at h
      · split at h <;> cases h
      · rename_i e' he'; cases h; exact Or.inl (Or.inr (Or.inr (Or.inr (Or.inl he'))))
      · cases h; exact Or.inr (by decide)
    case gotRaceOperationHeader =>
      rw [scan_gotRaceOperationHeader hs hi] at h
      rcases funcStep_err h with ⟨c, hc⟩ | h
      · exact Or.inl (Or.inr (Or.inl ⟨c, hc⟩))
      · cases h; exact Or.inr (by decide)
    case gotRaceOperationFunc =>
      rw [scan_gotRaceOperationFunc hs hi] at h
      rcases fileStep_err h with rfl | rfl <;> exact Or.inr (by decide)
    case gotRaceOperationFile =>
      rw [scan_gotRaceOperationFile hs hi] at h
      split at h
      · cases h
      · rcases funcStep_err h with ⟨c, hc⟩ | h
        · exact Or.inl (Or.inr (Or.inl ⟨c, hc⟩))
        · cases h; exact Or.inr (by decide)
    case betweenRaceOperations =>
      rw [scan_betweenRaceOperations hs hi] at h
      split at h
      · cases h
      · rename_i e' he'; cases h; exact Or.inl (Or.inr (Or.inr (Or.inr (Or.inr he'))))
      · exact Or.inr (raceGorStep_err h)
    case betweenRaceGoroutines =>
      rw [scan_betweenRaceGoroutines hs hi] at h
      exact Or.inr (raceGorStep_err h)
    case gotRaceGoroutineFunc =>
      rw [scan_gotRaceGoroutineFunc hs hi] at h
      split at h
      · split at h
        · cases h
        · split at h
          · cases h
          · cases h; exact Or.inr (by decide)
          · cases h; exact Or.inr (by decide)
      · cases h
    case gotRaceGoroutineFile =>
      rw [scan_gotRaceGoroutineFile hs hi] at h
      split at h
      · cases h
      · split at h
        · cases h
        · rcases raceFuncStep_err h with ⟨c, hc⟩ | rfl
          · exact Or.inl (Or.inr (Or.inl ⟨c, hc⟩))
          · exact Or.inr (by decide)
    case gotRaceGoroutineHeader =>
      rw [scan_gotRaceGoroutineHeader hs hi] at h
      rcases raceFuncStep_err h with ⟨c, hc⟩ | rfl
      · exact Or.inl (Or.inr (Or.inl ⟨c, hc⟩))
      · exact Or.inr (by decide)

theorem scan_err_ne_funcSlice' (s : S) (l : Line) (s' : S) (p : Bool) (e : Err)
    (hl : LineNoSlice l) (h : scan s l = .ok (s', p, some e)) : e ≠ .funcSlice := by
  rcases scan_err_source h with (⟨c, hc⟩ | ⟨c, hc⟩ | hc | hc | hc) | hm
  · exact hl.1 c e hc
  · exact hl.2.1 c e hc
  · exact hl.2.2.1 e hc
  · exact hl.2.2.2.1 e hc
  · exact hl.2.2.2.2 e hc
  · intro he
    subst he
    revert hm
    decide

end PP
