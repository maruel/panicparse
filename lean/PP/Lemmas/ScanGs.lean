import PP.Lemmas.ScanStep
/-
What one step of `scan` does to the goroutine list: nothing, or it appends a goroutine without
frames, or it rewrites the last goroutine, or (race reports) the goroutine under the cursor `gi`;
and the nine rewritings there are.  Facts about all goroutines the scanner ever holds (their
arguments, their ids, which of them a step can touch) follow from this one statement.
-/
namespace PP
open Bytes

/-- the ways `scan` rewrites one goroutine -/
inductive Edit
  /-- a frame of the stack -/
  | call (c : Call)
  /-- `goroutine running on other thread; stack unavailable` -/
  | unavail
  /-- the source position of the last frame -/
  | file (pl : Bytes × Nat)
  | elided
  /-- `created by`: one frame, or none when the function name does not parse -/
  | created (cs : List Call)
  /-- the source position of the `created by` frame -/
  | createdFile (pl : Bytes × Nat)
  /-- race report: `Goroutine N (state) created at:` -/
  | state (stt : Bytes)
  /-- race report: a frame of the creation stack -/
  | createdCall (c : Call)
  /-- race report: the source position of the last frame of the creation stack -/
  | createdFileLast (pl : Bytes × Nat)

def Edit.apply : Edit → Goroutine → Goroutine
  | .call c, g => setStack g (fun st => { st with calls := st.calls ++ [c] })
  | .unavail, g => setStack g (fun st => { st with calls := [{ remoteSrcPath := b!"<unavailable>" }] })
  | .file pl, g => setStack g (fun st => { st with calls := (initLast st.calls pl).getD st.calls })
  | .elided, g => setStack g (fun st => { st with elided := true })
  | .created cs, g => setCreated g (fun st => { st with calls := cs })
  | .createdFile pl, g => setCreated g (fun st =>
      { st with calls := match st.calls with | c :: cs => c.init pl.1 pl.2 :: cs | [] => [] })
  | .state stt, g => { g with sig := { g.sig with state := stt } }
  | .createdCall c, g => setCreated g (fun st => { st with calls := st.calls ++ [c] })
  | .createdFileLast pl, g => setCreated g (fun st => { st with calls := (initLast st.calls pl).getD st.calls })

/-- where the calls of an edit come from: the line, or they have no arguments -/
def Edit.FromLine (l : Line) : Edit → Prop
  | .call c => ∃ e, l.func = some (c, e) ∨ l.funcL = some (c, e)
  | .createdCall c => ∃ e, l.funcL = some (c, e)
  | .created cs => ∀ c ∈ cs, c.args = {}
  | _ => True

/-- how a successful step changes the goroutine list and the race cursor -/
inductive GsEffect (s : S) (l : Line) (s' : S) : Prop
  | keep (hgs : s'.gs = s.gs) (hgi : s'.gi = s.gi)
  | push (g : Goroutine) (hgs : s'.gs = s.gs ++ [g]) (hst : g.sig.stack.calls = [])
      (hcr : g.sig.createdBy.calls = [])
  | last (init : List Goroutine) (g : Goroutine) (ed : Edit) (hed : ed.FromLine l)
      (hgs : s.gs = init ++ [g]) (hgs' : s'.gs = init ++ [ed.apply g]) (hgi : s'.gi = s.gi)
  /-- only in the race-report states (numbered from 9) -/
  | at (ed : Edit) (hed : ed.FromLine l) (hr : 9 ≤ s.st.toNat) (hi : s'.gi < s.gs.length)
      (hgs' : s'.gs = s.gs.set s'.gi (ed.apply s.gs[s'.gi]))

theorem Call.init_args (c : Call) (p : Bytes) (n : Nat) : (c.init p n).args = c.args := by
  unfold Call.init
  dsimp only
  split
  · split <;> split <;> (try split) <;> rfl
  · rfl

private theorem funcStep_gsEffect {s : S} {l : Line} {r : Option (Call × Option Err)} (next : St) (e0 : Err)
    (hr : r = l.func ∨ r = l.funcL) :
    WhenOk (funcStep s r next (.ok (s, false, some e0))) fun s' _ _ => GsEffect s l s' :=
  funcStep_whenOk (whenOk_ok (.keep rfl rfl)) fun init g c e hgs hc =>
    .last init g (.call c) ⟨e, hr.imp (fun h => h.symm.trans hc) (fun h => h.symm.trans hc)⟩ hgs rfl rfl

private theorem createdStep_gsEffect {s : S} {l : Line} (r : Except Err Func) (doInit : Bool) :
    WhenOk (createdStep s r doInit) fun s' _ _ => GsEffect s l s' :=
  createdStep_whenOk
    (fun init g f hgs => .last init g (.created _)
      (by intro c hc; cases doInit <;> simp at hc <;> subst hc <;> first | rfl | exact Call.init_args _ _ _)
      hgs rfl rfl)
    (fun init g _ hgs => .last init g (.created []) (fun _ h => nomatch h) hgs rfl rfl)

theorem scan_gsEffect {s s' : S} {l : Line} {b : Bool} {e : Option Err} (h : scan s l = .ok (s', b, e)) :
    GsEffect s l s' := by
  refine (?_ : WhenOk (scan s l) fun s' _ _ => GsEffect s l s') s' b e h
  rcases scan_early s l with h0 | h0 | ⟨hi, he⟩
  · rw [h0]; exact whenOk_ok (.keep rfl rfl)
  · rw [h0]; exact whenOk_ok (.keep rfl rfl)
  have hkeep : ∀ e : Err, GsEffect s l s := fun _ => .keep rfl rfl
  have hlast : ∀ (ed : Edit), ed.FromLine l → ∀ (st' : St) (b : Bool) (e : Option Err),
      WhenOk (match modifyLast s.gs ed.apply with
        | none => .error .nilCur
        | some gs => .ok ({ s with st := st', gs := gs }, b, e)) fun s' _ _ => GsEffect s l s' :=
    fun ed hed st' b e => modifyLast_whenOk (k := fun gs => ({ s with st := st', gs := gs }, b, e))
      fun init g hgs => .last init g ed hed hgs rfl rfl
  have hat : ∀ (ed : Edit), ed.FromLine l → 9 ≤ s.st.toNat → ∀ (i : Nat) (hlt : i < s.gs.length) (st' : St),
      GsEffect s l { s with st := st', gs := s.gs.set i (ed.apply s.gs[i]), gi := i } :=
    fun ed hed hr i hlt st' => .at ed hed hr hlt rfl
  cases hs : s.st
  case looking =>
    rw [scan_looking hs (he.resolve_right fun h => h.1 hs) hi]
    split
    · exact whenOk_ok (.push _ rfl rfl rfl)
    · split <;> exact whenOk_ok (.keep rfl rfl)
  case done => rw [scan_done hs hi]; exact whenOk_ok (.keep rfl rfl)
  case betweenRoutine =>
    rw [scan_betweenRoutine hs hi]
    split
    · exact whenOk_ok (.push _ rfl rfl rfl)
    · exact whenOk_ok (.keep rfl rfl)
  case gotRoutineHeader =>
    rw [scan_gotRoutineHeader hs hi]
    split
    · exact hlast .unavail trivial _ _ _
    · split
      · split
        · exact whenOk_error
        · exact whenOk_ok (.keep rfl rfl)
      · exact funcStep_gsEffect _ _ (Or.inl rfl)
  case gotFunc =>
    rw [scan_gotFunc hs hi]
    exact fileStep_whenOk (fun init g pl hgs _ => .last init g (.file pl) trivial hgs rfl rfl) hkeep
  case gotCreated =>
    rw [scan_gotCreated hs hi]
    split
    · exact whenOk_error
    · split
      · rename_i pl _
        exact hlast (.createdFile pl) trivial _ _ _
      · exact whenOk_ok (.keep rfl rfl)
      · exact whenOk_ok (.keep rfl rfl)
  case gotFileFunc =>
    rw [scan_gotFileFunc hs hi]
    split
    · exact createdStep_gsEffect _ _
    · split
      · exact hlast .elided trivial _ _ _
      · refine funcStep_whenOk ?_ fun init g c e hgs hc => .last init g (.call c) ⟨e, Or.inl hc⟩ hgs rfl rfl
        split <;> exact whenOk_ok (.keep rfl rfl)
  case gotFileCreated =>
    rw [scan_gotFileCreated hs hi]
    split <;> exact whenOk_ok (.keep rfl rfl)
  case gotUnavail =>
    rw [scan_gotUnavail hs hi]
    split
    · exact whenOk_ok (.keep rfl rfl)
    · split
      · exact createdStep_gsEffect _ _
      · exact whenOk_ok (.keep rfl rfl)
  case gotRaceHeader1 =>
    rw [scan_gotRaceHeader1 hs hi]
    split <;> exact whenOk_ok (.keep rfl rfl)
  case gotRaceHeader2 =>
    rw [scan_gotRaceHeader2 hs hi]
    split
    · split
      · exact whenOk_error
      · rename_i hemp
        have h0 : s.gs = [] := by simpa using hemp
        exact whenOk_ok (.push _ (by rw [h0]; rfl) rfl rfl)
    · exact whenOk_ok (.keep rfl rfl)
    · exact whenOk_ok (.keep rfl rfl)
  case gotRaceOperationHeader =>
    rw [scan_gotRaceOperationHeader hs hi]
    exact funcStep_gsEffect _ _ (Or.inr rfl)
  case gotRaceOperationFunc =>
    rw [scan_gotRaceOperationFunc hs hi]
    exact fileStep_whenOk (fun init g pl hgs _ => .last init g (.file pl) trivial hgs rfl rfl) hkeep
  case gotRaceOperationFile =>
    rw [scan_gotRaceOperationFile hs hi]
    split
    · exact whenOk_ok (.keep rfl rfl)
    · exact funcStep_gsEffect _ _ (Or.inr rfl)
  case betweenRaceOperations =>
    rw [scan_betweenRaceOperations hs hi]
    split
    · exact whenOk_ok (.push _ rfl rfl rfl)
    · exact whenOk_ok (.keep rfl rfl)
    · exact raceGorStep_whenOk (fun _ stt i hlt _ _ => hat (.state stt) trivial (by rw [hs]; decide) i hlt _) hkeep
  case betweenRaceGoroutines =>
    rw [scan_betweenRaceGoroutines hs hi]
    exact raceGorStep_whenOk (fun _ stt i hlt _ _ => hat (.state stt) trivial (by rw [hs]; decide) i hlt _) hkeep
  case gotRaceGoroutineHeader =>
    rw [scan_gotRaceGoroutineHeader hs hi]
    exact raceFuncStep_whenOk (fun c e hlt hc => hat (.createdCall c) ⟨e, hc⟩ (by rw [hs]; decide) _ hlt _) hkeep
  case gotRaceGoroutineFunc =>
    rw [scan_gotRaceGoroutineFunc hs hi]
    split
    · rename_i hlt
      split
      · exact whenOk_error
      · split
        · rename_i pl _
          exact whenOk_ok (hat (.createdFileLast pl) trivial (by rw [hs]; decide) _ hlt _)
        · exact whenOk_ok (.keep rfl rfl)
        · exact whenOk_ok (.keep rfl rfl)
    · exact whenOk_error
  case gotRaceGoroutineFile =>
    rw [scan_gotRaceGoroutineFile hs hi]
    split
    · exact whenOk_ok (.keep rfl rfl)
    · split
      · exact whenOk_ok (.keep rfl rfl)
      · exact raceFuncStep_whenOk
          (fun c e hlt hc => hat (.createdCall c) ⟨e, hc⟩ (by rw [hs]; decide) _ hlt _) hkeep

theorem Edit.apply_id (ed : Edit) (g : Goroutine) : (ed.apply g).id = g.id := by cases ed <;> rfl

/-- every frame of the goroutine satisfies `P` (stack) resp. `Q` (creation stack) on its arguments -/
def Goroutine.Args (P Q : List Arg → Prop) (g : Goroutine) : Prop :=
  (∀ c ∈ g.sig.stack.calls, P c.args.values) ∧ ∀ c ∈ g.sig.createdBy.calls, Q c.args.values

private theorem args_initLast {P : List Arg → Prop} {cs : List Call} (h : ∀ c ∈ cs, P c.args.values)
    (pl : Bytes × Nat) : ∀ c ∈ (initLast cs pl).getD cs, P c.args.values := by
  by_cases hcs : cs = []
  · rw [hcs]; exact fun _ h => nomatch h
  · obtain ⟨init, c0, rfl⟩ := exists_snoc_of_ne_nil hcs
    rw [initLast_snoc]
    obtain ⟨h1, h2⟩ := List.forall_mem_append.mp h
    exact List.forall_mem_append.mpr ⟨h1, List.forall_mem_singleton.mpr (by rw [Call.init_args]; exact h2 c0 (by simp))⟩

private theorem args_snoc {P : List Arg → Prop} {cs : List Call} (h : ∀ c ∈ cs, P c.args.values)
    {c0 : Call} (h0 : P c0.args.values) : ∀ c ∈ cs ++ [c0], P c.args.values :=
  List.forall_mem_append.mpr ⟨h, List.forall_mem_singleton.mpr h0⟩

theorem Edit.apply_args {P Q : List Arg → Prop} {l : Line} (hP : P []) (hQ : Q [])
    (hl : ∀ c e, l.func = some (c, e) ∨ l.funcL = some (c, e) → P c.args.values ∧ Q c.args.values)
    {ed : Edit} (hed : ed.FromLine l) {g : Goroutine} (hg : g.Args P Q) : (ed.apply g).Args P Q := by
  cases ed with
  | call c => obtain ⟨e, he⟩ := hed; exact ⟨args_snoc hg.1 (hl c e he).1, hg.2⟩
  | unavail => exact ⟨fun c hc => by rw [List.mem_singleton.mp hc]; exact hP, hg.2⟩
  | file pl => exact ⟨args_initLast hg.1 pl, hg.2⟩
  | elided => exact hg
  | created cs => exact ⟨hg.1, fun c hc => by rw [hed c hc]; exact hQ⟩
  | createdFile pl =>
    refine ⟨hg.1, ?_⟩
    have h2 := hg.2
    show ∀ c ∈ (match g.sig.createdBy.calls with | c :: cs => c.init pl.1 pl.2 :: cs | [] => []), _
    generalize g.sig.createdBy.calls = cs0 at h2 ⊢
    cases cs0 with
    | nil => exact h2
    | cons c0 cs =>
      intro c hc
      rcases List.mem_cons.mp hc with hc | hc
      · rw [hc, Call.init_args]; exact h2 c0 (by simp)
      · exact h2 c (List.mem_cons_of_mem _ hc)
  | state stt => exact hg
  | createdCall c => obtain ⟨e, he⟩ := hed; exact ⟨hg.1, args_snoc hg.2 (hl c e (Or.inr he)).2⟩
  | createdFileLast pl => exact ⟨hg.1, args_initLast hg.2 pl⟩

/-- `scan` keeps every property of argument lists that holds of `[]` and of the calls of the line -/
theorem scan_allArgs {P Q : List Arg → Prop} {s s' : S} {l : Line} {b : Bool} {e : Option Err}
    (hP : P []) (hQ : Q [])
    (hl : ∀ c e, l.func = some (c, e) ∨ l.funcL = some (c, e) → P c.args.values ∧ Q c.args.values)
    (hs : ∀ g ∈ s.gs, g.Args P Q) (h : scan s l = .ok (s', b, e)) : ∀ g ∈ s'.gs, g.Args P Q := by
  cases scan_gsEffect h with
  | keep hgs => rw [hgs]; exact hs
  | push g hgs hst hcr =>
    rw [hgs]
    exact List.forall_mem_append.mpr ⟨hs, List.forall_mem_singleton.mpr
      ⟨by rw [hst]; exact fun _ h => (nomatch h), by rw [hcr]; exact fun _ h => (nomatch h)⟩⟩
  | last init g ed hed hgs hgs' =>
    rw [hgs']
    obtain ⟨h1, h2⟩ := List.forall_mem_append.mp (hgs ▸ hs)
    exact List.forall_mem_append.mpr ⟨h1, List.forall_mem_singleton.mpr (Edit.apply_args hP hQ hl hed (h2 g (by simp)))⟩
  | «at» ed hed _ hi hgs' =>
    rw [hgs']
    intro g' hg'
    rcases List.mem_or_eq_of_mem_set hg' with hg' | hg'
    · exact hs g' hg'
    · rw [hg']
      exact Edit.apply_args hP hQ hl hed (hs _ (List.getElem_mem hi))

end PP
