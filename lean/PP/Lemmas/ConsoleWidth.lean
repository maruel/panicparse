import PP.Lemmas.RuneCount
import PP.Spec.Console
/-
Widths: the maxima computed by calcLengths bound every frame, and padded
columns have a fixed rune count.
-/
namespace PP.Console
open PP PP.Bytes

theorem calcCallsLengths_cons (pf : PathFormat) (acc : Nat × Nat) (c : Call) (cs : List Call) :
    calcCallsLengths pf acc (c :: cs) =
      calcCallsLengths pf
        (if (formatCall pf c).length > acc.1 then (formatCall pf c).length else acc.1,
         if c.fn.dirName.length > acc.2 then c.fn.dirName.length else acc.2) cs := rfl

theorem le_ite_max (a b : Nat) : a ≤ (if b > a then b else a) ∧ b ≤ (if b > a then b else a) := by
  split
  · next h => exact ⟨Nat.le_of_lt h, Nat.le_refl b⟩
  · next h => exact ⟨Nat.le_refl a, Nat.le_of_not_gt h⟩

/-- the inner fold is a running maximum: the result bounds the start value and every call -/
theorem calcCallsLengths_bounds (pf : PathFormat) (calls : List Call) : ∀ (acc : Nat × Nat),
    (acc.1 ≤ (calcCallsLengths pf acc calls).1 ∧ acc.2 ≤ (calcCallsLengths pf acc calls).2) ∧
    ∀ c ∈ calls, (formatCall pf c).length ≤ (calcCallsLengths pf acc calls).1 ∧
      c.fn.dirName.length ≤ (calcCallsLengths pf acc calls).2 := by
  induction calls with
  | nil => exact fun acc => ⟨⟨Nat.le_refl _, Nat.le_refl _⟩, nofun⟩
  | cons x t ih =>
    intro acc
    rw [calcCallsLengths_cons]
    have m1 := le_ite_max acc.1 (formatCall pf x).length
    have m2 := le_ite_max acc.2 x.fn.dirName.length
    obtain ⟨⟨h1, h2⟩, ht⟩ := ih (if (formatCall pf x).length > acc.1 then (formatCall pf x).length else acc.1,
       if x.fn.dirName.length > acc.2 then x.fn.dirName.length else acc.2)
    refine ⟨⟨Nat.le_trans m1.1 h1, Nat.le_trans m2.1 h2⟩, fun c hc => ?_⟩
    rcases List.mem_cons.1 hc with rfl | hc
    · exact ⟨Nat.le_trans m1.2 h1, Nat.le_trans m2.2 h2⟩
    · exact ht c hc

theorem calcLengths_foldl_bounds (pf : PathFormat) : ∀ (sigs : List Signature) (acc : Nat × Nat),
    (acc.1 ≤ (sigs.foldl (fun a s => calcCallsLengths pf a s.stack.calls) acc).1 ∧
      acc.2 ≤ (sigs.foldl (fun a s => calcCallsLengths pf a s.stack.calls) acc).2) ∧
    ∀ s ∈ sigs, ∀ c ∈ s.stack.calls,
      (formatCall pf c).length ≤ (sigs.foldl (fun a s => calcCallsLengths pf a s.stack.calls) acc).1 ∧
      c.fn.dirName.length ≤ (sigs.foldl (fun a s => calcCallsLengths pf a s.stack.calls) acc).2
  | [], acc => ⟨⟨Nat.le_refl _, Nat.le_refl _⟩, nofun⟩
  | x :: t, acc => by
    obtain ⟨⟨a1, a2⟩, hx⟩ := calcCallsLengths_bounds pf x.stack.calls acc
    obtain ⟨⟨h1, h2⟩, ht⟩ := calcLengths_foldl_bounds pf t (calcCallsLengths pf acc x.stack.calls)
    refine ⟨⟨Nat.le_trans a1 h1, Nat.le_trans a2 h2⟩, fun s hs c hc => ?_⟩
    rcases List.mem_cons.1 hs with rfl | hs
    · exact ⟨Nat.le_trans (hx c hc).1 h1, Nat.le_trans (hx c hc).2 h2⟩
    · exact ht s hs c hc

/-- every frame of every signature fits the widths computed by calcLengths (in bytes) -/
theorem calcLengths_mem (pf : PathFormat) (sigs : List Signature) (s : Signature) (c : Call)
    (hs : s ∈ sigs) (hc : c ∈ s.stack.calls) :
    (formatCall pf c).length ≤ (calcLengths pf sigs).1 ∧ c.fn.dirName.length ≤ (calcLengths pf sigs).2 :=
  (calcLengths_foldl_bounds pf sigs (0, 0)).2 s hs c hc

theorem padRight_eq (w : Nat) (s : Bytes) : padRight w s = s ++ List.replicate (w - runeCount s) 32 := rfl

theorem fmtPadRight_eq (w : Nat) (s : Bytes) (hw : w ≤ fmtMaxWidth) : fmtPadRight w s = padRight w s := by
  unfold fmtPadRight
  rw [if_neg (by omega)]

theorem runeCount_padRight (w : Nat) (s : Bytes) (h : runeCount s ≤ w) : runeCount (padRight w s) = w := by
  rw [padRight_eq, runeCount_append_spaces]; omega

theorem runeCount_padRight_space (w : Nat) (s : Bytes) (h : runeCount s ≤ w) :
    runeCount (padRight w s ++ [32]) = w + 1 := by
  have : padRight w s ++ [32] = s ++ List.replicate (w - runeCount s + 1) 32 := by
    rw [padRight_eq, List.append_assoc, List.replicate_succ']
  rw [this, runeCount_append_spaces]; omega

theorem runeCount_indent (x : Bytes) : runeCount (b!"    " ++ x) = 4 + runeCount x := by
  show runeCount (32 :: 32 :: 32 :: 32 :: x) = _
  rw [runeCount_ascii_cons _ _ (by decide), runeCount_ascii_cons _ _ (by decide),
    runeCount_ascii_cons _ _ (by decide), runeCount_ascii_cons _ _ (by decide)]
  omega

end PP.Console
