import PP.Spec.Grammar
/-
For section 5 of C07: the reference automaton `Spec.step` recognises exactly the documented grammar
(both of `PP/Spec/Grammar.lean`).
-/
namespace PP
namespace Spec
open Kind GState

theorem run_append (q : GState) (a b : List Kind) :
    run q (a ++ b) = (run q a).bind (fun q' => run q' b) := by
  induction a generalizing q with
  | nil => rfl
  | cons k a ih =>
    simp only [List.cons_append, run]
    cases step q k with
    | none => rfl
    | some q' => exact ih q'

theorem run_append_of {q q' : GState} {a : List Kind} (h : run q a = some q') (b : List Kind) :
    run q (a ++ b) = run q' b := by
  rw [run_append, h]; rfl

/-! ### soundness: every sentence of the grammar is accepted -/

theorem run_frames {fs : List Kind} (h : Frames fs) : run hdr fs = some frames := by
  induction h with
  | first => rfl
  | elided _ ih => rw [run_append_of ih]; rfl
  | frame _ ih => rw [run_append_of ih]; rfl

/-- the states in which a goroutine is complete -/
def GEnd (q : GState) : Prop := q = unav ∨ q = frames ∨ q = crf

theorem GEnd.blank {q : GState} (h : GEnd q) : step q blank = some gap := by
  rcases h with rfl | rfl | rfl <;> rfl

theorem GEnd.accepting {q : GState} (h : GEnd q) : acceptingDump q = true := by
  rcases h with rfl | rfl | rfl <;> rfl

theorem run_G {g : List Kind} (h : G g) :
    ∃ q, GEnd q ∧ run start g = some q ∧ run gap g = some q := by
  cases h with
  | unavail hc =>
    cases hc with
    | none => exact ⟨unav, Or.inl rfl, rfl, rfl⟩
    | some => exact ⟨crf, Or.inr (Or.inr rfl), rfl, rfl⟩
  | stack hf hc =>
    -- from `start` and from `gap` the header leads to `hdr`, and the frames from there to `frames`
    have h : ∀ c, run hdr (_ ++ c) = run frames c := run_append_of (run_frames hf)
    cases hc with
    | none => exact ⟨frames, Or.inr (Or.inl rfl), h [], h []⟩
    | some => exact ⟨crf, Or.inr (Or.inr rfl), h _, h _⟩

theorem run_Gs {gs : List Kind} (h : Gs gs) : ∃ q, GEnd q ∧ run start gs = some q := by
  induction h with
  | one hg =>
    obtain ⟨q, h1, h2, _⟩ := run_G hg
    exact ⟨q, h1, h2⟩
  | more _ hg ih =>
    obtain ⟨q, h1, h2⟩ := ih
    obtain ⟨q', g1, _, g3⟩ := run_G hg
    refine ⟨q', g1, ?_⟩
    rw [run_append_of h2]
    simp only [run, h1.blank]
    exact g3

theorem dump_accepted {ks : List Kind} (h : Dump ks) :
    ∃ q, run start ks = some q ∧ acceptingDump q = true := by
  cases h with
  | plain hg =>
    obtain ⟨q, h1, h2⟩ := run_Gs hg
    exact ⟨q, h2, h1.accepting⟩
  | trailing hg =>
    obtain ⟨q, h1, h2⟩ := run_Gs hg
    refine ⟨gap, ?_, rfl⟩
    rw [run_append_of h2]
    simp only [run, h1.blank]
    rfl

theorem run_stack {s : List Kind} (h : RaceStack s) :
    run opH s = some opS ∧ run opS s = some opS ∧ run goH s = some goS ∧ run goS s = some goS := by
  induction h with
  | one => exact ⟨rfl, rfl, rfl, rfl⟩
  | more _ ih =>
    obtain ⟨i1, i2, i3, i4⟩ := ih
    exact ⟨by rw [run_append_of i1]; rfl, by rw [run_append_of i2]; rfl,
      by rw [run_append_of i3]; rfl, by rw [run_append_of i4]; rfl⟩

theorem run_ops {o : List Kind} (h : Ops o) : run start o = some opS := by
  induction h with
  | first hs => exact (run_stack hs).1
  | prev _ hs ih => rw [run_append_of ih]; exact (run_stack hs).1

theorem run_gors {g : List Kind} (h : Gors g) : run start g = some goS := by
  induction h with
  | first ho hs => rw [run_append_of (run_ops ho)]; exact (run_stack hs).2.2.1
  | more _ hs ih => rw [run_append_of ih]; exact (run_stack hs).2.2.1

theorem race_accepted {ks : List Kind} (h : Race ks) : run start ks = some fin := by
  cases h with
  | mk hg => rw [run_append_of (run_gors hg)]; rfl

/-! ### completeness: what the automaton has read when it is in state `q` -/

/-- at a goroutine boundary: nothing read, or complete goroutines and the separating blank line -/
def Bnd (p : List Kind) : Prop := p = [] ∨ ∃ gs, Gs gs ∧ p = gs ++ [blank]

/-- a goroutine read up to state `q` -/
def Part : GState → List Kind → Prop
  | hdr, x => x = [header]
  | unav, x => x = [header, unavail]
  | fn, x => x = [header, func] ∨ ∃ fs, Frames fs ∧ x = header :: fs ++ [func]
  | frames, x => ∃ fs, Frames fs ∧ x = header :: fs
  | cr, x => x = [header, unavail, created] ∨ ∃ fs, Frames fs ∧ x = header :: fs ++ [created]
  | crf, x => x = [header, unavail, created, file] ∨ ∃ fs, Frames fs ∧ x = header :: fs ++ [created, file]
  | _, _ => False

/-- a stack read up to (and including) a function line -/
def SF (x : List Kind) : Prop := x = [func] ∨ ∃ s, RaceStack s ∧ x = s ++ [func]

/-- an operation header and what precedes it -/
def OpHd (h : List Kind) : Prop := h = [sep, warn, raceOp] ∨ ∃ o, Ops o ∧ h = o ++ [blank, racePrev]

/-- a race goroutine header and what precedes it -/
def GoHd (h : List Kind) : Prop := ∃ b, (Ops b ∨ Gors b) ∧ h = b ++ [blank, raceGor]

/-- the lines read from `start` when the automaton is in state `q` -/
def Pre : GState → List Kind → Prop
  | start, ks => ks = []
  | gap, ks => ∃ gs, Gs gs ∧ ks = gs ++ [blank]
  | r1, ks => ks = [sep]
  | r2, ks => ks = [sep, warn]
  | opH, ks => OpHd ks
  | opF, ks => ∃ h x, OpHd h ∧ SF x ∧ ks = h ++ x
  | opS, ks => ∃ h s, OpHd h ∧ RaceStack s ∧ ks = h ++ s
  | gapO, ks => ∃ o, Ops o ∧ ks = o ++ [blank]
  | goH, ks => GoHd ks
  | goF, ks => ∃ h x, GoHd h ∧ SF x ∧ ks = h ++ x
  | goS, ks => ∃ h s, GoHd h ∧ RaceStack s ∧ ks = h ++ s
  | gapG, ks => ∃ g, Gors g ∧ ks = g ++ [blank]
  | fin, ks => Race ks
  | q, ks => ∃ p x, Bnd p ∧ Part q x ∧ ks = p ++ x

theorem bnd_G {p x : List Kind} (hb : Bnd p) (hg : G x) : Gs (p ++ x) := by
  rcases hb with rfl | ⟨gs, hgs, rfl⟩
  · exact Gs.one hg
  · rw [List.append_assoc]; exact Gs.more hgs hg

theorem part_G {q : GState} {x : List Kind} (hq : GEnd q) (hx : Part q x) : G x := by
  rcases hq with rfl | rfl | rfl
  · simp only [Part] at hx; subst hx; exact G.unavail Creator.none
  · obtain ⟨fs, hfs, rfl⟩ := hx
    have := G.stack hfs Creator.none
    simpa using this
  · rcases hx with rfl | ⟨fs, hfs, rfl⟩
    · exact G.unavail Creator.some
    · have := G.stack hfs Creator.some
      simpa using this

theorem ops_of {h s : List Kind} (hh : OpHd h) (hs : RaceStack s) : Ops (h ++ s) := by
  rcases hh with rfl | ⟨o, ho, rfl⟩
  · exact Ops.first hs
  · have := Ops.prev ho hs
    simpa using this

theorem gors_of {h s : List Kind} (hh : GoHd h) (hs : RaceStack s) : Gors (h ++ s) := by
  obtain ⟨b, hb, rfl⟩ := hh
  rcases hb with hb | hb
  · have := Gors.first hb hs
    simpa using this
  · have := Gors.more hb hs
    simpa using this

theorem stack_of {x : List Kind} (hx : SF x) : RaceStack (x ++ [file]) := by
  rcases hx with rfl | ⟨s, hs, rfl⟩
  · exact RaceStack.one
  · have := RaceStack.more hs
    simpa using this

theorem pre_step {q q' : GState} {k : Kind} {ks : List Kind} (h : step q k = some q')
    (hp : Pre q ks) : Pre q' (ks ++ [k]) := by
  -- one goal for each row of `step`, in the order of its definition
  unfold step at h
  split at h <;> cases h
  · simp only [Pre] at hp; subst hp; exact ⟨[], [header], Or.inl rfl, rfl, rfl⟩
  · simp only [Pre] at hp; subst hp; rfl
  · obtain ⟨p, x, hb, hx, rfl⟩ := hp
    simp only [Part] at hx; subst hx
    exact ⟨p, _, hb, rfl, by simp⟩
  · obtain ⟨p, x, hb, hx, rfl⟩ := hp
    simp only [Part] at hx; subst hx
    exact ⟨p, _, hb, Or.inl rfl, by simp⟩
  · obtain ⟨p, x, hb, hx, rfl⟩ := hp
    simp only [Part] at hx; subst hx
    exact ⟨p, _, hb, Or.inl rfl, by simp⟩
  · obtain ⟨p, x, hb, hx, rfl⟩ := hp
    exact ⟨_, bnd_G hb (part_G (Or.inl rfl) hx), rfl⟩
  · obtain ⟨p, x, hb, hx, rfl⟩ := hp
    rcases hx with rfl | ⟨fs, hfs, rfl⟩
    · exact ⟨p, _, hb, ⟨_, Frames.first, rfl⟩, by simp⟩
    · exact ⟨p, _, hb, ⟨_, Frames.frame hfs, rfl⟩, by simp⟩
  · obtain ⟨p, x, hb, ⟨fs, hfs, rfl⟩, rfl⟩ := hp
    exact ⟨p, _, hb, ⟨_, Frames.elided hfs, rfl⟩, by simp⟩
  · obtain ⟨p, x, hb, ⟨fs, hfs, rfl⟩, rfl⟩ := hp
    exact ⟨p, _, hb, Or.inr ⟨_, hfs, rfl⟩, by simp⟩
  · obtain ⟨p, x, hb, ⟨fs, hfs, rfl⟩, rfl⟩ := hp
    exact ⟨p, _, hb, Or.inr ⟨_, hfs, rfl⟩, by simp⟩
  · obtain ⟨p, x, hb, hx, rfl⟩ := hp
    exact ⟨_, bnd_G hb (part_G (Or.inr (Or.inl rfl)) hx), rfl⟩
  · obtain ⟨p, x, hb, hx, rfl⟩ := hp
    rcases hx with rfl | ⟨fs, hfs, rfl⟩
    · exact ⟨p, _, hb, Or.inl rfl, by simp⟩
    · exact ⟨p, _, hb, Or.inr ⟨_, hfs, rfl⟩, by simp⟩
  · obtain ⟨p, x, hb, hx, rfl⟩ := hp
    exact ⟨_, bnd_G hb (part_G (Or.inr (Or.inr rfl)) hx), rfl⟩
  · obtain ⟨gs, hgs, rfl⟩ := hp
    exact ⟨_, [header], Or.inr ⟨gs, hgs, rfl⟩, rfl, rfl⟩
  · simp only [Pre] at hp; subst hp; rfl
  · simp only [Pre] at hp; subst hp; exact Or.inl rfl
  · exact ⟨ks, [func], hp, Or.inl rfl, rfl⟩
  · obtain ⟨h, x, hh, hx, rfl⟩ := hp
    exact ⟨h, _, hh, stack_of hx, by simp⟩
  · obtain ⟨h, s, hh, hs, rfl⟩ := hp
    exact ⟨h, _, hh, Or.inr ⟨s, hs, rfl⟩, by simp⟩
  · obtain ⟨h, s, hh, hs, rfl⟩ := hp
    exact ⟨_, ops_of hh hs, rfl⟩
  · obtain ⟨o, ho, rfl⟩ := hp
    exact Or.inr ⟨o, ho, by simp⟩
  · obtain ⟨o, ho, rfl⟩ := hp
    exact ⟨o, Or.inl ho, by simp⟩
  · exact ⟨ks, [func], hp, Or.inl rfl, rfl⟩
  · obtain ⟨h, x, hh, hx, rfl⟩ := hp
    exact ⟨h, _, hh, stack_of hx, by simp⟩
  · obtain ⟨h, s, hh, hs, rfl⟩ := hp
    exact ⟨h, _, hh, Or.inr ⟨s, hs, rfl⟩, by simp⟩
  · obtain ⟨h, s, hh, hs, rfl⟩ := hp
    exact ⟨_, gors_of hh hs, rfl⟩
  · obtain ⟨h, s, hh, hs, rfl⟩ := hp
    exact Race.mk (gors_of hh hs)
  · obtain ⟨g, hg, rfl⟩ := hp
    exact ⟨g, Or.inr hg, by simp⟩

theorem pre_run {q q' : GState} {p ks : List Kind} (hp : Pre q p) (h : run q ks = some q') :
    Pre q' (p ++ ks) := by
  induction ks generalizing q p with
  | nil => simp only [run, Option.some.injEq] at h; subst h; simpa using hp
  | cons k ks ih =>
    simp only [run] at h
    cases hs : step q k with
    | none => rw [hs] at h; simp at h
    | some q1 =>
      rw [hs] at h
      have := ih (pre_step hs hp) h
      simpa using this

theorem accepted_dump {ks : List Kind} {q : GState} (h : run start ks = some q)
    (ha : acceptingDump q = true) : Dump ks := by
  have hp : Pre q ([] ++ ks) := pre_run (q := start) rfl h
  rw [List.nil_append] at hp
  cases q <;> simp [acceptingDump] at ha
  · obtain ⟨p, x, hb, hx, rfl⟩ := hp
    exact Dump.plain (bnd_G hb (part_G (Or.inl rfl) hx))
  · obtain ⟨p, x, hb, hx, rfl⟩ := hp
    exact Dump.plain (bnd_G hb (part_G (Or.inr (Or.inl rfl)) hx))
  · obtain ⟨p, x, hb, hx, rfl⟩ := hp
    exact Dump.plain (bnd_G hb (part_G (Or.inr (Or.inr rfl)) hx))
  · obtain ⟨gs, hgs, rfl⟩ := hp
    exact Dump.trailing hgs

theorem accepted_race {ks : List Kind} (h : run start ks = some fin) : Race ks := by
  have hp : Pre fin ([] ++ ks) := pre_run (q := start) rfl h
  rw [List.nil_append] at hp
  exact hp

/-! ### `munch` and `run` -/

theorem munch_le (q : GState) (ks : List Kind) : (munch q ks).1 ≤ ks.length := by
  induction ks generalizing q with
  | nil => simp [munch]
  | cons k ks ih =>
    simp only [munch]
    cases step q k with
    | none => simp
    | some q' => have := ih q'; simp only [List.length_cons]; omega

/-- the prefix `munch` measures is readable and leads to the state it reports -/
theorem munch_run (q : GState) (ks : List Kind) :
    run q (ks.take (munch q ks).1) = some (munch q ks).2 := by
  induction ks generalizing q with
  | nil => simp [munch, run]
  | cons k ks ih =>
    simp only [munch]
    cases hs : step q k with
    | none => simp [run]
    | some q' => simp [run, hs, ih q']

/-- it is the longest one: the next line, if any, cannot be read -/
theorem munch_stuck (q : GState) (ks : List Kind) (h : (munch q ks).1 < ks.length) :
    ∃ k, ks[(munch q ks).1]? = some k ∧ step (munch q ks).2 k = none := by
  induction ks generalizing q with
  | nil => simp at h
  | cons k ks ih =>
    simp only [munch] at h ⊢
    cases hs : step q k with
    | none => exact ⟨k, by simp, hs⟩
    | some q' =>
      rw [hs] at h
      simp only [List.length_cons] at h
      obtain ⟨k', h1, h2⟩ := ih q' (by omega)
      exact ⟨k', by simpa using h1, h2⟩

theorem munch_append_of_run {q0 q : GState} {a : List Kind} (h : run q0 a = some q) (b : List Kind) :
    munch q0 (a ++ b) = ((munch q b).1 + a.length, (munch q b).2) := by
  induction a generalizing q0 with
  | nil => cases Option.some.inj h; rfl
  | cons x a ih =>
    simp only [run] at h
    cases hs : step q0 x with
    | none => rw [hs] at h; cases h
    | some q1 =>
      rw [hs] at h
      simp only [List.cons_append, munch, hs, ih h, List.length_cons, Nat.add_assoc]

theorem munch_of_run {q0 q : GState} {a : List Kind} (h : run q0 a = some q) (k : Kind)
    (rest : List Kind) (hk : step q k = none) : munch q0 (a ++ k :: rest) = (a.length, q) := by
  simp [munch_append_of_run h, munch, hk]

theorem munch_of_run_all {q0 q : GState} {a : List Kind} (h : run q0 a = some q) :
    munch q0 a = (a.length, q) := by
  simpa [munch] using munch_append_of_run h []

end Spec
end PP
