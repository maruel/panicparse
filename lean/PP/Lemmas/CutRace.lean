import PP.Lemmas.Cut
import PP.Lemmas.CutInv
/-
C10 for race-detector reports: how the loop of `scanL`, started inside a race report, may
change the goroutines that are already there.

In a race report the text of a goroutine is in two places: its operation section
(`Read at … by goroutine N:` + frames), which appends the goroutine and fills `sig.stack`, and,
later, its `Goroutine N (…) created at:` section, which fills `sig.state` and `sig.createdBy` of
the FIRST goroutine with id `N`.
-/
namespace PP

/-! ### the relations between a goroutine before and after -/

/-- `g'` is the same participant of the race as `g`: id, `first`, address, read/write kind and
the fields a race report never sets (`locked`, sleep) are equal.  `sig.stack`, `sig.state` and
`sig.createdBy` are arbitrary: this is what holds of the goroutine whose operation section is
being read. -/
structure RacePartial (g g' : Goroutine) : Prop where
  id : g'.id = g.id
  first : g'.first = g.first
  raceWrite : g'.raceWrite = g.raceWrite
  raceAddr : g'.raceAddr = g.raceAddr
  locked : g'.sig.locked = g.sig.locked
  sleepMin : g'.sig.sleepMin = g.sig.sleepMin
  sleepMax : g'.sig.sleepMax = g.sig.sleepMax

/-- `g'` extends `g` by (part of) a creation section: everything but `sig.state` and
`sig.createdBy` is equal — in particular the operation stack. -/
structure RaceExt (g g' : Goroutine) : Prop where
  id : g'.id = g.id
  first : g'.first = g.first
  raceWrite : g'.raceWrite = g.raceWrite
  raceAddr : g'.raceAddr = g.raceAddr
  locked : g'.sig.locked = g.sig.locked
  sleepMin : g'.sig.sleepMin = g.sig.sleepMin
  sleepMax : g'.sig.sleepMax = g.sig.sleepMax
  stack : g'.sig.stack = g.sig.stack

theorem RacePartial.refl (g : Goroutine) : RacePartial g g := ⟨rfl, rfl, rfl, rfl, rfl, rfl, rfl⟩
theorem RacePartial.trans {a b c : Goroutine} (h1 : RacePartial a b) (h2 : RacePartial b c) :
    RacePartial a c :=
  ⟨h2.id.trans h1.id, h2.first.trans h1.first, h2.raceWrite.trans h1.raceWrite,
   h2.raceAddr.trans h1.raceAddr, h2.locked.trans h1.locked, h2.sleepMin.trans h1.sleepMin,
   h2.sleepMax.trans h1.sleepMax⟩
theorem RacePartial.symm {a b : Goroutine} (h : RacePartial a b) : RacePartial b a :=
  ⟨h.id.symm, h.first.symm, h.raceWrite.symm, h.raceAddr.symm, h.locked.symm, h.sleepMin.symm,
   h.sleepMax.symm⟩

theorem RaceExt.refl (g : Goroutine) : RaceExt g g := ⟨rfl, rfl, rfl, rfl, rfl, rfl, rfl, rfl⟩
theorem RaceExt.trans {a b c : Goroutine} (h1 : RaceExt a b) (h2 : RaceExt b c) : RaceExt a c :=
  ⟨h2.id.trans h1.id, h2.first.trans h1.first, h2.raceWrite.trans h1.raceWrite,
   h2.raceAddr.trans h1.raceAddr, h2.locked.trans h1.locked, h2.sleepMin.trans h1.sleepMin,
   h2.sleepMax.trans h1.sleepMax, h2.stack.trans h1.stack⟩
/-- `RaceExt` is an equivalence: "equal up to `sig.state` and `sig.createdBy`" -/
theorem RaceExt.symm {a b : Goroutine} (h : RaceExt a b) : RaceExt b a :=
  ⟨h.id.symm, h.first.symm, h.raceWrite.symm, h.raceAddr.symm, h.locked.symm, h.sleepMin.symm,
   h.sleepMax.symm, h.stack.symm⟩
theorem RaceExt.partial {a b : Goroutine} (h : RaceExt a b) : RacePartial a b :=
  ⟨h.id, h.first, h.raceWrite, h.raceAddr, h.locked, h.sleepMin, h.sleepMax⟩

theorem RaceExt.of_eq {a b : Goroutine} (h : a = b) : RaceExt a b := h ▸ RaceExt.refl a

/-- what an operation section shows of a goroutine -/
def raceOpView (g : Goroutine) : Nat × Bool × Bool × Nat × Stack :=
  (g.id, g.first, g.raceWrite, g.raceAddr, g.sig.stack)

theorem RaceExt.opView {a b : Goroutine} (h : RaceExt a b) : raceOpView b = raceOpView a := by
  simp only [raceOpView, h.id, h.first, h.raceWrite, h.raceAddr, h.stack]

theorem raceExt_setCreated (g : Goroutine) (f : Stack → Stack) : RaceExt g (setCreated g f) :=
  ⟨rfl, rfl, rfl, rfl, rfl, rfl, rfl, rfl⟩
theorem raceExt_setState (g : Goroutine) (stt : Bytes) :
    RaceExt g { g with sig := { g.sig with state := stt } } := ⟨rfl, rfl, rfl, rfl, rfl, rfl, rfl, rfl⟩
theorem racePartial_setStack (g : Goroutine) (f : Stack → Stack) : RacePartial g (setStack g f) :=
  ⟨rfl, rfl, rfl, rfl, rfl, rfl, rfl⟩

/-- the stack `st'` continues `st`: every frame of `st` but the last one (whose file line may
not have been read yet) is a frame of `st'`, at the same position -/
structure StackGrows (st st' : Stack) : Prop where
  elided : st'.elided = st.elided
  len : st.calls.length ≤ st'.calls.length
  frames : st.calls.dropLast <+: st'.calls

theorem StackGrows.refl (st : Stack) : StackGrows st st :=
  ⟨rfl, Nat.le_refl _, List.dropLast_prefix _⟩

theorem StackGrows.of_eq {st st' : Stack} (h : st' = st) : StackGrows st st' := h ▸ StackGrows.refl st

theorem StackGrows.trans {a b c : Stack} (h1 : StackGrows a b) (h2 : StackGrows b c) :
    StackGrows a c := by
  refine ⟨h2.elided.trans h1.elided, Nat.le_trans h1.len h2.len, ?_⟩
  have hp : a.calls.dropLast <+: b.calls.dropLast :=
    List.prefix_of_prefix_length_le h1.frames (List.dropLast_prefix _) (by
      have := h1.len
      simp only [List.length_dropLast]; omega)
  exact hp.trans h2.frames

theorem stackGrows_append (st : Stack) (c : Call) :
    StackGrows st { st with calls := st.calls ++ [c] } :=
  ⟨rfl, by simp, (List.dropLast_prefix _).trans (List.prefix_append _ _)⟩

theorem stackGrows_initLast (st : Stack) (pl : Bytes × Nat) :
    StackGrows st { st with calls := (initLast st.calls pl).getD st.calls } := by
  by_cases h : st.calls = []
  · have : initLast st.calls pl = none := by rw [h]; rfl
    rw [this]
    exact StackGrows.refl st
  · obtain ⟨pre, c, hc⟩ : ∃ pre c, st.calls = pre ++ [c] :=
      ⟨st.calls.dropLast, st.calls.getLast h, (List.dropLast_concat_getLast h).symm⟩
    refine ⟨rfl, ?_, ?_⟩
    · show st.calls.length ≤ ((initLast st.calls pl).getD st.calls).length
      rw [hc, initLast_snoc]; simp
    · show st.calls.dropLast <+: (initLast st.calls pl).getD st.calls
      rw [hc, initLast_snoc]
      simp

/-! ### the parts of a race report -/

/-- inside an operation section: the last goroutine is being written -/
def St.isRaceOp (st : St) : Bool :=
  st == .gotRaceOperationHeader || st == .gotRaceOperationFunc || st == .gotRaceOperationFile
/-- inside a creation section: goroutine `gi` is being written -/
def St.isRaceCreW (st : St) : Bool :=
  st == .gotRaceGoroutineHeader || st == .gotRaceGoroutineFunc || st == .gotRaceGoroutineFile
/-- the creation part: all operation sections have been read -/
def St.isRaceCre (st : St) : Bool := st.isRaceCreW || st == .betweenRaceGoroutines
/-- after the two header lines of the report (`gotRaceOperationHeader` … `betweenRaceGoroutines`) -/
def St.isRaceBody (st : St) : Bool := decide (11 ≤ st.toNat)

/-- the number of leading goroutines whose operation section is complete -/
def raceFrozen (s : S) : Nat := if s.st.isRaceOp then s.gs.length - 1 else s.gs.length

/-- the index of the goroutine being written, if any -/
def raceWriting (s : S) : Option Nat :=
  if s.st.isRaceOp then some (s.gs.length - 1) else if s.st.isRaceCreW then some s.gi else none

/-- what one successful `scan` step does in the body of a race report (or in `done`) -/
inductive RStep (s : S) (l : Line) (s' : S) : Prop
  /-- nothing is written (rejected line, blank line after a section, closing separator) -/
  | same (hgs : s'.gs = s.gs) (hgi : s'.gi = s.gi)
      (hst : s'.st = s.st ∨ s'.st = .done ∨
        (s.st = .gotRaceOperationFile ∧ s'.st = .betweenRaceOperations) ∨
        (s.st = .gotRaceGoroutineFile ∧ s'.st = .betweenRaceGoroutines))
      (hpfx : s'.st ≠ .done → s'.pfx = s.pfx)
  /-- a frame line of an operation section: only the stack of the last goroutine changes -/
  | opWrite (h1 : s.st.isRaceOp = true) (h2 : s'.st.isRaceOp = true) (hgi : s'.gi = s.gi)
      (hpfx : s'.pfx = s.pfx) (pre : List Goroutine) (g : Goroutine) (f : Stack → Stack)
      (hf : ∀ st, StackGrows st (f st))
      (hgs : s.gs = pre ++ [g]) (hgs' : s'.gs = pre ++ [setStack g f])
  /-- `Previous read/write at …`: a goroutine is appended -/
  | opNew (h1 : s.st = .betweenRaceOperations) (h2 : s'.st = .gotRaceOperationHeader)
      (hpfx : s'.pfx = s.pfx) (g : Goroutine) (hgs' : s'.gs = s.gs ++ [g]) (hgi : s'.gi = s.gs.length)
  /-- `Goroutine N (state) created at:`: the state of a goroutine with id `N` is set -/
  | creHeader (h1 : s.st = .betweenRaceOperations ∨ s.st = .betweenRaceGoroutines)
      (h2 : s'.st = .gotRaceGoroutineHeader) (hpfx : s'.pfx = s.pfx) (id : Nat) (stt : Bytes)
      (hl : l.raceGor = some (some id, stt)) (hlt : s'.gi < s.gs.length) (hid : s.gs[s'.gi].id = id)
      (hgs' : s'.gs = s.gs.set s'.gi { s.gs[s'.gi] with sig := { s.gs[s'.gi].sig with state := stt } })
  /-- a frame line of a creation section: only `createdBy` of goroutine `gi` changes -/
  | creWrite (h1 : s.st.isRaceCreW = true) (h2 : s'.st.isRaceCreW = true) (hgi : s'.gi = s.gi)
      (hpfx : s'.pfx = s.pfx) (hlt : s.gi < s.gs.length) (f : Stack → Stack)
      (hgs' : s'.gs = s.gs.set s.gi (setCreated s.gs[s.gi] f))

theorem rstep_self (s : S) (l : Line) : RStep s l s :=
  .same rfl rfl (Or.inl rfl) (fun _ => rfl)

theorem rstep_done (s : S) (l : Line) : RStep s l { s with st := .done, pfx := [] } :=
  .same rfl rfl (Or.inr (Or.inl rfl)) (fun h => absurd rfl h)

/-- a frame line of an operation section -/
theorem funcStep_rstep {s : S} (l : Line) (next : St) (e0 : Err)
    (h1 : s.st.isRaceOp = true) (h2 : next.isRaceOp = true) :
    WhenOk (funcStep s l.funcL next (.ok (s, false, some e0))) fun s' _ _ => RStep s l s' :=
  funcStep_whenOk (whenOk_ok (rstep_self s l)) fun init g c _ hgs _ =>
    .opWrite h1 h2 rfl rfl init g _ (fun st => stackGrows_append st c) hgs rfl

theorem scan_rstep {s s' : S} {l : Line} {b : Bool} {e : Option Err}
    (h : scan s l = .ok (s', b, e)) (hb : s.st.isRaceBody = true ∨ s.st = .done) : RStep s l s' := by
  refine (?_ : WhenOk (scan s l) fun s' _ _ => RStep s l s') s' b e h
  rcases scan_early s l with h0 | h0 | ⟨hi, _⟩
  · rw [h0]; exact whenOk_ok (rstep_self _ _)
  · rw [h0]; exact whenOk_ok (rstep_done _ _)
  have hself : ∀ e : Err, RStep s l s := fun _ => rstep_self s l
  cases hs : s.st
  case done => rw [scan_done hs hi]; exact whenOk_ok (rstep_self _ _)
  case gotRaceOperationHeader =>
    rw [scan_gotRaceOperationHeader hs hi]
    exact funcStep_rstep l _ _ (by rw [hs]; rfl) rfl
  case gotRaceOperationFunc =>
    rw [scan_gotRaceOperationFunc hs hi]
    exact fileStep_whenOk (fun init g pl hgs _ => .opWrite (by rw [hs]; rfl) rfl rfl rfl init g _
      (fun st => stackGrows_initLast st pl) hgs rfl) hself
  case gotRaceOperationFile =>
    rw [scan_gotRaceOperationFile hs hi]
    split
    · exact whenOk_ok (.same rfl rfl (Or.inr (Or.inr (Or.inl ⟨hs, rfl⟩))) (fun _ => rfl))
    · exact funcStep_rstep l _ _ (by rw [hs]; rfl) rfl
  case betweenRaceOperations =>
    rw [scan_betweenRaceOperations hs hi]
    split
    · exact whenOk_ok (.opNew hs rfl rfl _ rfl rfl)
    · exact whenOk_ok (rstep_self _ _)
    · exact raceGorStep_whenOk (fun id stt i hlt hl hid => .creHeader (Or.inl hs) rfl rfl id stt hl hlt hid rfl) hself
  case betweenRaceGoroutines =>
    rw [scan_betweenRaceGoroutines hs hi]
    exact raceGorStep_whenOk (fun id stt i hlt hl hid => .creHeader (Or.inr hs) rfl rfl id stt hl hlt hid rfl) hself
  case gotRaceGoroutineHeader =>
    rw [scan_gotRaceGoroutineHeader hs hi]
    exact raceFuncStep_whenOk (fun c e hlt _ => .creWrite (by rw [hs]; rfl) rfl rfl rfl hlt _ rfl) hself
  case gotRaceGoroutineFunc =>
    rw [scan_gotRaceGoroutineFunc hs hi]
    split
    · rename_i hlt
      split
      · exact whenOk_error
      · split
        · exact whenOk_ok (.creWrite (by rw [hs]; rfl) rfl rfl rfl hlt _ rfl)
        · exact whenOk_ok (rstep_self _ _)
        · exact whenOk_ok (rstep_self _ _)
    · exact whenOk_error
  case gotRaceGoroutineFile =>
    rw [scan_gotRaceGoroutineFile hs hi]
    split
    · exact whenOk_ok (.same rfl rfl (Or.inr (Or.inr (Or.inr ⟨hs, rfl⟩))) (fun _ => rfl))
    · split
      · exact whenOk_ok (.same rfl rfl (Or.inr (Or.inl rfl)) (fun h => absurd rfl h))
      · exact raceFuncStep_whenOk (fun c e hlt _ => .creWrite (by rw [hs]; rfl) rfl rfl rfl hlt _ rfl) hself
  all_goals (rw [hs] at hb; rcases hb with hb | hb <;> cases hb)

/-! ### the relation one step establishes, closed under composition -/

/-- how the goroutine list of `s'` relates to that of an earlier state `s` of the same report -/
structure RaceRel (s s' : S) : Prop where
  len : s.gs.length ≤ s'.gs.length
  frozen : raceFrozen s ≤ raceFrozen s'
  part : ∀ (i : Nat) (g : Goroutine), s.gs[i]? = some g →
    ∃ g', s'.gs[i]? = some g' ∧ RacePartial g g' ∧ StackGrows g.sig.stack g'.sig.stack
  ext : ∀ (i : Nat) (g : Goroutine), s.gs[i]? = some g → i < raceFrozen s → ∃ g', s'.gs[i]? = some g' ∧ RaceExt g g'
  cre : (s.st.isRaceCre = true ∨ s.st = .done) →
    s'.gs.length = s.gs.length ∧ (s'.st.isRaceCre = true ∨ s'.st = .done)

theorem RaceRel.refl (s : S) : RaceRel s s :=
  ⟨Nat.le_refl _, Nat.le_refl _, fun _ g h => ⟨g, h, RacePartial.refl g, StackGrows.refl _⟩,
   fun _ g h _ => ⟨g, h, RaceExt.refl g⟩, fun h => ⟨rfl, h⟩⟩

theorem RaceRel.trans {a b c : S} (h1 : RaceRel a b) (h2 : RaceRel b c) : RaceRel a c := by
  refine ⟨Nat.le_trans h1.len h2.len, Nat.le_trans h1.frozen h2.frozen, ?_, ?_, ?_⟩
  · intro i g hg
    obtain ⟨g1, hg1, r1, w1⟩ := h1.part i g hg
    obtain ⟨g2, hg2, r2, w2⟩ := h2.part i g1 hg1
    exact ⟨g2, hg2, r1.trans r2, w1.trans w2⟩
  · intro i g hg hi
    obtain ⟨g1, hg1, r1⟩ := h1.ext i g hg hi
    obtain ⟨g2, hg2, r2⟩ := h2.ext i g1 hg1 (Nat.lt_of_lt_of_le hi h1.frozen)
    exact ⟨g2, hg2, r1.trans r2⟩
  · intro h
    obtain ⟨e1, k1⟩ := h1.cre h
    obtain ⟨e2, k2⟩ := h2.cre k1
    exact ⟨e2.trans e1, k2⟩

theorem getElem?_set_ext (gs : List Goroutine) (j : Nat) (hj : j < gs.length) (g' : Goroutine)
    (hx : RaceExt gs[j] g') (i : Nat) (g : Goroutine) (hg : gs[i]? = some g) :
    ∃ g'', (gs.set j g')[i]? = some g'' ∧ RaceExt g g'' := by
  by_cases hij : j = i
  · subst hij
    have : g = gs[j] := by
      rw [List.getElem?_eq_getElem hj] at hg
      exact (Option.some.inj hg).symm
    subst this
    exact ⟨g', by rw [List.getElem?_set_self hj], hx⟩
  · exact ⟨g, by rw [List.getElem?_set_ne hij]; exact hg, RaceExt.refl g⟩

theorem isRaceOp_not_cre {st : St} (h : st.isRaceOp = true) : st.isRaceCre = false ∧ st ≠ .done := by
  revert h; cases st <;> decide

theorem isRaceOp_body {st : St} (h : st.isRaceOp = true) : st.isRaceBody = true := by
  revert h; cases st <;> decide

theorem isRaceCreW_not_op {st : St} (h : st.isRaceCreW = true) : st.isRaceOp = false ∧ st.isRaceCre = true := by
  revert h; cases st <;> decide

theorem isRaceCre_body {st : St} (h : st.isRaceCre = true) : st.isRaceBody = true := by
  revert h; cases st <;> decide

/-- a step that rewrites one goroutine up to `RaceExt` and ends outside an operation section -/
theorem raceRel_of_set (s s' : S) (j : Nat) (hj : j < s.gs.length) (g' : Goroutine)
    (hx : RaceExt s.gs[j] g') (hgs' : s'.gs = s.gs.set j g') (hop' : s'.st.isRaceOp = false)
    (hop : s.st.isRaceOp = false) (hcre : s'.st.isRaceCre = true) : RaceRel s s' := by
  have hlen : s'.gs.length = s.gs.length := by rw [hgs']; simp
  refine ⟨by omega, by simp only [raceFrozen, hop, hop', hlen]; exact Nat.le_refl _, ?_, ?_,
    fun _ => ⟨hlen, Or.inl hcre⟩⟩
  · intro i g hg
    obtain ⟨g'', h1, h2⟩ := getElem?_set_ext s.gs j hj g' hx i g hg
    exact ⟨g'', by rw [hgs']; exact h1, h2.partial, StackGrows.of_eq h2.stack⟩
  · intro i g hg _
    obtain ⟨g'', h1, h2⟩ := getElem?_set_ext s.gs j hj g' hx i g hg
    exact ⟨g'', by rw [hgs']; exact h1, h2⟩

theorem RStep.raceRel {s s' : S} {l : Line} (h : RStep s l s') : RaceRel s s' := by
  cases h with
  | same hgs hgi hst hpfx =>
    refine ⟨by rw [hgs]; exact Nat.le_refl _, ?_, fun i g hg => ⟨g, by rw [hgs]; exact hg, RacePartial.refl g, StackGrows.refl _⟩,
      fun i g hg _ => ⟨g, by rw [hgs]; exact hg, RaceExt.refl g⟩, fun hc => ⟨by rw [hgs], ?_⟩⟩
    · simp only [raceFrozen, hgs]
      rcases hst with hst | hst | ⟨h1, h2⟩ | ⟨h1, h2⟩
      · rw [hst]; exact Nat.le_refl _
      · rw [hst]
        have hd : St.isRaceOp .done = false := rfl
        simp only [hd, Bool.false_eq_true, if_false]
        split <;> omega
      · rw [h1, h2]; simp [St.isRaceOp]
      · rw [h1, h2]; simp [St.isRaceOp]
    · rcases hst with hst | hst | ⟨h1, h2⟩ | ⟨h1, h2⟩
      · rw [hst]; exact hc
      · exact Or.inr hst
      · rw [h1] at hc; simp [St.isRaceCre, St.isRaceCreW] at hc
      · rw [h2]; left; rfl
  | opWrite h1 h2 hgi hpfx pre g f hf hgs hgs' =>
    refine ⟨by rw [hgs, hgs']; simp, by simp [raceFrozen, h1, h2, hgs, hgs'], ?_, ?_, ?_⟩
    · intro i g0 hg
      rw [hgs] at hg; rw [hgs']
      by_cases hi : i < pre.length
      · rw [List.getElem?_append_left hi] at hg ⊢
        exact ⟨g0, hg, RacePartial.refl g0, StackGrows.refl _⟩
      · have hlt : i < (pre ++ [g]).length := (List.getElem?_eq_some_iff.mp hg).1
        have hi' : i = pre.length := by simp at hlt; omega
        subst hi'
        simp at hg
        subst hg
        exact ⟨setStack g f, by simp, racePartial_setStack g f, hf g.sig.stack⟩
    · intro i g0 hg hi
      simp only [raceFrozen, h1, if_true, hgs, List.length_append, List.length_cons, List.length_nil] at hi
      have hi : i < pre.length := by omega
      rw [hgs] at hg; rw [hgs']
      rw [List.getElem?_append_left hi] at hg ⊢
      exact ⟨g0, hg, RaceExt.refl g0⟩
    · intro hc
      have := isRaceOp_not_cre h1
      rcases hc with hc | hc
      · rw [this.1] at hc; cases hc
      · exact absurd hc this.2
  | opNew h1 h2 hpfx g hgs' hgi =>
    refine ⟨by rw [hgs']; simp, by simp [raceFrozen, h1, h2, hgs', St.isRaceOp], ?_, ?_, ?_⟩
    · intro i g0 hg
      have hlt : i < s.gs.length := (List.getElem?_eq_some_iff.mp hg).1
      exact ⟨g0, by rw [hgs', List.getElem?_append_left hlt]; exact hg, RacePartial.refl g0, StackGrows.refl _⟩
    · intro i g0 hg _
      have hlt : i < s.gs.length := (List.getElem?_eq_some_iff.mp hg).1
      exact ⟨g0, by rw [hgs', List.getElem?_append_left hlt]; exact hg, RaceExt.refl g0⟩
    · intro hc
      rw [h1] at hc
      simp [St.isRaceCre, St.isRaceCreW] at hc
  | creHeader h1 h2 hpfx id stt hl hlt hid hgs' =>
    refine raceRel_of_set s s' s'.gi hlt _ (raceExt_setState _ stt) hgs' (by rw [h2]; rfl) ?_ (by rw [h2]; rfl)
    rcases h1 with h1 | h1 <;> rw [h1] <;> rfl
  | creWrite h1 h2 hgi hpfx hlt f hgs' =>
    exact raceRel_of_set s s' s.gi hlt _ (raceExt_setCreated _ f) hgs' (isRaceCreW_not_op h2).1
      (isRaceCreW_not_op h1).1 (isRaceCreW_not_op h2).2

/-- the states of the body of a race report, and `done`, are closed under `scan` -/
theorem RStep.body {s s' : S} {l : Line} (h : RStep s l s')
    (hb : s.st.isRaceBody = true ∨ s.st = .done) : s'.st.isRaceBody = true ∨ s'.st = .done := by
  cases h with
  | same hgs hgi hst hpfx =>
    rcases hst with hst | hst | ⟨_, h2⟩ | ⟨_, h2⟩
    · rw [hst]; exact hb
    · exact Or.inr hst
    · rw [h2]; left; rfl
    · rw [h2]; left; rfl
  | opWrite h1 h2 => exact Or.inl (isRaceOp_body h2)
  | opNew h1 h2 => rw [h2]; left; rfl
  | creHeader h1 h2 => rw [h2]; left; rfl
  | creWrite h1 h2 => exact Or.inl (isRaceCre_body (isRaceCreW_not_op h2).2)

theorem scanL_raceRel (s : S) (fwd : Bytes) (cons : List Bytes) (items : List (Bytes × Option RErr))
    (hb : s.st.isRaceBody = true ∨ s.st = .done) :
    ((scanL s fwd cons items).s.st.isRaceBody = true ∨ (scanL s fwd cons items).s.st = .done) ∧
    RaceRel s (scanL s fwd cons items).s :=
  scanL_state_induct (fun s => s.st.isRaceBody = true ∨ s.st = .done) RaceRel RaceRel.refl
    (fun _ _ _ h1 h2 => h1.trans h2)
    (fun _ _ _ _ _ hP hsc => ⟨(scan_rstep hsc hP).body hP, (scan_rstep hsc hP).raceRel⟩)
    s fwd cons items hb

theorem raceFrozen_of_not_op {s : S} (h : s.st.isRaceOp = false) : raceFrozen s = s.gs.length := by
  simp [raceFrozen, h]

theorem isRaceCre_not_op {st : St} (h : st.isRaceCre = true) : st.isRaceOp = false := by
  revert h; cases st <;> decide

/-- in the creation part, what the operation sections said of every goroutine stays -/
theorem RaceRel.map_opView {s s' : S} (h : RaceRel s s') (hc : s.st.isRaceCre = true) :
    s'.gs.map raceOpView = s.gs.map raceOpView := by
  have hlen := (h.cre (Or.inl hc)).1
  have hf := raceFrozen_of_not_op (isRaceCre_not_op hc)
  apply List.ext_getElem?
  intro i
  rw [List.getElem?_map, List.getElem?_map]
  cases hg : s.gs[i]? with
  | none =>
    have : s.gs.length ≤ i := List.getElem?_eq_none_iff.mp hg
    rw [List.getElem?_eq_none_iff.mpr (by omega)]
  | some g =>
    have hlt : i < s.gs.length := (List.getElem?_eq_some_iff.mp hg).1
    obtain ⟨g', hg', hx⟩ := h.ext i g hg (by omega)
    rw [hg']
    simp only [Option.map_some, hx.opView]

/-! ### goroutines no later creation section names are not touched at all -/

/-- one step leaves every goroutine alone but the one being written and the one a creation
header selects -/
theorem RStep.untouched {s s' : S} {l : Line} (h : RStep s l s') (i : Nat) (hi : i < s.gs.length)
    (hw : raceWriting s ≠ some i) (hh : s'.st = .gotRaceGoroutineHeader → s'.gi ≠ i) :
    s'.gs[i]? = s.gs[i]? := by
  cases h with
  | same hgs => rw [hgs]
  | opWrite h1 h2 hgi hpfx pre g f hf hgs hgs' =>
    have : i < pre.length := by
      simp only [raceWriting, h1, if_true, hgs, List.length_append, List.length_cons,
        List.length_nil, Nat.add_sub_cancel, ne_eq, Option.some.injEq] at hw
      rw [hgs] at hi; simp at hi; omega
    rw [hgs, hgs', List.getElem?_append_left this, List.getElem?_append_left this]
  | opNew h1 h2 hpfx g hgs' => rw [hgs', List.getElem?_append_left hi]
  | creHeader h1 h2 hpfx id stt hl hlt hid hgs' =>
    rw [hgs', List.getElem?_set_ne (hh h2)]
  | creWrite h1 h2 hgi hpfx hlt f hgs' =>
    have hne : s.gi ≠ i := by
      have := (isRaceCreW_not_op h1).1
      simp only [raceWriting, this, Bool.false_eq_true, if_false, h1, if_true, ne_eq,
        Option.some.injEq] at hw
      exact hw
    rw [hgs', List.getElem?_set_ne hne]

/-- the invariant of `scanL_race_untouched` -/
structure Untouched (pfx0 : Bytes) (i : Nat) (g : Goroutine) (s : S) : Prop where
  body : s.st.isRaceBody = true ∨ s.st = .done
  get : s.gs[i]? = some g
  frozen : i < raceFrozen s
  gi : s.st.isRaceCreW = true → s.gi ≠ i
  pfx : s.st ≠ .done → s.pfx = pfx0

theorem raceWriting_ne_of_untouched {pfx0 : Bytes} {i : Nat} {g : Goroutine} {s : S}
    (h : Untouched pfx0 i g s) : raceWriting s ≠ some i := by
  unfold raceWriting
  have hf := h.frozen
  unfold raceFrozen at hf
  by_cases hop : s.st.isRaceOp = true
  · rw [if_pos hop] at hf ⊢
    intro hc
    have := Option.some.inj hc
    omega
  · rw [if_neg hop]
    by_cases hcw : s.st.isRaceCreW = true
    · rw [if_pos hcw]
      intro hc
      exact h.gi hcw (Option.some.inj hc)
    · rw [if_neg hcw]; intro hc; cases hc

theorem Untouched.step {pfx0 : Bytes} {i : Nat} {g : Goroutine} {s s' : S} {l : Line}
    (h : Untouched pfx0 i g s) (hs : RStep s l s')
    (hl : s.st ≠ .done → ∀ stt, l.raceGor ≠ some (some g.id, stt)) : Untouched pfx0 i g s' := by
  have hlt : i < s.gs.length := (List.getElem?_eq_some_iff.mp h.get).1
  have hgi : s'.st = .gotRaceGoroutineHeader → s'.gi ≠ i := by
    intro hst
    cases hs with
    | same hgs hgi hst' hpfx =>
      have hcw : s.st.isRaceCreW = true := by
        rcases hst' with h1 | h1 | ⟨_, h1⟩ | ⟨_, h1⟩
        · rw [← h1, hst]; rfl
        · rw [hst] at h1; cases h1
        · rw [hst] at h1; cases h1
        · rw [hst] at h1; cases h1
      rw [hgi]; exact h.gi hcw
    | opWrite h1 h2 => rw [hst] at h2; cases h2
    | opNew h1 h2 => rw [hst] at h2; cases h2
    | creHeader h1 h2 hpfx id stt hl' hlt' hid hgs' =>
      intro hc
      have hgeq : s.gs[s'.gi] = g := by
        have := h.get
        rw [← hc, List.getElem?_eq_getElem hlt'] at this
        exact Option.some.inj this
      rw [hgeq] at hid
      have hnd : s.st ≠ .done := by
        rcases h1 with h1 | h1 <;> rw [h1] <;> intro hc <;> cases hc
      exact hl hnd stt (by rw [hl', hid])
    | creWrite h1 h2 hgi => rw [hgi]; exact h.gi h1
  have hget : s'.gs[i]? = some g := by
    rw [hs.untouched i hlt (raceWriting_ne_of_untouched h) hgi]; exact h.get
  refine ⟨hs.body h.body, hget, Nat.lt_of_lt_of_le h.frozen hs.raceRel.frozen, ?_, ?_⟩
  · intro hcw
    cases hs with
    | same hgs hgi' hst' hpfx =>
      rcases hst' with h1 | h1 | ⟨_, h1⟩ | ⟨_, h1⟩
      · rw [hgi']; exact h.gi (by rw [← h1]; exact hcw)
      · rw [h1] at hcw; cases hcw
      · rw [h1] at hcw; cases hcw
      · rw [h1] at hcw; cases hcw
    | opWrite h1 h2 => rw [(isRaceCreW_not_op hcw).1] at h2; cases h2
    | opNew h1 h2 => rw [h2] at hcw; cases hcw
    | creHeader h1 h2 => exact hgi h2
    | creWrite h1 h2 hgi' => rw [hgi']; exact h.gi h1
  · intro hnd
    cases hs with
    | same hgs hgi' hst' hpfx =>
      rw [hpfx hnd]
      apply h.pfx
      rcases hst' with h1 | h1 | ⟨h1, _⟩ | ⟨h1, _⟩
      · rw [← h1]; exact hnd
      · exact absurd h1 hnd
      · rw [h1]; intro hc; cases hc
      · rw [h1]; intro hc; cases hc
    | opWrite h1 h2 hgi' hpfx => rw [hpfx]; exact h.pfx (isRaceOp_not_cre h1).2
    | opNew h1 h2 hpfx => rw [hpfx]; apply h.pfx; rw [h1]; intro hc; cases hc
    | creHeader h1 h2 hpfx =>
      rw [hpfx]; apply h.pfx
      rcases h1 with h1 | h1 <;> rw [h1] <;> intro hc <;> cases hc
    | creWrite h1 h2 hgi' hpfx =>
      rw [hpfx]; apply h.pfx
      intro hc; rw [hc] at h1; cases h1

/-- Started in the body of a race report: a goroutine whose operation section is complete, which
is not the one a creation section is being read for, and whose id no line of the continuation
names in a `Goroutine N (…) created at:` header, is left as it is — entirely. -/
theorem scanL_race_untouched (s : S) (fwd : Bytes) (cons : List Bytes)
    (items : List (Bytes × Option RErr)) (i : Nat) (g : Goroutine)
    (hb : s.st.isRaceBody = true) (hg : s.gs[i]? = some g) (hf : i < raceFrozen s)
    (hgi : s.st.isRaceCreW = true → s.gi ≠ i)
    (hno : ∀ x ∈ items, ∀ stt, (classify s.pfx x.1).raceGor ≠ some (some g.id, stt)) :
    (scanL s fwd cons items).s.gs[i]? = some g := by
  have h0 : Untouched s.pfx i g s := ⟨Or.inl hb, hg, hf, hgi, fun _ => rfl⟩
  refine (scanL_induct (Untouched s.pfx i g) items ?_ s fwd cons h0).get
  intro s1 d s2 l e1 hd hP hsc
  have hs := scan_rstep hsc hP.body
  refine hP.step hs ?_
  intro hdone
  unfold scanBytes at hsc
  rw [hP.pfx hdone]
  obtain ⟨x, hx, rfl⟩ := List.mem_map.mp hd
  exact hno x hx

/-! ### the cut run: at most one more step -/

/-- on the last item `(frag, some fin)` the loop makes at most one `scan` step -/
theorem scanL_last_step (s : S) (fwd : Bytes) (cons : List Bytes) (frag : Bytes) (fin : RErr) :
    (scanL s fwd cons [(frag, some fin)]).s = s ∨
    ∃ b e1, scanBytes s frag = .ok ((scanL s fwd cons [(frag, some fin)]).s, b, e1) := by
  rcases scanL_last s fwd cons frag fin with ⟨_, a2, _⟩ | ⟨_, _, _, b4⟩
  · exact Or.inl a2
  · rcases b4 with ⟨_, b, _⟩ | ⟨_, b, e1, hsc, _⟩
    · exact Or.inl b
    · exact Or.inr ⟨b, e1, hsc⟩

theorem scanL_last_len (s : S) (fwd : Bytes) (cons : List Bytes) (frag : Bytes) (fin : RErr) :
    (scanL s fwd cons [(frag, some fin)]).s.gs.length ≤ s.gs.length + 1 := by
  rcases scanL_last_step s fwd cons frag fin with h | ⟨b, e1, hsc⟩
  · rw [h]; omega
  · exact (scan_gsEffect hsc).length_le.2

/-- in the body of a race report, the cut run leaves every goroutine alone but the one being
written and the one a cut creation header selects -/
theorem scanL_last_untouched (s : S) (fwd : Bytes) (cons : List Bytes) (frag : Bytes) (fin : RErr)
    (hb : s.st.isRaceBody = true) (i : Nat) (hi : i < s.gs.length) (hw : raceWriting s ≠ some i)
    (hh : (scanL s fwd cons [(frag, some fin)]).s.st = .gotRaceGoroutineHeader →
      (scanL s fwd cons [(frag, some fin)]).s.gi ≠ i) :
    (scanL s fwd cons [(frag, some fin)]).s.gs[i]? = s.gs[i]? := by
  rcases scanL_last_step s fwd cons frag fin with h | ⟨b, e1, hsc⟩
  · rw [h]
  · exact (scan_rstep hsc (Or.inl hb)).untouched i hi hw hh

/-- a decidable form of "this line is not a creation header naming `id`" -/
theorem raceGor_ne_of_map {r : Option (Option Nat × Bytes)} {id : Nat}
    (h : r.map (·.1) ≠ some (some id)) : ∀ stt, r ≠ some (some id, stt) := by
  intro stt hc
  rw [hc] at h
  exact h rfl

theorem isRace_not_body {st : St} (hr : st.isRace = true) (hb : ¬ st.isRaceBody = true) :
    st = .gotRaceHeader1 ∨ st = .gotRaceHeader2 := by
  revert hr hb; cases st <;> decide

end PP
