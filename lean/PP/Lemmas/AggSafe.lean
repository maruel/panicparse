import PP.Model.Aggregate
import PP.Lemmas.SigLaws
/-
The merge-shape replay of `aggregateSafe` always succeeds (C03, section 5).
-/
namespace PP

theorem aggregateSafe_go (l : Lvl) (bs : List Bkt) (i : Nat) (gs : List Goroutine) :
    aggregateSafe.go l bs i gs = true := by
  induction gs generalizing bs i with
  | nil => rfl
  | cons g gs ih =>
    simp only [aggregateSafe.go, Bool.and_eq_true, List.all_eq_true, Bool.or_eq_true, Bool.not_eq_true']
    refine ⟨fun b _ => ?_, ih _ _⟩
    cases hs : Signature.similar l b.key g.sig with
    | false => exact Or.inl rfl
    | true => exact Or.inr (Signature.similar_shapeOK l _ _ hs)

end PP
