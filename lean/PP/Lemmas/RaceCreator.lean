import PP.Lemmas.ScanStep
/-
The "created at" section of a race report (`Goroutine N (state) created at:`):
the goroutine it names is looked up by id among the goroutines that took part
in an operation; an unknown id is an error, a known id selects the FIRST
goroutine with that id, and the following `createdBy` edits touch only that one.
-/
namespace PP
open Bytes

theorem findIdx?_none_of_forall {α} (p : α → Bool) (l : List α) (h : ∀ x ∈ l, p x = false) :
    l.findIdx? p = none :=
  List.findIdx?_eq_none_iff.mpr h

theorem findIdx?_append_cons_first {α} (p : α → Bool) (pre : List α) (g : α) (post : List α)
    (hpre : ∀ x ∈ pre, p x = false) (hg : p g = true) :
    (pre ++ g :: post).findIdx? p = some pre.length := by
  rw [List.findIdx?_append, findIdx?_none_of_forall p pre hpre, List.findIdx?_cons]
  simp [hg]

theorem modifyAt_append_cons (pre : List Goroutine) (g : Goroutine) (post : List Goroutine)
    (f : Goroutine → Goroutine) :
    modifyAt (pre ++ g :: post) pre.length f = some (pre ++ f g :: post) := by
  unfold modifyAt
  have hlt : pre.length < (pre ++ g :: post).length := by simp
  rw [dif_pos hlt]
  have hget : (pre ++ g :: post)[pre.length] = g := by simp
  rw [hget, List.set_append_right _ _ (Nat.le_refl _)]
  simp

/-- in `betweenRaceOperations` (when the line is not a "Previous read/write" header) and in
`betweenRaceGoroutines`, `scan` is `raceGorStep`: of the line it reads the field `raceGor` only -/
theorem scan_between_eq (s : S) (l : Line)
    (hst : s.st = .betweenRaceOperations ∨ s.st = .betweenRaceGoroutines) (hind : l.indentOK = true)
    (hprev : s.st = .betweenRaceOperations → l.racePrev = none) : scan s l = raceGorStep s l := by
  rcases hst with h | h
  · rw [scan_betweenRaceOperations h hind, hprev h]
  · exact scan_betweenRaceGoroutines h hind

/-- a 'created at' section naming a goroutine that took part in no operation is an error,
never a misattribution.  These states do not look at `hasEOL` (only `looking` and `done` do), so
the last line of an input without its newline behaves the same. -/
theorem raceGor_unknown (s : S) (l : Line) (id : Nat) (stt : Bytes)
    (hst : s.st = .betweenRaceOperations ∨ s.st = .betweenRaceGoroutines) (hind : l.indentOK = true)
    (hprev : s.st = .betweenRaceOperations → l.racePrev = none)
    (hg : l.raceGor = some (some id, stt))
    (hno : ∀ g ∈ s.gs, g.id ≠ id) :
    scan s l = .ok (s, false, some .raceUnknownGoroutine) := by
  rw [scan_between_eq s l hst hind hprev, raceGorStep, hg]
  have hnone : s.gs.findIdx? (fun g => g.id == id) = none :=
    findIdx?_none_of_forall _ _ (fun g hm => by simpa using hno g hm)
  simp only [hnone]

theorem unknown_creator_is_error (s : S) (l : Line) (id : Nat) (stt : Bytes)
    (hst : s.st = .betweenRaceOperations ∨ s.st = .betweenRaceGoroutines)
    (heol : l.hasEOL = true) (hind : l.indentOK = true)
    (hprev : s.st = .betweenRaceOperations → l.racePrev = none)
    (hg : l.raceGor = some (some id, stt))
    (hno : ∀ g ∈ s.gs, g.id ≠ id) :
    scan s l = .ok (s, false, some .raceUnknownGoroutine) :=
  raceGor_unknown s l id stt hst hind hprev hg hno

/-- a raceGor line with id `i` modifies only the FIRST goroutine whose id is `i`: its state
becomes `stt`, `gi` points at it, nothing else changes -/
theorem raceGor_first (s : S) (l : Line) (id : Nat) (stt : Bytes)
    (pre : List Goroutine) (g : Goroutine) (post : List Goroutine)
    (hst : s.st = .betweenRaceOperations ∨ s.st = .betweenRaceGoroutines) (hind : l.indentOK = true)
    (hprev : s.st = .betweenRaceOperations → l.racePrev = none)
    (hg : l.raceGor = some (some id, stt))
    (hgs : s.gs = pre ++ g :: post) (hpre : ∀ x ∈ pre, x.id ≠ id) (hid : g.id = id) :
    scan s l = .ok ({ s with st := .gotRaceGoroutineHeader,
                             gs := pre ++ { g with sig := { g.sig with state := stt } } :: post,
                             gi := pre.length }, true, none) := by
  rw [scan_between_eq s l hst hind hprev, raceGorStep, hg]
  have hfind : s.gs.findIdx? (fun g => g.id == id) = some pre.length := by
    rw [hgs]
    exact findIdx?_append_cons_first _ _ _ _ (fun x hm => by simpa using hpre x hm) (by simp [hid])
  have hmod : modifyAt s.gs pre.length (fun g => { g with sig := { g.sig with state := stt } })
      = some (pre ++ { g with sig := { g.sig with state := stt } } :: post) := by
    rw [hgs]
    exact modifyAt_append_cons _ _ _ _
  simp only [hfind, hmod]

theorem creator_lookup_sound (s : S) (l : Line) (id : Nat) (stt : Bytes)
    (pre : List Goroutine) (g : Goroutine) (post : List Goroutine)
    (hst : s.st = .betweenRaceOperations ∨ s.st = .betweenRaceGoroutines)
    (heol : l.hasEOL = true) (hind : l.indentOK = true)
    (hprev : s.st = .betweenRaceOperations → l.racePrev = none)
    (hg : l.raceGor = some (some id, stt))
    (hgs : s.gs = pre ++ g :: post) (hpre : ∀ x ∈ pre, x.id ≠ id) (hid : g.id = id) :
    scan s l = .ok ({ s with st := .gotRaceGoroutineHeader,
                             gs := pre ++ { g with sig := { g.sig with state := stt } } :: post,
                             gi := pre.length }, true, none) :=
  raceGor_first s l id stt pre g post hst hind hprev hg hgs hpre hid

/-- in gotRaceGoroutineHeader/gotRaceGoroutineFile/gotRaceGoroutineFunc every successful step
leaves all goroutines other than index `s.gi` untouched and keeps `gi` -/
theorem race_goroutine_steps_only_gi (s s' : S) (l : Line) (b : Bool) (e : Option Err)
    (hst : s.st = .gotRaceGoroutineHeader ∨ s.st = .gotRaceGoroutineFunc ∨ s.st = .gotRaceGoroutineFile)
    (h : scan s l = .ok (s', b, e)) :
    s'.gi = s.gi ∧ s'.gs.length = s.gs.length ∧ ∀ j, j ≠ s.gi → s'.gs[j]? = s.gs[j]? := by
  refine (?_ : WhenOk (scan s l) fun s' _ _ =>
    s'.gi = s.gi ∧ s'.gs.length = s.gs.length ∧ ∀ j, j ≠ s.gi → s'.gs[j]? = s.gs[j]?) s' b e h
  have keep : ∀ gs', gs' = s.gs → gs'.length = s.gs.length ∧ ∀ j, j ≠ s.gi → gs'[j]? = s.gs[j]? :=
    fun _ h => h ▸ ⟨rfl, fun _ _ => rfl⟩
  have set : ∀ g', (s.gs.set s.gi g').length = s.gs.length ∧ ∀ j, j ≠ s.gi → (s.gs.set s.gi g')[j]? = s.gs[j]? :=
    fun _ => ⟨List.length_set, fun j hj => List.getElem?_set_ne (Ne.symm hj)⟩
  rcases scan_early s l with h0 | h0 | ⟨hi, _⟩
  · rw [h0]; exact whenOk_ok ⟨rfl, keep _ rfl⟩
  · rw [h0]; exact whenOk_ok ⟨rfl, keep _ rfl⟩
  rcases hst with hs | hs | hs
  · rw [scan_gotRaceGoroutineHeader hs hi]
    exact raceFuncStep_whenOk (fun _ _ _ _ => ⟨rfl, set _⟩) (fun _ => ⟨rfl, keep _ rfl⟩)
  · rw [scan_gotRaceGoroutineFunc hs hi]
    split
    · split
      · exact whenOk_error
      · split
        · exact whenOk_ok ⟨rfl, set _⟩
        · exact whenOk_ok ⟨rfl, keep _ rfl⟩
        · exact whenOk_ok ⟨rfl, keep _ rfl⟩
    · exact whenOk_error
  · rw [scan_gotRaceGoroutineFile hs hi]
    split
    · exact whenOk_ok ⟨rfl, keep _ rfl⟩
    · split
      · exact whenOk_ok ⟨rfl, keep _ rfl⟩
      · exact raceFuncStep_whenOk (fun _ _ _ _ => ⟨rfl, set _⟩) (fun _ => ⟨rfl, keep _ rfl⟩)

#print axioms unknown_creator_is_error
#print axioms creator_lookup_sound
#print axioms race_goroutine_steps_only_gi

end PP
