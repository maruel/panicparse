import PP.Model.Loop
import PP.Lemmas.ScanStep
/-
The scanner invariant (C03): relation between the state enum and the
structure the Go code indexes into, plus the `first` flags.
-/
namespace PP
open Bytes

/-- only the first flag is set -/
def FirstL : List Bool → Prop
  | [] => True
  | b :: t => b = true ∧ ∀ x ∈ t, x = false

/-- `gs` is empty, or its head is `first` and no other element is -/
def FirstOK (gs : List Goroutine) : Prop := FirstL (gs.map (·.first))

/-- `gs` has a last element, which satisfies `P` -/
def LastP (P : Goroutine → Prop) (gs : List Goroutine) : Prop := ∃ init g, gs = init ++ [g] ∧ P g

/-- what each state of the scanner asks of `gs` and `gi`, so that the indexing the Go code
does in that state is in range -/
def InvAt (st : St) (gs : List Goroutine) (gi : Nat) : Prop :=
  match st with
  | .done => True
  | .looking | .gotRaceHeader1 | .gotRaceHeader2 => gs = []
  | .betweenRoutine | .gotRoutineHeader | .gotFileFunc | .gotFileCreated | .gotUnavail
  | .gotRaceOperationHeader | .gotRaceOperationFile
  | .betweenRaceOperations | .betweenRaceGoroutines => gs ≠ []
  | .gotFunc | .gotRaceOperationFunc => LastP (fun g => g.sig.stack.calls ≠ []) gs
  | .gotCreated => LastP (fun g => g.sig.createdBy.calls ≠ []) gs
  | .gotRaceGoroutineHeader | .gotRaceGoroutineFile => gi < gs.length
  | .gotRaceGoroutineFunc => ∃ h : gi < gs.length, gs[gi].sig.createdBy.calls ≠ []

def Inv (s : S) : Prop := InvAt s.st s.gs s.gi ∧ FirstOK s.gs

/-- a step that does not panic and re-establishes the invariant -/
def StepOK (r : R) : Prop := ∃ s' p e, r = .ok (s', p, e) ∧ Inv s'

theorem stepOK_ok {s' : S} {p : Bool} {e : Option Err} (h : Inv s') : StepOK (.ok (s', p, e)) :=
  ⟨s', p, e, rfl, h⟩

theorem firstL_snoc (bs : List Bool) (h : FirstL bs) : FirstL (bs ++ [bs.isEmpty]) := by
  cases bs with
  | nil => simp [FirstL]
  | cons b t =>
    simp only [FirstL] at h
    simp only [List.cons_append, FirstL, List.isEmpty_cons, List.mem_append, List.mem_singleton]
    refine ⟨h.1, ?_⟩
    intro x hx
    rcases hx with hx | hx
    · exact h.2 x hx
    · exact hx

theorem firstOK_nil : FirstOK [] := by simp [FirstOK, FirstL]

theorem firstOK_snoc (gs : List Goroutine) (g : Goroutine) (h : FirstOK gs) (hg : g.first = gs.isEmpty) :
    FirstOK (gs ++ [g]) := by
  have := firstL_snoc _ h
  simpa [FirstOK, hg] using this

theorem firstOK_singleton (g : Goroutine) (hg : g.first = true) : FirstOK [g] := by
  simp [FirstOK, FirstL, hg]

theorem firstOK_get (gs : List Goroutine) (h : FirstOK gs) (i : Nat) (hi : i < gs.length) :
    gs[i].first = (i == 0) := by
  cases gs with
  | nil => simp at hi
  | cons g t =>
    simp only [FirstOK, List.map_cons, FirstL] at h
    cases i with
    | zero => simpa using h.1
    | succ j =>
      have hj : j < t.length := by simpa using hi
      have : t[j].first = false := h.2 _ (by simp only [List.mem_map]; exact ⟨t[j], List.getElem_mem _, rfl⟩)
      simpa using this

theorem setStack_first (g : Goroutine) (f) : (setStack g f).first = g.first := rfl
theorem setCreated_first (g : Goroutine) (f) : (setCreated g f).first = g.first := rfl

theorem firstOK_snoc_congr {init : List Goroutine} {g : Goroutine} (h : FirstOK (init ++ [g]))
    (g' : Goroutine) (hg : g'.first = g.first) : FirstOK (init ++ [g']) := by
  simpa [FirstOK, hg] using h

theorem firstOK_set {gs : List Goroutine} (h : FirstOK gs) (i : Nat) (hi : i < gs.length) (g' : Goroutine)
    (hg : g'.first = gs[i].first) : FirstOK (gs.set i g') := by
  have : (gs.set i g').map (·.first) = gs.map (·.first) := by
    rw [List.map_set, hg]
    have : gs[i].first = (gs.map (·.first))[i]'(by simpa using hi) := by simp
    rw [this, List.set_getElem_self]
  simpa [FirstOK, this] using h

theorem findIdx?_lt {gs : List Goroutine} {p : Goroutine → Bool} {i : Nat}
    (h : gs.findIdx? p = some i) : i < gs.length :=
  (List.findIdx?_eq_some_iff_getElem.mp h).1

theorem initLast_getD_ne_nil (cs : List Call) (pl : Bytes × Nat) (h : cs ≠ []) :
    (initLast cs pl).getD cs ≠ [] := by
  obtain ⟨init, c, rfl⟩ := exists_snoc_of_ne_nil h
  simp [initLast_snoc]

theorem Inv.at {s : S} (h : Inv s) {st : St} (hs : s.st = st) : InvAt st s.gs s.gi := hs ▸ h.1

/-- an edit of the last goroutine that keeps `first`: the new state's structure is all there is to show -/
theorem stepOK_last {s : S} {init : List Goroutine} {g g' : Goroutine} {st' : St} {p : Bool}
    {e : Option Err} (hgs : s.gs = init ++ [g]) (hF : FirstOK s.gs)
    (hI : InvAt st' (init ++ [g']) s.gi) (hg : g'.first = g.first := by rfl) :
    StepOK (.ok ({ s with st := st', gs := init ++ [g'] }, p, e)) :=
  stepOK_ok ⟨hI, firstOK_snoc_congr (hgs ▸ hF) g' hg⟩

theorem funcStep_stepOK {s : S} (r : Option (Call × Option Err)) (next : St) (orElse : R)
    (hgs : s.gs ≠ []) (hF : FirstOK s.gs)
    (hnext : ∀ gs', LastP (fun g => g.sig.stack.calls ≠ []) gs' → InvAt next gs' s.gi)
    (hor : StepOK orElse) : StepOK (funcStep s r next orElse) := by
  obtain ⟨init, g, hgs⟩ := exists_snoc_of_ne_nil hgs
  rcases r with _ | ⟨c, e⟩
  · exact hor
  · rw [funcStep_snoc hgs]
    exact stepOK_last hgs hF (hnext _ ⟨init, _, rfl, by simp [setStack]⟩)

theorem createdStep_stepOK {s : S} (r : Except Err Func) (doInit : Bool)
    (hgs : s.gs ≠ []) (hF : FirstOK s.gs) (hst : ∀ gs', gs' ≠ [] → InvAt s.st gs' s.gi) :
    StepOK (createdStep s r doInit) := by
  obtain ⟨init, g, hgs⟩ := exists_snoc_of_ne_nil hgs
  rcases r with e | f
  · rw [createdStep_snoc_error hgs]
    exact stepOK_last hgs hF (hst _ (by simp))
  · rw [createdStep_snoc_ok hgs]
    exact stepOK_last hgs hF ⟨init, _, rfl, by simp [setCreated]⟩

theorem fileStep_stepOK {s : S} (l : Line) (next : St) (orElse : Err) (h : Inv s)
    (hI : LastP (fun g => g.sig.stack.calls ≠ []) s.gs) (hnext : ∀ gs', gs' ≠ [] → InvAt next gs' s.gi) :
    StepOK (fileStep s l next orElse) := by
  obtain ⟨init, g, hgs, hg⟩ := hI
  rw [fileStep, needLastCall_snoc hgs, if_neg (by simpa using hg)]
  dsimp only
  split
  · simp only [hgs, modifyLast_snoc]
    exact stepOK_last hgs h.2 (hnext _ (by simp))
  · exact stepOK_ok h
  · exact stepOK_ok h

theorem raceGorStep_stepOK {s : S} (l : Line) (h : Inv s) : StepOK (raceGorStep s l) := by
  unfold raceGorStep
  split
  · split
    · rename_i i hi
      have hlt := findIdx?_lt hi
      rw [modifyAt_lt _ _ _ hlt]
      exact stepOK_ok ⟨by simpa [InvAt] using hlt, firstOK_set h.2 _ hlt _ rfl⟩
    · exact stepOK_ok h
  · exact stepOK_ok h
  · exact stepOK_ok h

theorem raceFuncStep_stepOK {s : S} (l : Line) (h : Inv s) (hlt : s.gi < s.gs.length) :
    StepOK (raceFuncStep s l) := by
  unfold raceFuncStep
  split
  · rw [modifyAt_lt _ _ _ hlt]
    exact stepOK_ok ⟨⟨by simpa using hlt, by simp [setCreated]⟩, firstOK_set h.2 _ hlt _ rfl⟩
  · exact stepOK_ok h

/-- `gotFileCreated`, `gotUnavail`, `gotRaceOperationFile`, `gotRaceGoroutineFile`: an empty line
ends the section; `gs ≠ []` is all the `between…` state asks for -/
theorem stepOK_between {s : S} (hgs : s.gs ≠ []) (hF : FirstOK s.gs) (st' : St)
    (hst : st' = .betweenRoutine ∨ st' = .betweenRaceOperations ∨ st' = .betweenRaceGoroutines)
    (p : Bool) (e : Option Err) : StepOK (.ok ({ s with st := st' }, p, e)) := by
  rcases hst with rfl | rfl | rfl <;> exact stepOK_ok ⟨hgs, hF⟩

theorem scan_stepOK (s : S) (l : Line) (h : Inv s) : StepOK (scan s l) := by
  rcases scan_early s l with h0 | h0 | ⟨hi, he⟩
  · rw [h0]; exact stepOK_ok h
  · rw [h0]; exact stepOK_ok ⟨trivial, h.2⟩
  cases hs : s.st
  case looking =>
    have hI : s.gs = [] := h.at hs
    rw [scan_looking hs (he.resolve_right fun h => h.1 hs) hi]
    split
    · exact stepOK_ok ⟨by simp [InvAt], firstOK_snoc _ _ h.2 rfl⟩
    · split
      · exact stepOK_ok ⟨hI, h.2⟩
      · exact stepOK_ok h
  case done => rw [scan_done hs hi]; exact stepOK_ok h
  case betweenRoutine =>
    rw [scan_betweenRoutine hs hi]
    split
    · exact stepOK_ok ⟨by simp [InvAt], firstOK_snoc _ _ h.2 rfl⟩
    · exact stepOK_ok ⟨trivial, h.2⟩
  case gotRoutineHeader =>
    have hI : s.gs ≠ [] := h.at hs
    rw [scan_gotRoutineHeader hs hi]
    split
    · obtain ⟨init, g, hgs⟩ := exists_snoc_of_ne_nil hI
      simp only [hgs, modifyLast_snoc]
      exact stepOK_last hgs h.2 (by simp [InvAt])
    · split
      · rename_i hr
        exact absurd (List.reverse_eq_nil_iff.mp hr) hI
      · exact funcStep_stepOK _ _ _ hI h.2 (fun _ h => h) (stepOK_ok h)
  case gotFunc =>
    rw [scan_gotFunc hs hi]
    exact fileStep_stepOK l _ _ h (h.at hs) (fun _ h => h)
  case gotCreated =>
    obtain ⟨init, g, hgs, hg⟩ : LastP _ s.gs := h.at hs
    rw [scan_gotCreated hs hi, needCreated0_snoc hgs, if_neg (by simpa using hg)]
    dsimp only
    split
    · simp only [hgs, modifyLast_snoc]
      exact stepOK_last hgs h.2 (by simp [InvAt])
    · exact stepOK_ok h
    · exact stepOK_ok h
  case gotFileFunc =>
    have hI : s.gs ≠ [] := h.at hs
    rw [scan_gotFileFunc hs hi]
    split
    · exact createdStep_stepOK _ _ hI h.2 (fun _ h => by rw [hs]; exact h)
    · split
      · obtain ⟨init, g, hgs⟩ := exists_snoc_of_ne_nil hI
        simp only [hgs, modifyLast_snoc]
        exact stepOK_last hgs h.2 (by rw [hs]; simp [InvAt])
      · refine funcStep_stepOK _ _ _ hI h.2 (fun _ h => h) ?_
        split
        · exact stepOK_ok ⟨hI, h.2⟩
        · exact stepOK_ok ⟨trivial, h.2⟩
  case gotFileCreated =>
    rw [scan_gotFileCreated hs hi]
    split
    · exact stepOK_between (h.at hs) h.2 _ (Or.inl rfl) _ _
    · exact stepOK_ok ⟨trivial, h.2⟩
  case gotUnavail =>
    have hI : s.gs ≠ [] := h.at hs
    rw [scan_gotUnavail hs hi]
    split
    · exact stepOK_between hI h.2 _ (Or.inl rfl) _ _
    · split
      · exact createdStep_stepOK _ _ hI h.2 (fun _ h => by rw [hs]; exact h)
      · exact stepOK_ok h
  case gotRaceHeader1 =>
    have hI : s.gs = [] := h.at hs
    rw [scan_gotRaceHeader1 hs hi]
    split <;> exact stepOK_ok ⟨hI, h.2⟩
  case gotRaceHeader2 =>
    have hI : s.gs = [] := h.at hs
    rw [scan_gotRaceHeader2 hs hi]
    split
    · rw [hI, if_neg (by simp)]
      exact stepOK_ok ⟨by simp [InvAt], firstOK_singleton _ rfl⟩
    · exact stepOK_ok h
    · exact stepOK_ok h
  case gotRaceOperationHeader =>
    rw [scan_gotRaceOperationHeader hs hi]
    exact funcStep_stepOK _ _ _ (h.at hs) h.2 (fun _ h => h) (stepOK_ok h)
  case gotRaceOperationFunc =>
    rw [scan_gotRaceOperationFunc hs hi]
    exact fileStep_stepOK l _ _ h (h.at hs) (fun _ h => h)
  case gotRaceOperationFile =>
    have hI : s.gs ≠ [] := h.at hs
    rw [scan_gotRaceOperationFile hs hi]
    split
    · exact stepOK_between hI h.2 _ (Or.inr (Or.inl rfl)) _ _
    · exact funcStep_stepOK _ _ _ hI h.2 (fun _ h => h) (stepOK_ok h)
  case betweenRaceOperations =>
    have hI : s.gs ≠ [] := h.at hs
    rw [scan_betweenRaceOperations hs hi]
    split
    · refine stepOK_ok ⟨by simp [InvAt], firstOK_snoc _ _ h.2 ?_⟩
      cases hgs : s.gs with
      | nil => exact absurd hgs hI
      | cons _ _ => rfl
    · exact stepOK_ok h
    · exact raceGorStep_stepOK l h
  case gotRaceGoroutineHeader =>
    rw [scan_gotRaceGoroutineHeader hs hi]
    exact raceFuncStep_stepOK l h (h.at hs)
  case gotRaceGoroutineFunc =>
    obtain ⟨hlt, hc⟩ : ∃ h : s.gi < s.gs.length, s.gs[s.gi].sig.createdBy.calls ≠ [] := h.at hs
    rw [scan_gotRaceGoroutineFunc hs hi, dif_pos hlt, if_neg (by simpa using hc)]
    split
    · exact stepOK_ok ⟨by simpa [InvAt] using hlt, firstOK_set h.2 _ hlt _ rfl⟩
    · exact stepOK_ok h
    · exact stepOK_ok h
  case gotRaceGoroutineFile =>
    have hlt : s.gi < s.gs.length := h.at hs
    rw [scan_gotRaceGoroutineFile hs hi]
    split
    · exact stepOK_between (List.ne_nil_of_length_pos (Nat.zero_lt_of_lt hlt)) h.2 _ (Or.inr (Or.inr rfl)) _ _
    · split
      · exact stepOK_ok ⟨trivial, h.2⟩
      · exact raceFuncStep_stepOK l h hlt
  case betweenRaceGoroutines =>
    rw [scan_betweenRaceGoroutines hs hi]
    exact raceGorStep_stepOK l h

end PP
