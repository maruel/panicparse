import PP.Model.Web
/-
strconv.Atoi (model `atoi`) against a direct specification: optional sign,
one or more ASCII digits, value in the int64 range.
-/
namespace PP
open Bytes

theorem isDigit_iff (c : UInt8) : isDigit c = true ↔ 48 ≤ c.toNat ∧ c.toNat ≤ 57 := by
  unfold isDigit
  simp [UInt8.le_iff_toNat_le]

/-- the digit fold started from `n` -/
def foldDigits (n : Nat) (s : Bytes) : Nat := s.foldl (fun n c => n * 10 + (c.toNat - 48)) n

theorem digitsVal_eq (s : Bytes) : digitsVal s = foldDigits 0 s := by
  simp [digitsVal, foldDigits]

theorem foldDigits_nil (n : Nat) : foldDigits n [] = n := by simp [foldDigits]
theorem foldDigits_cons (n : Nat) (c : UInt8) (t : Bytes) :
    foldDigits n (c :: t) = foldDigits (n * 10 + (c.toNat - 48)) t := by simp [foldDigits]

theorem foldDigits_ge (s : Bytes) : ∀ n, n ≤ foldDigits n s := by
  induction s with
  | nil => intro n; exact Nat.le_refl _
  | cons c t ih =>
    intro n
    rw [foldDigits_cons]
    have := ih (n * 10 + (c.toNat - 48))
    omega

theorem foldDigits_lt_pow (s : Bytes) (hs : s.all isDigit = true) :
    ∀ n, foldDigits n s < (n + 1) * 10 ^ s.length := by
  induction s with
  | nil => intro n; simp [foldDigits_nil]
  | cons c t ih =>
    intro n
    rw [List.all_cons, Bool.and_eq_true] at hs
    have hc := (isDigit_iff c).1 hs.1
    rw [foldDigits_cons, List.length_cons, Nat.pow_succ, Nat.mul_comm (10 ^ t.length) 10, ← Nat.mul_assoc]
    exact Nat.lt_of_lt_of_le (ih hs.2 _) (Nat.mul_le_mul_right _
      (show n * 10 + (c.toNat - 48) + 1 ≤ (n + 1) * 10 by omega))

theorem digitsVal_lt_pow (s : Bytes) (hs : s.all isDigit = true) : digitsVal s < 10 ^ s.length := by
  have := foldDigits_lt_pow s hs 0
  simpa [digitsVal_eq] using this

theorem parseUint10_go_spec (s : Bytes) : ∀ n, n < 2 ^ 64 →
    parseUint10.go ((2 ^ 64 - 1) / 10 + 1) n s =
      if s.all isDigit = true ∧ foldDigits n s < 2 ^ 64 then some (foldDigits n s) else none := by
  induction s with
  | nil => intro n hn; simp [parseUint10.go, foldDigits_nil, hn]
  | cons c t ih =>
    intro n hn
    unfold parseUint10.go
    rw [foldDigits_cons]
    by_cases hc : isDigit c = true
    · have hge := foldDigits_ge t (n * 10 + (c.toNat - 48))
      by_cases hcut : n ≥ (2 ^ 64 - 1) / 10 + 1
      · have : ¬ foldDigits (n * 10 + (c.toNat - 48)) t < 2 ^ 64 := by omega
        simp [hc, hcut, this]
      · by_cases h1 : n * 10 + (c.toNat - 48) ≥ 2 ^ 64
        · have : ¬ foldDigits (n * 10 + (c.toNat - 48)) t < 2 ^ 64 := by omega
          simp [hc, hcut, h1, this]
        · have := ih (n * 10 + (c.toNat - 48)) (by omega)
          simp only [hc, hcut, h1, Bool.not_true, Bool.false_eq_true, if_false, this,
            List.all_cons, Bool.true_and]
    · simp [hc]

theorem parseUint10_spec (s : Bytes) :
    parseUint10 s =
      if s ≠ [] ∧ s.all isDigit = true ∧ digitsVal s < 2 ^ 64 then some (digitsVal s) else none := by
  cases s with
  | nil => simp [parseUint10]
  | cons c t =>
    unfold parseUint10
    simp only []
    rw [parseUint10_go_spec (c :: t) 0 (by decide), ← digitsVal_eq]
    simp

/-- what `strconv.Atoi` accepts: an optional sign, at least one ASCII digit,
nothing else, and a value that fits int64. -/
def atoiSpec (s : Bytes) : Option Int :=
  match s with
  | [] => none
  | c :: t =>
    let d := if c == 45 || c == 43 then t else c :: t
    if d = [] ∨ d.all isDigit = false then none
    else
      let v := digitsVal d
      if c == 45 then (if v ≤ 2 ^ 63 then some (-(v : Int)) else none)
      else (if v < 2 ^ 63 then some (v : Int) else none)

theorem parseInt10_eq_spec (s : Bytes) : parseInt10 s = atoiSpec s := by
  cases s with
  | nil => rfl
  | cons c t =>
    unfold parseInt10 atoiSpec
    simp only []
    generalize hd : (if (c == 43 || c == 45) = true then t else c :: t) = d
    have hd' : (if (c == 45 || c == 43) = true then t else c :: t) = d := by
      rw [← hd]; rw [Bool.or_comm]
    rw [hd', parseUint10_spec]
    by_cases hnil : d = []
    · simp [hnil]
    by_cases hall : d.all isDigit = true
    · by_cases hneg : (c == 45) = true
      · by_cases h64 : digitsVal d < 2 ^ 64
        · by_cases h63 : digitsVal d ≤ 2 ^ 63
          · have : ¬ digitsVal d > 2 ^ 63 := by omega
            simp [hnil, hall, hneg, h64, h63, this]
          · have : digitsVal d > 2 ^ 63 := by omega
            simp [hnil, hall, hneg, h64, h63, this]
        · have : ¬ digitsVal d ≤ 2 ^ 63 := by omega
          simp [hnil, hall, hneg, h64, this]
      · by_cases h64 : digitsVal d < 2 ^ 64
        · by_cases h63 : digitsVal d < 2 ^ 63
          · have : ¬ digitsVal d ≥ 2 ^ 63 := by omega
            simp [hnil, hall, hneg, h64, h63, this]
          · have : digitsVal d ≥ 2 ^ 63 := by omega
            simp [hnil, hall, hneg, h64, h63, this]
        · have : ¬ digitsVal d < 2 ^ 63 := by omega
          simp [hnil, hall, hneg, h64, this]
    · have hall' : d.all isDigit = false := by simpa using hall
      simp [hnil, hall']

theorem atoiFast_eq_spec (s : Bytes) (hlen : s.length < 19) : atoiFast s = atoiSpec s := by
  cases s with
  | nil => rfl
  | cons c t =>
    unfold atoiFast atoiSpec
    simp only []
    generalize hd : (if (c == 45 || c == 43) = true then t else c :: t) = d
    have hdlen : d.length < 19 := by
      rw [← hd]; split
      · simp only [List.length_cons] at hlen; omega
      · exact hlen
    by_cases hnil : d = []
    · have hs : (c == 45 || c == 43) = true := by
        have h := hd.trans hnil
        split at h
        · assumption
        · cases h
      simp [hnil, hs]
    · have hl : ¬ d.length < 1 := by
        cases d with
        | nil => exact absurd rfl hnil
        | cons _ _ => simp
      by_cases hall : d.all isDigit = true
      · have hv := digitsVal_lt_pow d hall
        have hp : 10 ^ d.length ≤ 10 ^ 18 := Nat.pow_le_pow_right (by decide) (by omega)
        have h63 : digitsVal d < 2 ^ 63 := by
          have : (10 : Nat) ^ 18 < 2 ^ 63 := by decide
          omega
        have h63' : digitsVal d ≤ 2 ^ 63 := by omega
        by_cases hneg : (c == 45) = true
        · simp [hnil, hl, hall, hneg, h63']
        · simp [hnil, hl, hall, hneg, h63]
      · have hall' : d.all isDigit = false := by simpa using hall
        simp [hnil, hl, hall']

theorem atoi_eq_spec (s : Bytes) : atoi s = atoiSpec s := by
  unfold atoi
  split
  · rename_i h
    simp only [Bool.and_eq_true, decide_eq_true_eq] at h
    exact atoiFast_eq_spec s h.2
  · exact parseInt10_eq_spec s

theorem isDigit_48 : isDigit 48 = true := by decide
theorem isDigit_49 : isDigit 49 = true := by decide

theorem digits_zeros_append (k : Nat) (t : Bytes) :
    (List.replicate k 48 ++ t).all isDigit = t.all isDigit ∧
      digitsVal (List.replicate k 48 ++ t) = digitsVal t := by
  induction k with
  | zero => exact ⟨rfl, rfl⟩
  -- a leading `0` is a digit and leaves the fold at 0: both sides evaluate it away
  | succ k ih => exact ih

theorem digit_of_val {c d : UInt8} (hc : isDigit c = true) (hd : isDigit d = true)
    (h : c.toNat - 48 = d.toNat - 48) : c = d := by
  have hc := (isDigit_iff c).1 hc
  have hd := (isDigit_iff d).1 hd
  exact UInt8.toNat_inj.1 (by omega)

theorem foldDigits_eq_zero (s : Bytes) (hs : s.all isDigit = true) :
    ∀ n, foldDigits n s = 0 → n = 0 ∧ s = List.replicate s.length 48 := by
  induction s with
  | nil => exact fun n h => ⟨h, rfl⟩
  | cons c t ih =>
    intro n h
    rw [List.all_cons, Bool.and_eq_true] at hs
    obtain ⟨h0, ht⟩ := ih hs.2 (n * 10 + (c.toNat - 48)) h
    have hc : c = 48 := digit_of_val hs.1 isDigit_48 (show c.toNat - 48 = 0 by omega)
    exact ⟨by omega, by rw [hc, List.length_cons, List.replicate_succ, ← ht]⟩

theorem foldDigits_eq_one (s : Bytes) (hs : s.all isDigit = true) :
    ∀ n, foldDigits n s = 1 → (n = 1 ∧ s = []) ∨ (n = 0 ∧ ∃ k, s = List.replicate k 48 ++ [49]) := by
  induction s with
  | nil => exact fun n h => .inl ⟨h, rfl⟩
  | cons c t ih =>
    intro n h
    rw [List.all_cons, Bool.and_eq_true] at hs
    rcases ih hs.2 (n * 10 + (c.toNat - 48)) h with ⟨h1, rfl⟩ | ⟨h0, k, rfl⟩
    · have hc : c = 49 := digit_of_val hs.1 isDigit_49 (show c.toNat - 48 = 1 by omega)
      exact .inr ⟨by omega, 0, by rw [hc]; rfl⟩
    · have hc : c = 48 := digit_of_val hs.1 isDigit_48 (show c.toNat - 48 = 0 by omega)
      exact .inr ⟨by omega, k + 1, by rw [hc]; rfl⟩

theorem digits_zero_iff (d : Bytes) :
    (d ≠ [] ∧ d.all isDigit = true ∧ digitsVal d = 0) ↔ ∃ k, d = List.replicate (k + 1) 48 := by
  constructor
  · rintro ⟨hne, hall, hv⟩
    have := (foldDigits_eq_zero d hall 0 hv).2
    cases d with
    | nil => exact absurd rfl hne
    | cons c t => exact ⟨t.length, this⟩
  · rintro ⟨k, rfl⟩
    have := digits_zeros_append (k + 1) []
    rw [List.append_nil] at this
    exact ⟨List.cons_ne_nil _ _, this⟩

theorem digits_one_iff (d : Bytes) :
    (d ≠ [] ∧ d.all isDigit = true ∧ digitsVal d = 1) ↔ ∃ k, d = List.replicate k 48 ++ [49] := by
  constructor
  · rintro ⟨_, hall, hv⟩
    exact ((foldDigits_eq_one d hall 0 hv).resolve_left fun h => nomatch h.1).2
  · rintro ⟨k, rfl⟩
    exact ⟨List.append_ne_nil_of_right_ne_nil _ (List.cons_ne_nil _ _), digits_zeros_append k [49]⟩

theorem atoiSpec_minus (t : Bytes) (z : Int) :
    atoiSpec (45 :: t) = some z ↔
      (t ≠ [] ∧ t.all isDigit = true) ∧ digitsVal t ≤ 2 ^ 63 ∧ -(digitsVal t : Int) = z := by
  simp [atoiSpec]

theorem atoiSpec_plus (t : Bytes) (z : Int) :
    atoiSpec (43 :: t) = some z ↔
      (t ≠ [] ∧ t.all isDigit = true) ∧ digitsVal t < 2 ^ 63 ∧ (digitsVal t : Int) = z := by
  simp [atoiSpec]

theorem atoiSpec_unsigned (c : UInt8) (t : Bytes) (h45 : c ≠ 45) (h43 : c ≠ 43) (z : Int) :
    atoiSpec (c :: t) = some z ↔
      (c :: t).all isDigit = true ∧ digitsVal (c :: t) < 2 ^ 63 ∧ (digitsVal (c :: t) : Int) = z := by
  simp [atoiSpec, h45, h43]

end PP
