import PP.Model.Loop
import PP.Lemmas.ReaderLemmas
import PP.Props.C09
import PP.Lemmas.ScanStep
/-
Helper lemmas for C09b (the byte-level loop refines the line-level loop) and C02
(stream conservation of the line-level loop).
-/
namespace PP

@[simp] theorem itemsBytes_nil : itemsBytes [] = [] := rfl

@[simp] theorem itemsBytes_cons (d : Bytes) (e : Option RErr) (items : List (Bytes × Option RErr)) :
    itemsBytes ((d, e) :: items) = d ++ itemsBytes items := by
  simp [itemsBytes]

theorem itemsBytes_append (a b : List (Bytes × Option RErr)) :
    itemsBytes (a ++ b) = itemsBytes a ++ itemsBytes b := by
  simp [itemsBytes]

theorem itemsBytes_map_none (ls : List Bytes) :
    itemsBytes (ls.map (fun l => (l, (none : Option RErr)))) = ls.flatten := by
  induction ls with
  | nil => rfl
  | cons l ls ih => simp [ih]

theorem itemsBytes_specLines (bs : Bytes) (fin : RErr) : itemsBytes (specLines bs fin) = bs := by
  have h := splitLines_join bs
  simp only [specLines]
  rw [itemsBytes_append, itemsBytes_map_none]
  simpa using h

/-! ### one `readLine` = the head of `specLines` -/

/-- one `readLine` from a reader satisfying the invariant yields the head item of the canonical
split of what the reader still holds; the new reader holds exactly the remaining items. -/
theorem readLine_item (N retry : Nat) (rd : Rd) (d : Bytes) (e : Option RErr) (rd' : Rd)
    (hG : Good N rd) (hR : maxZeroRun rd.src.sched < retry)
    (h : readLine N retry (lineFuel rd) [] rd = some (.ok (d, e, rd'))) :
    Good N rd' ∧ rd'.src.final = rd.src.final ∧ maxZeroRun rd'.src.sched < retry ∧
    ∃ items, specLines (rd.buf ++ rd.src.rest) rd.src.final = (d, e) :: items ∧
      itemsBytes items = rd'.buf ++ rd'.src.rest ∧
      (e = none → items = specLines (rd'.buf ++ rd'.src.rest) rd'.src.final ∧
        rd'.buf.length + rd'.src.rest.length < rd.buf.length + rd.src.rest.length) := by
  obtain ⟨s1, s2, s3, s4⟩ := readLine_spec_aux N retry _ [] rd d e rd' hG hR (by simp [cutNL]) h
  refine ⟨s1, s2, by omega, ?_⟩
  simp only [List.nil_append] at s4
  rcases s4 with ⟨t0, t1⟩ | ⟨t0, t1, t2, t3, t4, _⟩
  · subst t0
    refine ⟨specLines (rd'.buf ++ rd'.src.rest) rd.src.final, specLines_of_cutNL_some _ t1,
      itemsBytes_specLines _ _, fun _ => ⟨by rw [s2], ?_⟩⟩
    have := cutNL_some_length t1
    simpa using this
  · subst t0
    refine ⟨[], ?_, by simp [t3, t4], fun hh => by simp at hh⟩
    rw [specLines_of_cutNL_none _ t1, t2]

theorem scanL_cons (s : S) (fwd : Bytes) (cons : List Bytes) (d : Bytes) (e : Option RErr)
    (items : List (Bytes × Option RErr)) :
    scanL s fwd cons ((d, e) :: items) =
    if s.st == .done then { s := s, fwd := fwd, consumed := cons, err := none, rest := (d, e) :: items, broke := false }
    else if d.length != 0 then
      match scanBytes s d with
      | .error p => { s := s, fwd := fwd, consumed := cons, err := none, rest := (d, e) :: items, broke := false, panicked := some p }
      | .ok (s', l, e1) =>
        let err := combineErr e e1
        if !l then
          if s'.st != .looking then
            { s := s', fwd := fwd, consumed := cons, err := err, rest := (d, e) :: items, broke := true }
          else if err.isSome then
            { s := s', fwd := fwd ++ d, consumed := cons, err := err, rest := items, broke := false }
          else scanL s' (fwd ++ d) cons items
        else if err.isSome then
          { s := s', fwd := fwd, consumed := cons ++ [d], err := err, rest := items, broke := false }
        else scanL s' fwd (cons ++ [d]) items
    else
      match e with
      | some r => { s := s, fwd := fwd, consumed := cons, err := some (.reader r), rest := items, broke := false }
      | none => scanL s fwd cons items := by
  rw [scanL.eq_def]
  rfl

theorem scanL_done (s : S) (fwd : Bytes) (cons : List Bytes) (items : List (Bytes × Option RErr))
    (hd : (s.st == .done) = true) :
    scanL s fwd cons items =
      { s := s, fwd := fwd, consumed := cons, err := none, rest := items, broke := false } := by
  cases items with
  | nil => rfl
  | cons x items => obtain ⟨d, e⟩ := x; simp [scanL, hd]

/-- a property of the scanner state that every `scanBytes` step on a line of the input keeps
holds of the state the loop ends in -/
theorem scanL_induct (P : S → Prop) (items : List (Bytes × Option RErr))
    (hstep : ∀ s d s' l e1, d ∈ items.map (·.1) → P s → scanBytes s d = .ok (s', l, e1) → P s')
    (s : S) (fwd : Bytes) (cons : List Bytes) (hP : P s) : P (scanL s fwd cons items).s := by
  fun_induction scanL s fwd cons items
  case case6 ih | case8 ih =>
    exact ih (fun s d s' l e1 hd => hstep s d s' l e1 (List.mem_cons_of_mem _ hd))
      (hstep _ _ _ _ _ List.mem_cons_self hP ‹_›)
  case case10 ih => exact ih (fun s d s' l e1 hd => hstep s d s' l e1 (List.mem_cons_of_mem _ hd)) hP
  case case4 | case5 | case7 => exact hstep _ _ _ _ _ List.mem_cons_self hP ‹_›
  all_goals exact hP

theorem combineErr_some (r : RErr) (e1 : Option Err) : (combineErr (some r) e1).isSome = true := by
  cases e1 <;> cases r <;> rfl

/-- the loop goes on only after a line the reader delivered without error -/
theorem reader_none_of_not_isSome {e : Option RErr} {e1 : Option Err}
    (h : ¬ (combineErr e e1).isSome = true) : e = none := by
  cases e with
  | none => rfl
  | some r => exact absurd (combineErr_some r e1) h

/-- what the byte-level loop's outcome has in common with the line-level one -/
def RefinesL (o : OutB) (ol : OutL) : Prop :=
  o.s = ol.s ∧ o.fwd = ol.fwd ∧ o.consumed = ol.consumed ∧ o.err = ol.err ∧
  o.panicked = ol.panicked.isSome ∧ o.suffix.isSome = ol.broke ∧
  (o.suffix.isSome = true → o.rd.buf = []) ∧
  (o.panicked = false → o.suffix.getD [] ++ (o.rd.buf ++ o.rd.src.rest) = itemsBytes ol.rest)

/-- the fuel of `scanSnapshot` suffices: one unit per item plus one -/
theorem scanB_isSome (N retry : Nat) (hN : 0 < N) (fuel : Nat) (s : S) (fwd : Bytes)
    (cons : List Bytes) (rd : Rd) (hG : Good N rd) (hR : maxZeroRun rd.src.sched < retry)
    (hf : rd.buf.length + rd.src.rest.length + 1 ≤ fuel) :
    (scanB N retry fuel s fwd cons rd).isSome = true := by
  fun_induction scanB N retry fuel s fwd cons rd
  case case1 => omega
  case case3 hr =>
    obtain ⟨d, e, rd', h⟩ := readLine_total N retry _ hN hG.1
    rw [h] at hr; cases hr
  -- the loop goes on: the reader has moved past a non-empty line or an empty read without error
  case case8 ih | case10 ih =>
    obtain ⟨g1, _, g3, _, _, _, hnone⟩ := readLine_item N retry _ _ _ _ hG hR ‹_›
    exact ih g1 g3 (by have := (hnone (reader_none_of_not_isSome ‹_›)).2; omega)
  case case12 ih =>
    obtain ⟨g1, _, g3, _, _, _, hnone⟩ := readLine_item N retry _ _ _ _ hG hR ‹_›
    exact ih g1 g3 (by have := (hnone rfl).2; omega)
  all_goals rfl

/-! ### The ghost trace of `scanL` -/

/-- one processed non-empty line: was it withheld (`scan` returned true) or forwarded, and the
scanner state before and after -/
structure Ev where
  withheld : Bool
  line : Bytes
  pre : S
  post : S

/-- the ghost trace of `scanL`: the processed non-empty lines in order.  The line on which the
loop breaks, panics, or stops because the state is `done` is not part of it (it is handed back
in `rest`); empty reads carry no bytes and are skipped. -/
def traceL : S → List (Bytes × Option RErr) → List Ev
  | _, [] => []
  | s, (d, e) :: items =>
    if s.st == .done then []
    else if d.length != 0 then
      match scanBytes s d with
      | .error _ => []
      | .ok (s', l, e1) =>
        if !l then
          if s'.st != .looking then []
          else if (combineErr e e1).isSome then [⟨false, d, s, s'⟩]
          else ⟨false, d, s, s'⟩ :: traceL s' items
        else if (combineErr e e1).isSome then [⟨true, d, s, s'⟩]
        else ⟨true, d, s, s'⟩ :: traceL s' items
    else
      match e with
      | some _ => []
      | none => traceL s items

def fwdOf (t : List Ev) : Bytes := (t.filter (fun ev => !ev.withheld)).flatMap (·.line)
/-- the withheld lines of a trace (what `scanL` collects in `consumed`), in order -/
def consOf (t : List Ev) : List Bytes := (t.filter (·.withheld)).map (·.line)
def bytesOf (t : List Ev) : Bytes := t.flatMap (·.line)

@[simp] theorem fwdOf_nil : fwdOf [] = [] := rfl
@[simp] theorem consOf_nil : consOf [] = [] := rfl
@[simp] theorem bytesOf_nil : bytesOf [] = [] := rfl
@[simp] theorem fwdOf_cons_f (d s s' t) : fwdOf (⟨false, d, s, s'⟩ :: t) = d ++ fwdOf t := by simp [fwdOf]
@[simp] theorem fwdOf_cons_t (d s s' t) : fwdOf (⟨true, d, s, s'⟩ :: t) = fwdOf t := by simp [fwdOf]
@[simp] theorem consOf_cons_f (d s s' t) : consOf (⟨false, d, s, s'⟩ :: t) = consOf t := by simp [consOf]
@[simp] theorem consOf_cons_t (d s s' t) : consOf (⟨true, d, s, s'⟩ :: t) = d :: consOf t := by simp [consOf]
@[simp] theorem bytesOf_cons (ev t) : bytesOf (ev :: t) = ev.line ++ bytesOf t := by simp [bytesOf]

theorem length_eq_nil {d : Bytes} (h : ¬ (d.length != 0) = true) : d = [] := by
  cases d with
  | nil => rfl
  | cons a t => simp at h

/-- `scanL` and its ghost trace: what is forwarded, what is withheld, and conservation -/
theorem scanL_traceL (s : S) (fwd : Bytes) (cons : List Bytes) (items : List (Bytes × Option RErr)) :
    (scanL s fwd cons items).fwd = fwd ++ fwdOf (traceL s items) ∧
    (scanL s fwd cons items).consumed = cons ++ consOf (traceL s items) ∧
    bytesOf (traceL s items) ++ itemsBytes (scanL s fwd cons items).rest = itemsBytes items := by
  induction items generalizing s fwd cons with
  | nil => simp [scanL, traceL]
  | cons x items ih =>
    obtain ⟨d, e⟩ := x
    rw [scanL_cons, traceL.eq_def]
    dsimp only
    by_cases hd : (s.st == .done) = true
    · rw [if_pos hd, if_pos hd]; simp
    · rw [if_neg hd, if_neg hd]
      by_cases hlen : (d.length != 0) = true
      · rw [if_pos hlen, if_pos hlen]
        cases hsc : scanBytes s d with
        | error p => simp
        | ok v =>
          obtain ⟨s', l, e1⟩ := v
          dsimp only
          cases l with
          | false =>
            simp only [Bool.not_false, if_true]
            by_cases hlk : (s'.st != .looking) = true
            · rw [if_pos hlk, if_pos hlk]; simp
            · rw [if_neg hlk, if_neg hlk]
              by_cases herr : (combineErr e e1).isSome = true
              · rw [if_pos herr, if_pos herr]; simp
              · rw [if_neg herr, if_neg herr]
                obtain ⟨i1, i2, i3⟩ := ih s' (fwd ++ d) cons
                simp [i1, i2, i3]
          | true =>
            simp only [Bool.not_true, Bool.false_eq_true, if_false]
            by_cases herr : (combineErr e e1).isSome = true
            · rw [if_pos herr, if_pos herr]; simp
            · rw [if_neg herr, if_neg herr]
              obtain ⟨i1, i2, i3⟩ := ih s' fwd (cons ++ [d])
              simp [i1, i2, i3]
      · rw [if_neg hlen, if_neg hlen]
        have hd0 := length_eq_nil hlen
        subst hd0
        cases e with
        | some r => simp
        | none => simpa using ih s fwd cons


/-- the transition table of `scan`: from state `st`, on a line with features `l`, the result
`(consumed?, next state)`. The first disjunct are the "not consumed" exits common to all states. -/
def Step (st : St) (l : Line) (b : Bool) (st' : St) : Prop :=
  (b = false ∧ (st' = st ∨ st' = .done)) ∨
  match st with
  | .looking => b = true ∧ ((l.header.isSome ∧ st' = .gotRoutineHeader) ∨
      (l.header = none ∧ l.sep = true ∧ st' = .gotRaceHeader1))
  | .done => False
  | .betweenRoutine => b = true ∧ l.header.isSome ∧ st' = .gotRoutineHeader
  | .gotRoutineHeader => (b = true ∧ l.unavail = true ∧ st' = .gotUnavail) ∨ (l.func.isSome ∧ st' = .gotFunc)
  | .gotFunc => b = true ∧ l.file.isSome ∧ st' = .gotFileFunc
  | .gotCreated => b = true ∧ l.file.isSome ∧ st' = .gotFileCreated
  | .gotFileFunc => (b = true ∧ l.created.isSome ∧ st' = .gotCreated) ∨
      (b = true ∧ l.elidedMark = true ∧ st' = .gotFileFunc) ∨ (l.func.isSome ∧ st' = .gotFunc) ∨
      (b = true ∧ l.empty = true ∧ st' = .betweenRoutine)
  | .gotFileCreated => b = true ∧ l.empty = true ∧ st' = .betweenRoutine
  | .gotUnavail => (b = true ∧ l.empty = true ∧ st' = .betweenRoutine) ∨
      (b = true ∧ l.created.isSome ∧ st' = .gotCreated)
  | .gotRaceHeader1 => (b = true ∧ l.warn = true ∧ st' = .gotRaceHeader2) ∨
      (b = false ∧ l.warn = false ∧ st' = .looking)
  | .gotRaceHeader2 => b = true ∧ l.raceOp.isSome ∧ st' = .gotRaceOperationHeader
  | .gotRaceOperationHeader => l.funcL.isSome ∧ st' = .gotRaceOperationFunc
  | .gotRaceOperationFunc => b = true ∧ l.file.isSome ∧ st' = .gotRaceOperationFile
  | .gotRaceOperationFile => (b = true ∧ l.empty = true ∧ st' = .betweenRaceOperations) ∨
      (l.funcL.isSome ∧ st' = .gotRaceOperationFunc)
  | .betweenRaceOperations => b = true ∧ ((l.racePrev.isSome ∧ st' = .gotRaceOperationHeader) ∨
      (l.raceGor.isSome ∧ st' = .gotRaceGoroutineHeader))
  | .betweenRaceGoroutines => b = true ∧ l.raceGor.isSome ∧ st' = .gotRaceGoroutineHeader
  | .gotRaceGoroutineHeader => l.funcL.isSome ∧ st' = .gotRaceGoroutineFunc
  | .gotRaceGoroutineFunc => b = true ∧ l.file.isSome ∧ st' = .gotRaceGoroutineFile
  | .gotRaceGoroutineFile => (b = true ∧ l.empty = true ∧ st' = .betweenRaceGoroutines) ∨
      (b = true ∧ l.sep = true ∧ st' = .done) ∨ (l.funcL.isSome ∧ st' = .gotRaceGoroutineFunc)

theorem scan_step {s s' : S} {l : Line} {b e} (h : scan s l = .ok (s', b, e)) : Step s.st l b s'.st := by
  refine (?_ : ∀ st, s.st = st → WhenOk (scan s l) fun s' b _ => Step st l b s'.st) _ rfl s' b e h
  intro st hs
  have stay : ∀ _ : Err, Step st l false s.st := fun _ => Or.inl ⟨rfl, Or.inl hs⟩
  have done : Step st l false .done := Or.inl ⟨rfl, Or.inr rfl⟩
  rcases scan_early s l with h0 | h0 | ⟨hi, he⟩
  · rw [h0]; exact whenOk_ok (stay .internal)
  · rw [h0]; exact whenOk_ok done
  cases st
  case looking =>
    rw [scan_looking hs (he.resolve_right fun h => h.1 hs) hi]
    split
    · rename_i hh; exact whenOk_ok (.inr ⟨rfl, Or.inl ⟨by rw [hh]; rfl, rfl⟩⟩)
    · rename_i hh
      split
      · rename_i hp; exact whenOk_ok (.inr ⟨rfl, Or.inr ⟨hh, hp, rfl⟩⟩)
      · exact whenOk_ok (stay .internal)
  case done => rw [scan_done hs hi]; exact whenOk_ok (stay .internal)
  case betweenRoutine =>
    rw [scan_betweenRoutine hs hi]
    split
    · rename_i hh; exact whenOk_ok (.inr ⟨rfl, by rw [hh]; rfl, rfl⟩)
    · exact whenOk_ok done
  case gotRoutineHeader =>
    rw [scan_gotRoutineHeader hs hi]
    split
    · rename_i hu
      exact modifyLast_whenOk (k := fun gs => ({ s with st := .gotUnavail, gs := gs }, true, none))
        fun _ _ _ => .inr (Or.inl ⟨rfl, hu, rfl⟩)
    · split
      · split
        · exact whenOk_error
        · exact whenOk_ok (stay .internal)
      · exact funcStep_whenOk (whenOk_ok (stay .internal))
          fun _ _ _ _ _ hc => .inr (Or.inr ⟨by rw [hc]; rfl, rfl⟩)
  case gotFunc =>
    rw [scan_gotFunc hs hi]
    exact fileStep_whenOk (fun _ _ _ _ hf => .inr ⟨rfl, by rw [hf]; rfl, rfl⟩) (fun e => stay e)
  case gotCreated =>
    rw [scan_gotCreated hs hi]
    split
    · exact whenOk_error
    · split
      · rename_i hf
        exact modifyLast_whenOk (k := fun gs => ({ s with st := .gotFileCreated, gs := gs }, true, none))
          fun _ _ _ => .inr ⟨rfl, by rw [hf]; rfl, rfl⟩
      · exact whenOk_ok (stay .internal)
      · exact whenOk_ok (stay .internal)
  case gotFileFunc =>
    rw [scan_gotFileFunc hs hi]
    split
    · rename_i hc
      exact createdStep_whenOk (fun _ _ _ _ => .inr (Or.inl ⟨rfl, by rw [hc]; rfl, rfl⟩))
        (fun _ _ e _ => stay e)
    · split
      · rename_i hm
        exact modifyLast_whenOk (k := fun gs => ({ s with gs := gs }, true, none))
          fun _ _ _ => .inr (Or.inr (Or.inl ⟨rfl, hm, hs⟩))
      · refine funcStep_whenOk ?_ fun _ _ _ _ _ hc => .inr (Or.inr (Or.inr (Or.inl ⟨by rw [hc]; rfl, rfl⟩)))
        split
        · rename_i hem; exact whenOk_ok (.inr (Or.inr (Or.inr (Or.inr ⟨rfl, hem, rfl⟩))))
        · exact whenOk_ok done
  case gotFileCreated =>
    rw [scan_gotFileCreated hs hi]
    split
    · rename_i hem; exact whenOk_ok (.inr ⟨rfl, hem, rfl⟩)
    · exact whenOk_ok done
  case gotUnavail =>
    rw [scan_gotUnavail hs hi]
    split
    · rename_i hem; exact whenOk_ok (.inr (Or.inl ⟨rfl, hem, rfl⟩))
    · split
      · rename_i hc
        exact createdStep_whenOk (fun _ _ _ _ => .inr (Or.inr ⟨rfl, by rw [hc]; rfl, rfl⟩))
          (fun _ _ e _ => stay e)
      · exact whenOk_ok (stay .internal)
  case gotRaceHeader1 =>
    rw [scan_gotRaceHeader1 hs hi]
    split
    · rename_i hw; exact whenOk_ok (.inr (Or.inl ⟨rfl, hw, rfl⟩))
    · rename_i hw; exact whenOk_ok (.inr (Or.inr ⟨rfl, by simpa using hw, rfl⟩))
  case gotRaceHeader2 =>
    rw [scan_gotRaceHeader2 hs hi]
    split
    · rename_i hr
      split
      · exact whenOk_error
      · exact whenOk_ok (.inr ⟨rfl, by rw [hr]; rfl, rfl⟩)
    · exact whenOk_ok (stay .internal)
    · exact whenOk_ok (stay .internal)
  case gotRaceOperationHeader =>
    rw [scan_gotRaceOperationHeader hs hi]
    exact funcStep_whenOk (whenOk_ok (stay .internal)) fun _ _ _ _ _ hc => .inr ⟨by rw [hc]; rfl, rfl⟩
  case gotRaceOperationFunc =>
    rw [scan_gotRaceOperationFunc hs hi]
    exact fileStep_whenOk (fun _ _ _ _ hf => .inr ⟨rfl, by rw [hf]; rfl, rfl⟩) (fun e => stay e)
  case gotRaceOperationFile =>
    rw [scan_gotRaceOperationFile hs hi]
    split
    · rename_i hem; exact whenOk_ok (.inr (Or.inl ⟨rfl, hem, rfl⟩))
    · exact funcStep_whenOk (whenOk_ok (stay .internal))
        fun _ _ _ _ _ hc => .inr (Or.inr ⟨by rw [hc]; rfl, rfl⟩)
  case betweenRaceOperations =>
    rw [scan_betweenRaceOperations hs hi]
    split
    · rename_i hp; exact whenOk_ok (.inr ⟨rfl, Or.inl ⟨by rw [hp]; rfl, rfl⟩⟩)
    · exact whenOk_ok (stay .internal)
    · exact raceGorStep_whenOk (fun _ _ _ _ hg _ => .inr ⟨rfl, Or.inr ⟨by rw [hg]; rfl, rfl⟩⟩)
        (fun e => stay e)
  case betweenRaceGoroutines =>
    rw [scan_betweenRaceGoroutines hs hi]
    exact raceGorStep_whenOk (fun _ _ _ _ hg _ => .inr ⟨rfl, by rw [hg]; rfl, rfl⟩) (fun e => stay e)
  case gotRaceGoroutineHeader =>
    rw [scan_gotRaceGoroutineHeader hs hi]
    exact raceFuncStep_whenOk (fun _ _ _ hc => .inr ⟨by rw [hc]; rfl, rfl⟩) (fun e => stay e)
  case gotRaceGoroutineFunc =>
    rw [scan_gotRaceGoroutineFunc hs hi]
    split
    · split
      · exact whenOk_error
      · split
        · rename_i hf; exact whenOk_ok (.inr ⟨rfl, by rw [hf]; rfl, rfl⟩)
        · exact whenOk_ok (stay .internal)
        · exact whenOk_ok (stay .internal)
    · exact whenOk_error
  case gotRaceGoroutineFile =>
    rw [scan_gotRaceGoroutineFile hs hi]
    split
    · rename_i hem; exact whenOk_ok (.inr (Or.inl ⟨rfl, hem, rfl⟩))
    · split
      · rename_i hp; exact whenOk_ok (.inr (Or.inr (Or.inl ⟨rfl, hp, rfl⟩)))
      · exact raceFuncStep_whenOk (fun _ _ _ hc => .inr (Or.inr (Or.inr ⟨by rw [hc]; rfl, rfl⟩)))
          (fun e => stay e)

/-! ### consequences of the transition table -/

/-- states from which `looking` is never reached again -/
def NL (st : St) : Prop := st ≠ .looking ∧ st ≠ .gotRaceHeader1

theorem Step_fwd_looking {st : St} {l : Line} {b : Bool} (h : Step st l b .looking) :
    b = false ∧ (st = .looking ∨ (st = .gotRaceHeader1 ∧ l.warn = false)) := by
  cases st <;> simp [Step] at h ⊢ <;> grind

/-- `gotRaceHeader1` is entered from `looking` only -/
theorem Step_to_rh1 {st : St} {l : Line} {b : Bool} (h : Step st l b .gotRaceHeader1) :
    (b = false ∧ st = .gotRaceHeader1) ∨ st = .looking := by
  cases st <;> simp [Step] at h ⊢ <;> grind

theorem Step_NL {st st' : St} {l : Line} {b : Bool} (h : Step st l b st') (hn : NL st) : NL st' := by
  refine ⟨fun h0 => ?_, fun h0 => ?_⟩
  · rcases (Step_fwd_looking (h0 ▸ h)).2 with h1 | ⟨h1, _⟩
    · exact hn.1 h1
    · exact hn.2 h1
  · rcases Step_to_rh1 (h0 ▸ h) with ⟨_, h1⟩ | h1
    · exact hn.2 h1
    · exact hn.1 h1

/-- a withheld line leaves every state but `looking` in a state from which nothing is forwarded -/
theorem Step_withheld_NL {st st' : St} {l : Line} (h : Step st l true st') (hn : st ≠ .looking) : NL st' := by
  refine ⟨fun h0 => ?_, fun h0 => ?_⟩
  · exact Bool.noConfusion (Step_fwd_looking (h0 ▸ h)).1
  · rcases Step_to_rh1 (h0 ▸ h) with ⟨h1, _⟩ | h1
    · exact Bool.noConfusion h1
    · exact hn h1

theorem Step_rh1_withheld {st' : St} {l : Line} (h : Step .gotRaceHeader1 l true st') :
    st' = .gotRaceHeader2 ∧ l.warn = true := by
  simp [Step] at h; grind

theorem Step_looking_withheld {st' : St} {l : Line} (h : Step .looking l true st') :
    (l.header.isSome ∧ st' = .gotRoutineHeader) ∨ (l.header = none ∧ l.sep = true ∧ st' = .gotRaceHeader1) := by
  simp [Step] at h; grind

/-- in state `looking`, a line that is neither a goroutine header nor a race separator is
not processed and leaves the state untouched -/
theorem scan_looking_plain (s : S) (l : Line) (hs : s.st = .looking) (hi : l.indentOK = true)
    (hh : l.header = none) (hp : l.sep = false) : scan s l = .ok (s, false, none) := by
  cases he : l.hasEOL
  · exact scan_noEOL he (Or.inl hs)
  · rw [scan_looking hs he hi, hh, hp]; rfl

/-- a line forwarded from `looking` leaves the whole scanner state untouched -/
theorem scan_looking_fwd {s s' : S} {l : Line} {e} (h : scan s l = .ok (s', false, e))
    (hs : s.st = .looking) (hs' : s'.st = .looking) : s' = s ∧ e = none := by
  rcases scan_early s l with h0 | h0 | ⟨hi, he⟩
  · rw [h0] at h; cases h; exact ⟨rfl, rfl⟩
  · rw [h0] at h; cases h; cases hs'
  · rw [scan_looking hs (he.resolve_right fun h => h.1 hs) hi] at h
    split at h
    · cases h
    · split at h <;> cases h
      exact ⟨rfl, rfl⟩

/-- the only other way to forward a line: the line after a lone race separator -/
theorem scan_rh1_fwd {s s' : S} {l : Line} {e} (h : scan s l = .ok (s', false, e))
    (hs : s.st = .gotRaceHeader1) (hs' : s'.st = .looking) :
    s' = { s with st := .looking, pfx := [] } ∧ e = none := by
  rcases scan_early s l with h0 | h0 | ⟨hi, _⟩
  · rw [h0] at h; cases h; rw [hs] at hs'; cases hs'
  · rw [h0] at h; cases h; cases hs'
  · rw [scan_gotRaceHeader1 hs hi] at h
    split at h <;> cases h
    exact ⟨rfl, rfl⟩


/-! ### the trace is a chain of `scan` steps -/

/-- what the loop guarantees about one event -/
def Ev.Valid (ev : Ev) : Prop :=
  (∃ e1, scanBytes ev.pre ev.line = .ok (ev.post, ev.withheld, e1)) ∧ ev.line ≠ [] ∧
  ev.pre.st ≠ .done ∧ (ev.withheld = false → ev.post.st = .looking)

/-- consecutive valid events starting in state `s` -/
inductive Chain : S → List Ev → Prop
  | nil (s : S) : Chain s []
  | cons (ev : Ev) (t : List Ev) : ev.Valid → Chain ev.post t → Chain ev.pre (ev :: t)

theorem traceL_chain (s : S) (items : List (Bytes × Option RErr)) : Chain s (traceL s items) := by
  induction items generalizing s with
  | nil => exact Chain.nil s
  | cons x items ih =>
    obtain ⟨d, e⟩ := x
    rw [traceL.eq_def]
    dsimp only
    by_cases hd : (s.st == .done) = true
    · rw [if_pos hd]; exact Chain.nil s
    · rw [if_neg hd]
      have hd' : s.st ≠ .done := by simpa using hd
      by_cases hlen : (d.length != 0) = true
      · rw [if_pos hlen]
        have hne : d ≠ [] := by intro h0; subst h0; simp at hlen
        cases hsc : scanBytes s d with
        | error p => exact Chain.nil s
        | ok v =>
          obtain ⟨s', l, e1⟩ := v
          dsimp only
          cases l with
          | false =>
            simp only [Bool.not_false, if_true]
            by_cases hlk : (s'.st != .looking) = true
            · rw [if_pos hlk]; exact Chain.nil s
            · rw [if_neg hlk]
              have hlk' : s'.st = .looking := by simpa using hlk
              have hv : Ev.Valid ⟨false, d, s, s'⟩ := ⟨⟨e1, hsc⟩, hne, hd', fun _ => hlk'⟩
              by_cases herr : (combineErr e e1).isSome = true
              · rw [if_pos herr]; exact Chain.cons ⟨false, d, s, s'⟩ [] hv (Chain.nil s')
              · rw [if_neg herr]; exact Chain.cons ⟨false, d, s, s'⟩ _ hv (ih s')
          | true =>
            simp only [Bool.not_true, Bool.false_eq_true, if_false]
            have hv : Ev.Valid ⟨true, d, s, s'⟩ := ⟨⟨e1, hsc⟩, hne, hd', fun h => by simp at h⟩
            by_cases herr : (combineErr e e1).isSome = true
            · rw [if_pos herr]; exact Chain.cons ⟨true, d, s, s'⟩ [] hv (Chain.nil s')
            · rw [if_neg herr]; exact Chain.cons ⟨true, d, s, s'⟩ _ hv (ih s')
      · rw [if_neg hlen]
        cases e with
        | some r => exact Chain.nil s
        | none => exact ih s

theorem Chain.valid {s : S} {t : List Ev} (h : Chain s t) : ∀ ev ∈ t, ev.Valid := by
  induction h with
  | nil => simp
  | cons ev t hv _ ih => exact List.forall_mem_cons.mpr ⟨hv, ih⟩

theorem Ev.Valid.step {ev : Ev} (h : ev.Valid) :
    Step ev.pre.st (classify ev.pre.pfx ev.line) ev.withheld ev.post.st := by
  obtain ⟨⟨e1, h1⟩, _⟩ := h
  exact scan_step h1

theorem Chain.head_pre {s : S} {ev : Ev} {t : List Ev} (h : Chain s (ev :: t)) :
    ev.pre = s ∧ ev.Valid ∧ Chain ev.post t := by
  cases h with
  | cons _ _ hv ht => exact ⟨rfl, hv, ht⟩

theorem Chain.adjacent {s : S} {t1 : List Ev} {ev1 ev2 : Ev} {t2 : List Ev}
    (h : Chain s (t1 ++ ev1 :: ev2 :: t2)) : ev2.pre = ev1.post := by
  induction t1 generalizing s with
  | nil =>
    obtain ⟨_, _, h2⟩ := Chain.head_pre h
    exact (Chain.head_pre h2).1
  | cons x t1 ih =>
    obtain ⟨_, _, h2⟩ := Chain.head_pre h
    exact ih h2

/-- once the state is neither `looking` nor `gotRaceHeader1`, nothing is forwarded any more -/
theorem Chain.NL_withheld {s : S} {t : List Ev} (h : Chain s t) (hn : NL s.st) :
    ∀ ev ∈ t, ev.withheld = true := by
  induction h with
  | nil => simp
  | cons ev t hv _ ih =>
    have hst := Step_NL hv.step hn
    have hw : ev.withheld = true := by
      cases hw : ev.withheld with
      | true => rfl
      | false => exact absurd (hv.2.2.2 hw) hst.1
    exact List.forall_mem_cons.mpr ⟨hw, ih hst⟩

/-- shape of a trace: a withheld line that is later followed by a forwarded one is a race
separator consumed in state `looking`, and the very next line is the forwarded one (it is not
the `WARNING: DATA RACE` line). -/
theorem Chain.shape {s : S} {t : List Ev} (h : Chain s t) :
    ∀ t1 ev t2, t = t1 ++ ev :: t2 → ev.withheld = true → (∃ f ∈ t2, f.withheld = false) →
      ev.pre.st = .looking ∧ ev.post.st = .gotRaceHeader1 ∧
      (classify ev.pre.pfx ev.line).sep = true ∧ (classify ev.pre.pfx ev.line).header = none ∧
      ∃ f t3, t2 = f :: t3 ∧ f.withheld = false ∧ f.pre = ev.post ∧
        (classify f.pre.pfx f.line).warn = false ∧ f.post.st = .looking := by
  induction h with
  | nil => intro t1 ev t2 h; simp at h
  | cons ev0 t hv ht ih =>
    intro t1 ev t2 heq hw hf
    cases t1 with
    | cons x t1 =>
      simp at heq
      exact ih t1 ev t2 heq.2 hw hf
    | nil =>
      simp at heq
      obtain ⟨rfl, rfl⟩ := heq
      obtain ⟨f, hf2, hfw⟩ := hf
      have hstep := hv.step
      rw [hw] at hstep
      -- the state after `ev0` must allow a later forward
      have hnotNL : ¬ NL ev0.post.st := fun hn => by
        have := Chain.NL_withheld ht hn f hf2
        rw [hfw] at this; simp at this
      have hpre : ev0.pre.st = .looking :=
        Decidable.byContradiction fun hne => hnotNL (Step_withheld_NL hstep hne)
      rw [hpre] at hstep
      rcases Step_looking_withheld hstep with ⟨_, h2⟩ | ⟨h1, h2, h3⟩
      · exfalso; apply hnotNL; rw [h2]; simp [NL]
      · refine ⟨hpre, h3, h2, h1, ?_⟩
        cases t with
        | nil => simp at hf2
        | cons g t3 =>
          obtain ⟨gp, gv, gt⟩ := Chain.head_pre ht
          have gstep := gv.step
          rw [gp, h3] at gstep
          cases hgw : g.withheld with
          | true =>
            exfalso
            rw [hgw] at gstep
            have g2 := (Step_rh1_withheld gstep).1
            have hall := Chain.NL_withheld gt (by rw [g2]; simp [NL])
            simp at hf2
            rcases hf2 with rfl | hf2
            · rw [hgw] at hfw; simp at hfw
            · have := hall f hf2; rw [hfw] at this; simp at this
          | false =>
            have gl := gv.2.2.2 hgw
            rw [hgw, gl] at gstep
            obtain ⟨_, g3⟩ := Step_fwd_looking gstep
            refine ⟨g, t3, rfl, hgw, gp, ?_, gl⟩
            rcases g3 with g3 | g3
            · simp at g3
            · rw [gp]; exact g3.2


/-! ### streams without a dump -/

theorem classify_nil_indentOK (raw : Bytes) : (classify [] raw).indentOK = true := by
  simp [classify]

/-- a line that starts no dump, seen from the initial state -/
def Plain (d : Bytes) : Prop := (classify [] d).header = none ∧ (classify [] d).sep = false

theorem scanBytes_plain (s : S) (d : Bytes) (hs : s.st = .looking) (hp : s.pfx = []) (h : Plain d) :
    scanBytes s d = .ok (s, false, none) := by
  unfold scanBytes
  rw [hp]
  exact scan_looking_plain s _ hs (classify_nil_indentOK d) h.1 h.2

/-- a plain line met in `looking` is forwarded; the loop goes on unless the reader failed with it -/
theorem scanL_cons_plain (s : S) (hs : s.st = .looking) (hp : s.pfx = []) (fwd : Bytes) (cons : List Bytes)
    (d : Bytes) (e : Option RErr) (items : List (Bytes × Option RErr)) (hd : Plain d) :
    scanL s fwd cons ((d, e) :: items) =
      match e with
      | some r => { s := s, fwd := fwd ++ d, consumed := cons, err := some (.reader r), rest := items, broke := false }
      | none => scanL s (fwd ++ d) cons items := by
  rw [scanL_cons, if_neg (by simp [hs])]
  by_cases hlen : (d.length != 0) = true
  · rw [if_pos hlen, scanBytes_plain s d hs hp hd]
    cases e <;> simp [hs, combineErr]
  · obtain rfl := length_eq_nil hlen
    rw [if_neg hlen]
    cases e <;> simp

/-- the loop on plain lines ending in the item that carries the terminal error -/
theorem scanL_plain (s : S) (hs : s.st = .looking) (hp : s.pfx = []) (fwd : Bytes) (cons : List Bytes)
    (ls : List Bytes) (t : Bytes) (fin : RErr) (hl : ∀ l ∈ ls, Plain l) (ht : Plain t) :
    scanL s fwd cons (ls.map (fun l => (l, none)) ++ [(t, some fin)]) =
      { s := s, fwd := fwd ++ ls.flatten ++ t, consumed := cons, err := some (.reader fin),
        rest := [], broke := false } := by
  induction ls generalizing fwd with
  | nil => simp [scanL_cons_plain s hs hp _ _ _ _ _ ht]
  | cons l ls ih =>
    simp only [List.map_cons, List.cons_append]
    rw [scanL_cons_plain s hs hp _ _ _ _ _ (hl l (by simp)), ih _ fun x hx => hl x (by simp [hx])]
    simp

/-! ### blank lines -/

/-- a line on which every classifier fails except `empty` -/
structure Line.isBlank (l : Line) : Prop where
  indentOK : l.indentOK = true
  empty : l.empty = true
  header : l.header = none
  sep : l.sep = false
  warn : l.warn = false
  unavail : l.unavail = false
  func : l.func = none
  funcL : l.funcL = none
  file : l.file = none
  created : l.created = none
  elidedMark : l.elidedMark = false
  raceOp : l.raceOp = none
  racePrev : l.racePrev = none
  raceGor : l.raceGor = none

/-- the states that consume a blank line are the five "directly after a stack" states, and
they lead to a "between" state -/
theorem Step_blank {st st' : St} {l : Line} (hb : l.isBlank) (h : Step st l true st') :
    ((st = .gotFileFunc ∨ st = .gotFileCreated ∨ st = .gotUnavail) ∧ st' = .betweenRoutine) ∨
    (st = .gotRaceOperationFile ∧ st' = .betweenRaceOperations) ∨
    (st = .gotRaceGoroutineFile ∧ st' = .betweenRaceGoroutines) := by
  cases st <;>
    simp [Step, hb.header, hb.sep, hb.warn, hb.unavail, hb.func, hb.funcL, hb.file, hb.created,
      hb.elidedMark, hb.raceOp, hb.racePrev, hb.raceGor] at h ⊢ <;> first | exact h | exact h.2

/-- the "between" states do not consume a blank line -/
theorem scan_between_blank (s : S) (l : Line) (hb : l.isBlank)
    (hs : s.st = .betweenRoutine ∨ s.st = .betweenRaceOperations ∨ s.st = .betweenRaceGoroutines) :
    ∃ s₂ e₂, scan s l = .ok (s₂, false, e₂) := by
  rcases hs with hs | hs | hs
  · rw [scan_betweenRoutine hs hb.indentOK, hb.header]; exact ⟨_, _, rfl⟩
  · rw [scan_betweenRaceOperations hs hb.indentOK, hb.racePrev, raceGorStep, hb.raceGor]; exact ⟨_, _, rfl⟩
  · rw [scan_betweenRaceGoroutines hs hb.indentOK, raceGorStep, hb.raceGor]; exact ⟨_, _, rfl⟩


/-- every field of `classify` except the end-of-line and indentation flags is a function of
the stripped line `t` -/
theorem classify_spec (pfx raw : Bytes) : ∃ t : Bytes,
    ((classify pfx raw).indentOK = false → t ≠ []) ∧
    (classify pfx raw).empty = t.isEmpty ∧
    (classify pfx raw).header = parseHeader t ∧
    (classify pfx raw).sep = (t == Extracted.raceHeaderFooter) ∧
    (classify pfx raw).warn = (t == Extracted.raceHeader) ∧
    (classify pfx raw).unavail = matchUnavail t ∧
    (classify pfx raw).func = parseFunc t ∧
    (classify pfx raw).funcL = parseFunc (trimLeftSpace t) ∧
    (classify pfx raw).file = parseFile t ∧
    (classify pfx raw).created = (matchCreated t).map (fun n => match funcInit n with | .ok f => .ok f | .error e => .error (Err.ofFErr e)) ∧
    (classify pfx raw).elidedMark = isFramesElidedLine t ∧
    (classify pfx raw).raceOp = parseRaceOp (matchRaceOp t) Extracted.writeCap ∧
    (classify pfx raw).racePrev = parseRaceOp (matchRacePrev t) Extracted.writeLow ∧
    (classify pfx raw).raceGor = (matchRaceGoroutine t).map (fun (d, st) => (atou d, st)) := by
  unfold classify
  dsimp only
  split
  · rename_i hc
    split
    · exact ⟨_, by simp, rfl, rfl, rfl, rfl, rfl, rfl, rfl, rfl, rfl, rfl, rfl, rfl, rfl⟩
    · refine ⟨_, ?_, rfl, rfl, rfl, rfl, rfl, rfl, rfl, rfl, rfl, rfl, rfl, rfl, rfl⟩
      intro _ h0
      simp only at h0
      rw [h0] at hc
      simp at hc
  · exact ⟨_, by simp, rfl, rfl, rfl, rfl, rfl, rfl, rfl, rfl, rfl, rfl, rfl, rfl, rfl⟩

/-! ### the trace as `(withheld?, line)` pairs -/

/-- the ghost trace of `scanL` as pairs: `true` = withheld, `false` = forwarded -/
def trace (s : S) (items : List (Bytes × Option RErr)) : List (Bool × Bytes) :=
  (traceL s items).map (fun ev => (ev.withheld, ev.line))

theorem fwdOf_eq (t : List Ev) :
    fwdOf t = ((t.map (fun ev => (ev.withheld, ev.line))).filter (fun p => !p.1)).flatMap (·.2) := by
  induction t with
  | nil => rfl
  | cons ev t ih =>
    obtain ⟨w, d, s, s'⟩ := ev
    cases w <;> simp [ih]

theorem consOf_eq (t : List Ev) :
    consOf t = ((t.map (fun ev => (ev.withheld, ev.line))).filter (·.1)).map (·.2) := by
  induction t with
  | nil => rfl
  | cons ev t ih =>
    obtain ⟨w, d, s, s'⟩ := ev
    cases w <;> simp [ih]

theorem bytesOf_eq (t : List Ev) :
    bytesOf t = (t.map (fun ev => (ev.withheld, ev.line))).flatMap (·.2) := by
  induction t with
  | nil => rfl
  | cons ev t ih => simp [ih]

/-- on a panic the loop stops with the offending line first in `rest` -/
theorem scanL_panicked (s : S) (fwd : Bytes) (cons : List Bytes) (items : List (Bytes × Option RErr))
    (p : Panic) (h : (scanL s fwd cons items).panicked = some p) :
    ∃ d e rest', (scanL s fwd cons items).rest = (d, e) :: rest' ∧
      scanBytes (scanL s fwd cons items).s d = .error p := by
  fun_induction scanL s fwd cons items
  case case3 hsc => cases h; exact ⟨_, _, _, rfl, hsc⟩
  case case6 ih | case8 ih | case10 ih => exact ih h
  all_goals cases h

/-- a list in which nothing forwarded follows anything withheld splits into a forwarded part
and a withheld part -/
theorem split_of_no_fwd_after_withheld (t : List Ev)
    (h : ∀ t1 ev t2, t = t1 ++ ev :: t2 → ev.withheld = true → ∀ f ∈ t2, f.withheld = true) :
    ∃ F W, t = F ++ W ∧ (∀ f ∈ F, f.withheld = false) ∧ (∀ w ∈ W, w.withheld = true) := by
  induction t with
  | nil => exact ⟨[], [], rfl, by simp, by simp⟩
  | cons ev t ih =>
    cases hw : ev.withheld with
    | true =>
      exact ⟨[], ev :: t, rfl, by simp, List.forall_mem_cons.mpr ⟨hw, h [] ev t rfl hw⟩⟩
    | false =>
      obtain ⟨F, W, h1, h2, h3⟩ := ih (fun t1 e t2 heq => h (ev :: t1) e t2 (by simp [heq]))
      exact ⟨ev :: F, W, by simp [h1], List.forall_mem_cons.mpr ⟨hw, h2⟩, h3⟩


end PP
