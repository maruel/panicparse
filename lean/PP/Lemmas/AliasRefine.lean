import PP.Lemmas.AliasLemmas
/-
Refinement: the heap versions of the `merge` family and of `Aggregate` compute,
read back through `abs…`, what the functional model computes.
-/
namespace PP.Alias

/-! ### pointwise view of `Arg.mergeL` -/

/-- element `j` of `Arg.mergeL A R` -/
def mergeAt (A R : List Arg) (j : Nat) : Option Arg :=
  match A[j]? with
  | none => none
  | some x =>
    match R[j]? with
    | none => some x
    | some y => some (Arg.merge x y)

theorem mergeL_getElem? : ∀ (A R : List Arg) (j : Nat), (Arg.mergeL A R)[j]? = mergeAt A R j
  | [], _, _ => rfl
  | a :: A, [], j => by
    show (a :: A)[j]? = _
    rw [mergeAt]
    cases (a :: A)[j]? <;> rfl
  | _ :: _, _ :: _, 0 => rfl
  | _ :: A, _ :: R, j + 1 => mergeL_getElem? A R j

theorem mergeAt_map {α : Type} (f : α → Arg) {L : List α} (L' : List α) {j : Nat} {x : α}
    (hl : L[j]? = some x) :
    mergeAt (L.map f) (L'.map f) j = some ((L'[j]?).elim (f x) fun y => Arg.merge (f x) (f y)) := by
  simp only [mergeAt, List.getElem?_map, hl, Option.map_some]
  cases L'[j]? <;> rfl

theorem scalarEqual_abs (d : Nat) (h : Heap) (n : Bytes) (v : Nat) (p o i : Bool) (rv : HArg) :
    scalarEqual (.scalar n v p o i) rv = Arg.equal (.scalar n v p o i) (absArg d h rv) := by
  cases rv <;> simp [scalarEqual, absArg, Arg.equal, Arg.similar]

/-- what one nesting level of `Args.merge` guarantees: for inputs that are in range,
only reach addresses in `P` and nest less than `d` deep, the call extends the heap,
its result only reaches `P`-addresses and new cells, and reads back as `Arg.mergeL`. -/
def RecSpec (d : Nat) (rec : Heap → HArgs → HArgs → Heap × HArgs) : Prop :=
  ∀ (P : Addr → Bool) (h : Heap) (a r : HArgs),
    wfArgs P d h a.values = true → wfArgs P d h r.values = true →
    h.Ext (rec h a r).1 ∧
    wfArgs (fun x => P x || decide (h.argCells.length ≤ x)) d (rec h a r).1
      (rec h a r).2.values = true ∧
    absArgsL d (rec h a r).1 (rec h a r).2.values =
      Arg.mergeL (absArgsL d h a.values) (absArgsL d h r.values) ∧
    (rec h a r).2.elided = a.elided ∧ (rec h a r).2.processed = []

/-- loop invariant of `mergeArgsLoop` before iteration `i`: the old heap `h₀` is
intact, the output cell `o` has its `n` slots, and the first `i` of them are
well-formed values that avoid `o` and read back as the first `i` merged elements -/
structure LoopInv (d : Nat) (Q : Addr → Bool) (A R : List Arg) (o n : Nat) (h₀ : Heap)
    (i : Nat) (h : Heap) : Prop where
  ext : h₀.Ext h
  cell : ∃ cur, h.argCells[o]? = some cur ∧ cur.length = n ∧
    ∀ j, j < i → ∃ v, cur[j]? = some v ∧ wfArg Q d h v = true ∧
      some (absArg d h v) = mergeAt A R j

/-- the `cell` field is `Filled` for the arg cells -/
theorem LoopInv.filled {d : Nat} {Q : Addr → Bool} {A R : List Arg} {o n : Nat} {h₀ h : Heap}
    {i : Nat} (inv : LoopInv d Q A R o n h₀ i h) :
    Filled h.argCells o n i fun j v => wfArg Q d h v = true ∧ some (absArg d h v) = mergeAt A R j :=
  inv.cell

/-- committing element `i`: after a pure extension `h → h₁` (the recursive call, or
nothing) write `v` into slot `i` of the output cell -/
theorem LoopInv.commit {d : Nat} {Q : Addr → Bool} {A R : List Arg} {o n : Nat} {h₀ h : Heap}
    {i : Nat} (inv : LoopInv d Q A R o n h₀ i h) (ho : h₀.argCells.length ≤ o)
    (hQ : Q o = false) (hi : i < n) {h₁ : Heap} (e : h.Ext h₁) {v : HArg}
    (hw : wfArg Q d h₁ v = true) (ha : some (absArg d h₁ v) = mergeAt A R i) :
    LoopInv d Q A R o n h₀ (i + 1) (h₁.writeArg o i v) := by
  -- values that do not reach `o` are well-formed and read the same after the write
  have keep : ∀ {h' : Heap}, h'.AgreeOn Q (h₁.writeArg o i v) → ∀ {x : HArg} {t : Option Arg},
      wfArg Q d h' x = true ∧ some (absArg d h' x) = t →
      wfArg Q d (h₁.writeArg o i v) x = true ∧ some (absArg d (h₁.writeArg o i v) x) = t :=
    fun ag _ _ g => have t := wfArg_agree ag d _ g.1; ⟨t.1, (t.2 d).symm ▸ g.2⟩
  have ag₁ := Heap.agreeOn_writeArg Q h₁ hQ i v
  exact ⟨(inv.ext.trans e).writeArg_fresh ho i v,
    inv.filled.commit e.1 hi (keep ag₁ ⟨hw, ha⟩) fun _ _ _ => keep ((e.agreeOn Q).trans ag₁)⟩

theorem argCell_ext_of_wf {P : Addr → Bool} {d : Nat} {h₀ h : Heap} (e : h₀.Ext h) (s : Slice)
    (hw : wfArgs P d h₀ s = true) : h.argCell s = h₀.argCell s :=
  match d, s, hw with
  | _, none, _ => rfl
  | 0, some _, hw => Bool.noConfusion hw
  | _ + 1, some _, hw =>
    have ⟨⟨hP, hl⟩, _⟩ := wfArgs_succ_some_iff.1 hw
    (e.agreeOn P).argCell hP hl

theorem wfArg_of_mem {P : Addr → Bool} {d : Nat} {h : Heap} {s : Slice}
    (hw : wfArgs P (d + 1) h s = true) {x : HArg} (hx : x ∈ h.argCell s) :
    wfArg P d h x = true :=
  match s, hw, hx with
  | none, _, hx => nomatch hx
  | some _, hw, hx => (wfArgs_succ_some_iff.1 hw).2 x hx

/-- addresses a finished element may reach: old `P`-cells below `o`, and cells
newer than `o` — never the output cell `o` itself -/
def avoid (P : Addr → Bool) (o : Addr) : Addr → Bool :=
  fun x => (P x && decide (x < o)) || decide (o < x)

theorem avoid_iff {P : Addr → Bool} {o x : Addr} :
    avoid P o x = true ↔ (P x = true ∧ x < o) ∨ o < x := by
  simp only [avoid, Bool.or_eq_true, Bool.and_eq_true, decide_eq_true_eq]

theorem avoid_self (P : Addr → Bool) (o : Addr) : avoid P o o = false :=
  Bool.eq_false_iff.2 fun h => (avoid_iff.1 h).elim (fun h => Nat.lt_irrefl o h.2) (Nat.lt_irrefl o)

theorem wfArgs_fieldsArgs {P : Addr → Bool} {d : Nat} {h : Heap} {rv : HArg}
    (hw : wfArg P d h rv = true) : wfArgs P d h rv.fieldsArgs.values = true := by
  cases rv with
  | scalar => exact wfArgs_none _ _ _
  | agg fs e => exact hw

theorem merge_agg_abs (d : Nat) (h : Heap) (F : List Arg) (e : Bool) (rv : HArg) :
    Arg.merge (.agg F e) (absArg d h rv) =
      .agg (Arg.mergeL F (absArgsL d h rv.fieldsArgs.values)) e := by
  cases rv with
  | scalar => simp [absArg, Arg.merge, HArg.fieldsArgs, absArgsL_none]
  | agg fs e' => simp [absArg, Arg.merge, HArg.fieldsArgs]

/-- `LoopInv` for the loop of `Args.merge` on the slices `a`, `r` of `h₀`: the output cell
is the first new one, its finished elements reach old `P`-cells and newer cells only -/
abbrev ArgsInv (d : Nat) (P : Addr → Bool) (h₀ : Heap) (a r : Slice) : Nat → Heap → Prop :=
  LoopInv d (avoid P h₀.argCells.length) ((h₀.argCell a).map (absArg d h₀))
    ((h₀.argCell r).map (absArg d h₀)) h₀.argCells.length (h₀.argCell a).length h₀

theorem mergeArgsStep_inv {d : Nat} {rec : Heap → HArgs → HArgs → Heap × HArgs}
    (hrec : RecSpec d rec) {P : Addr → Bool} {h₀ : Heap} {a r : Slice}
    (hwa : wfArgs P (d + 1) h₀ a = true) (hwr : wfArgs P (d + 1) h₀ r = true) {i : Nat} {h : Heap}
    (hi : i < (h₀.argCell a).length) (inv : ArgsInv d P h₀ a r i h) :
    ArgsInv d P h₀ a r (i + 1) (mergeArgsStep rec a r h₀.argCells.length i h) := by
  have hQ := avoid_self P h₀.argCells.length
  have hPQ : ∀ x, P x = true → x < h₀.argCells.length → avoid P h₀.argCells.length x = true :=
    fun x hx hl => avoid_iff.2 (.inl ⟨hx, hl⟩)
  have agQ := inv.ext.agreeOn (avoid P h₀.argCells.length)
  have hl : (h₀.argCell a)[i]? = some ((h₀.argCell a)[i]) := List.getElem?_eq_getElem hi
  generalize (h₀.argCell a)[i] = l at hl
  have hwl := wfArg_mono h₀ hPQ d l (wfArg_of_mem hwa (List.mem_of_getElem? hl))
  have tl := wfArg_agree agQ d l hwl
  have hM := mergeAt_map (absArg d h₀) (h₀.argCell r) hl
  unfold mergeArgsStep
  rw [argCell_ext_of_wf inv.ext a hwa, argCell_ext_of_wf inv.ext r hwr, hl]
  cases hr : (h₀.argCell r)[i]? with
  | none =>
    rw [hr] at hM
    exact inv.commit (Nat.le_refl _) hQ hi (Heap.Ext.refl h) tl.1 ((tl.2 d).symm ▸ hM.symm)
  | some rv =>
    rw [hr] at hM
    have hwrv := wfArg_mono h₀ hPQ d rv (wfArg_of_mem hwr (List.mem_of_getElem? hr))
    cases l with
    | scalar n v p ot ia =>
      have hm : Arg.merge (absArg d h₀ (.scalar n v p ot ia)) (absArg d h₀ rv) =
          if scalarEqual (.scalar n v p ot ia) rv then .scalar n v p ot ia
          else .scalar star v p false false := by
        rw [scalarEqual_abs d h₀]
        simp only [absArg, Arg.merge]
        rfl
      rw [Option.elim_some, hm] at hM
      show LoopInv _ _ _ _ _ _ _ _ (if _ then _ else _)
      split <;> rename_i heq
      · rw [if_pos heq] at hM
        exact inv.commit (Nat.le_refl _) hQ hi (Heap.Ext.refl h) rfl hM.symm
      · rw [if_neg heq] at hM
        exact inv.commit (Nat.le_refl _) hQ hi (Heap.Ext.refl h) rfl hM.symm
    | agg fs e =>
      have tfs := wfArgs_agree agQ d fs hwl
      have trv := wfArgs_agree agQ d _ (wfArgs_fieldsArgs hwrv)
      obtain ⟨e₁, hw₁, ha₁, hel, _⟩ :=
        hrec (avoid P h₀.argCells.length) h { values := fs, elided := e } rv.fieldsArgs tfs.1 trv.1
      refine inv.commit (Nat.le_refl _) hQ hi e₁ ?_ ?_
      · -- cells allocated by the recursive call are newer than the output cell
        refine wfArgs_mono _ (fun x hx _ => ?_) d _ hw₁
        rcases Bool.or_eq_true_iff.1 hx with hx | hx
        · exact hx
        · exact avoid_iff.2 (.inr (Nat.lt_of_lt_of_le inv.filled.lt (of_decide_eq_true hx)))
      · rw [hM]
        show some (Arg.agg (absArgsL d _ _) _) = _
        rw [ha₁, hel, tfs.2 d, trv.2 d]
        exact congrArg some (merge_agg_abs d h₀ (absArgsL d h₀ fs) e rv).symm

theorem mergeArgsH_succ (f : Nat) (h : Heap) (a r : HArgs) :
    mergeArgsH (f + 1) h a r =
      (mergeArgsLoop (mergeArgsH f) a.values r.values h.argCells.length
         (h.argCell a.values).length 0
         (h.allocArgs (List.replicate (h.argCell a.values).length HArg.zero)).1,
       { values := some h.argCells.length, processed := [], elided := a.elided }) := rfl

/-- `Args.merge` over the heap refines `Arg.mergeL`, with fuel = nesting bound -/
theorem mergeArgsH_spec : ∀ d : Nat, RecSpec d (mergeArgsH d)
  | 0 => by
    intro P h a r hwa _
    cases hv : a.values with
    | some x => rw [hv] at hwa; exact Bool.noConfusion hwa
    | none =>
      refine ⟨Heap.Ext.refl h, ?_, ?_, rfl, rfl⟩
      · simp only [mergeArgsH, hv]; exact wfArgs_none _ _ _
      · simp only [mergeArgsH, hv, absArgsL_none, Arg.mergeL]
  | d + 1 => by
    intro P h a r hwa hwr
    have inv0 : ArgsInv d P h a.values r.values 0
        (h.allocArgs (List.replicate (h.argCell a.values).length HArg.zero)).1 :=
      ⟨h.ext_allocArgs _, Filled.init _ _ _ _⟩
    have invn := countedLoop_inv (Inv := ArgsInv d P h a.values r.values)
      (loop := mergeArgsLoop (mergeArgsH d) a.values r.values h.argCells.length)
      (fun _ _ => rfl) (fun _ _ _ => rfl)
      (fun _ _ hi inv => mergeArgsStep_inv (mergeArgsH_spec d) hwa hwr hi inv) _ 0 _
      (Nat.zero_add _) inv0
    rw [mergeArgsH_succ]
    obtain ⟨cur, hc, hlen, hgood⟩ := invn.filled.final
    refine ⟨invn.ext, ?_, ?_, rfl, rfl⟩
    · refine wfArgs_succ_some_iff.2 ⟨⟨?_, invn.filled.lt⟩, fun x hx => ?_⟩
      · exact Bool.or_eq_true_iff.2 (.inr (decide_eq_true (Nat.le_refl _)))
      · rw [Heap.argCell_some hc] at hx
        obtain ⟨j, hj⟩ := List.mem_iff_getElem?.1 hx
        refine wfArg_mono _ (fun y hy _ => ?_) d x (hgood j x hj).1
        rcases avoid_iff.1 hy with hy | hy
        · exact Bool.or_eq_true_iff.2 (.inl hy.1)
        · exact Bool.or_eq_true_iff.2 (.inr (decide_eq_true (Nat.le_of_lt hy)))
    · rw [absArgsL_succ _ _ (some _), Heap.argCell_some hc, absArgsL_succ, absArgsL_succ]
      apply List.ext_getElem?
      intro j
      rw [mergeL_getElem?, List.getElem?_map]
      cases hj : cur[j]? with
      | some x => exact (hgood j x hj).2
      | none =>
        have : (h.argCell a.values).length ≤ j := hlen ▸ List.getElem?_eq_none_iff.1 hj
        simp only [mergeAt, List.getElem?_map, List.getElem?_eq_none this, Option.map_none]

theorem mergeCallH_spec (d : Nat) (h : Heap) (c r : HCall)
    (hwc : wfArgs anyAddr d h c.args.values = true) (hwr : wfArgs anyAddr d h r.args.values = true) :
    h.Ext (mergeCallH d h c r).1 ∧
    wfArgs anyAddr d (mergeCallH d h c r).1 (mergeCallH d h c r).2.args.values = true ∧
    absCall d (mergeCallH d h c r).1 (mergeCallH d h c r).2 =
      Call.merge (absCall d h c) (absCall d h r) := by
  obtain ⟨e, hw, ha, hel, hpr⟩ := mergeArgsH_spec d anyAddr h c.args r.args hwc hwr
  refine ⟨e, wfArgs_mono _ (fun _ _ _ => rfl) d _ hw, ?_⟩
  simp only [mergeCallH, absCall, absArgs, Call.merge, Args.merge, ha, hel, hpr]

def callsMergeAt (C R : List Call) (j : Nat) : Option Call :=
  match C[j]? with
  | none => none
  | some x =>
    match R[j]? with
    | none => some x
    | some y => some (Call.merge x y)

theorem callsMerge_getElem? : ∀ (C R : List Call) (j : Nat), (callsMerge C R)[j]? = callsMergeAt C R j
  | [], _, _ => rfl
  | a :: C, [], j => by
    show (a :: C)[j]? = _
    rw [callsMergeAt]
    cases (a :: C)[j]? <;> rfl
  | _ :: _, _ :: _, 0 => rfl
  | _ :: C, _ :: R, j + 1 => callsMerge_getElem? C R j

theorem callsMergeAt_map {α : Type} (f : α → Call) {L : List α} (L' : List α) {j : Nat} {x : α}
    (hl : L[j]? = some x) :
    callsMergeAt (L.map f) (L'.map f) j =
      some ((L'[j]?).elim (f x) fun y => Call.merge (f x) (f y)) := by
  simp only [callsMergeAt, List.getElem?_map, hl, Option.map_some]
  cases L'[j]? <;> rfl

structure StackInv (d : Nat) (C R : List Call) (o n : Nat) (h₀ : Heap) (i : Nat) (h : Heap) :
    Prop where
  ext : h₀.Ext h
  cell : ∃ cur, h.callCells[o]? = some cur ∧ cur.length = n ∧
    ∀ j, j < i → ∃ v, cur[j]? = some v ∧ wfArgs anyAddr d h v.args.values = true ∧
      some (absCall d h v) = callsMergeAt C R j

theorem StackInv.filled {d : Nat} {C R : List Call} {o n : Nat} {h₀ h : Heap} {i : Nat}
    (inv : StackInv d C R o n h₀ i h) :
    Filled h.callCells o n i fun j v =>
      wfArgs anyAddr d h v.args.values = true ∧ some (absCall d h v) = callsMergeAt C R j :=
  inv.cell

theorem StackInv.commit {d : Nat} {C R : List Call} {o n : Nat} {h₀ h : Heap}
    {i : Nat} (inv : StackInv d C R o n h₀ i h) (ho : h₀.callCells.length ≤ o)
    (hi : i < n) {h₁ : Heap} (e : h.Ext h₁) {v : HCall}
    (hw : wfArgs anyAddr d h₁ v.args.values = true)
    (ha : some (absCall d h₁ v) = callsMergeAt C R i) :
    StackInv d C R o n h₀ (i + 1) (h₁.writeCall o i v) := by
  -- a write to a call cell changes no arg cell
  have keep : ∀ {h' : Heap}, h'.AgreeOn anyAddr (h₁.writeCall o i v) → ∀ {x : HCall} {t : Option Call},
      wfArgs anyAddr d h' x.args.values = true ∧ some (absCall d h' x) = t →
      wfArgs anyAddr d (h₁.writeCall o i v) x.args.values = true ∧
        some (absCall d (h₁.writeCall o i v) x) = t :=
    fun ag _ _ g => ⟨(wfArgs_agree ag d _ g.1).1, (absCall_congr ag g.1 rfl).symm ▸ g.2⟩
  have ag₁ := Heap.agreeOn_writeCall anyAddr h₁ o i v
  exact ⟨(inv.ext.trans e).writeCall_fresh ho i v,
    inv.filled.commit e.2 hi (keep ag₁ ⟨hw, ha⟩) fun _ _ _ => keep ((e.agreeOn _).trans ag₁)⟩

/-- `StackInv` for the loop of `Stack.merge` on `s`, `r` in `h₀` -/
abbrev CallsInv (d : Nat) (h₀ : Heap) (s r : HStack) : Nat → Heap → Prop :=
  StackInv d ((h₀.callCell s.calls).map (absCall d h₀)) ((h₀.callCell r.calls).map (absCall d h₀))
    h₀.callCells.length (h₀.callCell s.calls).length h₀

theorem mergeStackStep_inv {d : Nat} {h₀ : Heap} {s r : HStack}
    (hws : wfStack d h₀ s = true) (hwr : wfStack d h₀ r = true) {i : Nat} {h : Heap}
    (hi : i < (h₀.callCell s.calls).length) (inv : CallsInv d h₀ s r i h) :
    CallsInv d h₀ s r (i + 1) (mergeStackStep d s.calls r.calls h₀.callCells.length i h) := by
  have ag := inv.ext.agreeOn anyAddr
  obtain ⟨hrs, hwcs⟩ := (wfStack_iff d h₀ s).1 hws
  obtain ⟨hrr, hwcr⟩ := (wfStack_iff d h₀ r).1 hwr
  have hl : (h₀.callCell s.calls)[i]? = some ((h₀.callCell s.calls)[i]) :=
    List.getElem?_eq_getElem hi
  generalize (h₀.callCell s.calls)[i] = c at hl
  have hwc := hwcs c (List.mem_of_getElem? hl)
  have hM := callsMergeAt_map (absCall d h₀) (h₀.callCell r.calls) hl
  unfold mergeStackStep
  rw [inv.ext.callCell hrs, inv.ext.callCell hrr, hl]
  cases hr : (h₀.callCell r.calls)[i]? with
  | none =>
    rw [hr] at hM
    exact inv.commit (Nat.le_refl _) hi (Heap.Ext.refl h) (wfArgs_agree ag d _ hwc).1
      ((absCall_congr ag hwc rfl).symm ▸ hM.symm)
  | some rc =>
    rw [hr] at hM
    have hwrc := hwcr rc (List.mem_of_getElem? hr)
    obtain ⟨e₁, hw₁, ha₁⟩ :=
      mergeCallH_spec d h c rc (wfArgs_agree ag d _ hwc).1 (wfArgs_agree ag d _ hwrc).1
    refine inv.commit (Nat.le_refl _) hi e₁ hw₁ ?_
    rw [ha₁, absCall_congr ag hwc rfl, absCall_congr ag hwrc rfl]
    exact hM.symm

theorem mergeStackH_spec (d : Nat) (h : Heap) (s r : HStack)
    (hws : wfStack d h s = true) (hwr : wfStack d h r = true) :
    h.Ext (mergeStackH d h s r).1 ∧
    wfStack d (mergeStackH d h s r).1 (mergeStackH d h s r).2 = true ∧
    absStack d (mergeStackH d h s r).1 (mergeStackH d h s r).2 =
      Stack.merge (absStack d h s) (absStack d h r) := by
  have inv0 : CallsInv d h s r 0
      (h.allocCalls (List.replicate (h.callCell s.calls).length HCall.zero)).1 :=
    ⟨h.ext_allocCalls _, Filled.init _ _ _ _⟩
  have invn := countedLoop_inv (Inv := CallsInv d h s r)
    (loop := mergeStackLoop d s.calls r.calls h.callCells.length)
    (fun _ _ => rfl) (fun _ _ _ => rfl) (fun _ _ hi inv => mergeStackStep_inv hws hwr hi inv)
    _ 0 _ (Nat.zero_add _) inv0
  have hdef : mergeStackH d h s r =
      (mergeStackLoop d s.calls r.calls h.callCells.length (h.callCell s.calls).length 0
         (h.allocCalls (List.replicate (h.callCell s.calls).length HCall.zero)).1,
       { calls := some h.callCells.length, elided := s.elided }) := rfl
  rw [hdef]
  obtain ⟨cur, hc, hlen, hgood⟩ := invn.filled.final
  refine ⟨invn.ext, (wfStack_iff _ _ _).2 ⟨fun a ha => ?_, fun c hc' => ?_⟩, ?_⟩
  · cases ha
    exact invn.filled.lt
  · rw [Heap.callCell_some hc] at hc'
    obtain ⟨j, hj⟩ := List.mem_iff_getElem?.1 hc'
    exact (hgood j c hj).1
  · simp only [absStack, Stack.merge]
    rw [Heap.callCell_some hc]
    congr 1
    apply List.ext_getElem?
    intro j
    rw [callsMerge_getElem?, List.getElem?_map]
    cases hj : cur[j]? with
    | some x => exact (hgood j x hj).2
    | none =>
      have : (h.callCell s.calls).length ≤ j := hlen ▸ List.getElem?_eq_none_iff.1 hj
      simp only [callsMergeAt, List.getElem?_map, List.getElem?_eq_none this, Option.map_none]

theorem mergeSigH_spec (d : Nat) (h : Heap) (s r : HSig)
    (hws : wfSig d h s = true) (hwr : wfSig d h r = true) :
    h.Ext (mergeSigH d h s r).1 ∧
    wfSig d (mergeSigH d h s r).1 (mergeSigH d h s r).2 = true ∧
    absSig d (mergeSigH d h s r).1 (mergeSigH d h s r).2 =
      Signature.merge (absSig d h s) (absSig d h r) := by
  rw [wfSig, Bool.and_eq_true] at hws hwr
  obtain ⟨e, hw, ha⟩ := mergeStackH_spec d h s.stack r.stack hws.2 hwr.2
  have cb := wfStack_read e (Nat.le_refl d) s.createdBy hws.1
  refine ⟨e, ?_, ?_⟩
  · rw [wfSig, Bool.and_eq_true]
    exact ⟨cb.1, hw⟩
  · simp only [mergeSigH, absSig, Signature.merge, cb.2 d d rfl, ha]

/-- all bucket keys only point into the heap -/
def KeysWF (d : Nat) (h : Heap) (bs : List HBkt) : Prop := ∀ b ∈ bs, wfSig d h b.key = true

theorem KeysWF.cons {d : Nat} {h : Heap} {b : HBkt} {bs : List HBkt} :
    KeysWF d h (b :: bs) ↔ wfSig d h b.key = true ∧ KeysWF d h bs :=
  List.forall_mem_cons

theorem KeysWF.ext {d : Nat} {h h' : Heap} (e : h.Ext h') {bs : List HBkt} (hk : KeysWF d h bs) :
    KeysWF d h' bs ∧ bs.map (absBkt d h') = bs.map (absBkt d h) :=
  ⟨fun b hb => (wfSig_ext e d _ (hk b hb)).1,
   List.map_congr_left fun b hb => by simp only [absBkt, (wfSig_ext e d _ (hk b hb)).2 d]⟩

theorem insertGH_spec (d : Nat) (l : Lvl) (h : Heap) (i : Nat) (g : HGoroutine)
    (hwg : wfSig d h g.sig = true) :
    ∀ bs : List HBkt, KeysWF d h bs →
      h.Ext (insertGH d l h bs i g).1 ∧
      KeysWF d (insertGH d l h bs i g).1 (insertGH d l h bs i g).2 ∧
      (insertGH d l h bs i g).2.map (absBkt d (insertGH d l h bs i g).1) =
        insertG l (bs.map (absBkt d h)) i (absGoroutine d h g)
  | [], _ => ⟨Heap.Ext.refl h, KeysWF.cons.2 ⟨hwg, fun _ hb => nomatch hb⟩, rfl⟩
  | b :: rest, hk => by
    obtain ⟨hkb, hkr⟩ := KeysWF.cons.1 hk
    rw [insertGH]
    simp only [List.map_cons, insertG]
    have hsim : similarH d l h b.key g.sig =
        Signature.similar l (absBkt d h b).key (absGoroutine d h g).sig := rfl
    have heq : equalH d h b.key g.sig =
        Signature.equal (absBkt d h b).key (absGoroutine d h g).sig := rfl
    rw [← hsim, ← heq]
    by_cases h1 : similarH d l h b.key g.sig = true
    · rw [if_pos h1, if_pos h1]
      by_cases h2 : equalH d h b.key g.sig = true
      · rw [if_pos h2, if_pos h2]
        exact ⟨Heap.Ext.refl h, KeysWF.cons.2 ⟨hkb, hkr⟩, rfl⟩
      · rw [if_neg h2, if_neg h2]
        obtain ⟨e, hw, ha⟩ := mergeSigH_spec d h b.key g.sig hkb hwg
        have tr := hkr.ext e
        refine ⟨e, KeysWF.cons.2 ⟨hw, tr.1⟩, ?_⟩
        simp only [List.map_cons, tr.2]
        congr 1
        simp only [absBkt, ha]
        rfl
    · rw [if_neg h1, if_neg h1]
      obtain ⟨e, hw, ha⟩ := insertGH_spec d l h i g hwg rest hkr
      have tb := wfSig_ext e d _ hkb
      refine ⟨e, KeysWF.cons.2 ⟨tb.1, hw⟩, ?_⟩
      simp only [List.map_cons, ha]
      congr 1
      simp only [absBkt, tb.2 d]

theorem bucketLoopH_spec (d : Nat) (l : Lvl) :
    ∀ (gs : List HGoroutine) (i : Nat) (h : Heap) (bs : List HBkt),
      HeapWF d h gs → KeysWF d h bs →
      h.Ext (bucketLoopH idHOracle d l i h bs gs).1 ∧
      KeysWF d (bucketLoopH idHOracle d l i h bs gs).1 (bucketLoopH idHOracle d l i h bs gs).2 ∧
      (bucketLoopH idHOracle d l i h bs gs).2.map
          (absBkt d (bucketLoopH idHOracle d l i h bs gs).1) =
        bucketLoop idOracle l i (bs.map (absBkt d h)) (absGoroutines d h gs)
  | [], _, h, _, _, hk => ⟨Heap.Ext.refl h, hk, rfl⟩
  | g :: gs, i, h, bs, hwf, hk => by
    obtain ⟨hwg, hwgs⟩ := List.forall_mem_cons.1 hwf
    obtain ⟨e, hw, ha⟩ := insertGH_spec d l h i g hwg bs hk
    obtain ⟨e', hw', ha'⟩ := bucketLoopH_spec d l gs (i + 1) _ _ (HeapWF.ext e hwgs) hw
    rw [bucketLoopH]
    refine ⟨e.trans e', hw', ?_⟩
    simp only [idHOracle] at ha' ⊢
    rw [ha', ha, absGoroutines_ext e hwgs d]
    simp only [absGoroutines, List.map_cons, bucketLoop, idOracle]

theorem absBucket_toBucket (d : Nat) (h : Heap) (b : HBkt) :
    absBucket d h b.toBucket = (absBkt d h b).toBucket := rfl

/-- the heap after aggregating the same goroutines repeatedly, at the given levels
and with the given map iteration orders -/
def afterAggregations (fuel : Nat) (gs : List HGoroutine) : List (HOracle × Lvl) → Heap → Heap
  | [], h => h
  | (π, l) :: ls, h => afterAggregations fuel gs ls (aggregateHWith π fuel l h gs).1

theorem afterAggregations_ext (fuel : Nat) (gs : List HGoroutine) :
    ∀ (ls : List (HOracle × Lvl)) (h : Heap), h.Ext (afterAggregations fuel gs ls h)
  | [], h => Heap.Ext.refl h
  | (π, l) :: ls, h =>
    (aggregateHWith_ext π fuel l h gs).trans (afterAggregations_ext fuel gs ls _)

end PP.Alias
