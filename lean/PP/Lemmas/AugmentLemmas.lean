import PP.Spec.Encode
/-
Lemmas for C19: classification of the type names the spec produces, the
two's complement round trip, one loop iteration on an encoded value, the
bookkeeping facts about pop / popFmt / popName, and the loop on arbitrary
input, one iteration (`iter`) at a time.
-/
namespace PP.Spec
open PP PP.Bytes PP.Aug

theorem hasPrefix_append (p s : Bytes) : hasPrefix (p ++ s) p = true := by
  induction p with
  | nil => cases s <;> rfl
  | cons a p ih => simp only [List.cons_append, hasPrefix, beq_self_eq_true, ih, Bool.and_self]

/- Once the prefix test is known to succeed, the comparisons with the literal
names before it are decided by evaluation: they fail on the first byte. -/

theorem classify_star (t : Bytes) : classify (b!"*" ++ t) = .star := by
  unfold classify
  rw [hasPrefix_append]
  rfl

theorem classify_slice (t : Bytes) : classify (b!"[]" ++ t) = .slice := by
  unfold classify
  rw [hasPrefix_append b!"[]"]
  rfl

theorem classify_map (k v : Bytes) : classify (b!"map[" ++ k ++ b!"]" ++ v) = .single := by
  unfold classify
  rw [List.append_assoc, List.append_assoc, hasPrefix_append b!"map["]
  rfl

theorem classify_chan (e : Bytes) : classify (b!"chan " ++ e) = .single := by
  unfold classify
  rw [hasPrefix_append b!"chan "]
  rfl

/-- at every width `n ≥ 1`: `v % 2ⁿ` is `v` itself when `0 ≤ v`, and `v + 2ⁿ`,
which lies in the upper half, otherwise -/
theorem toSigned_twos_width (n : Nat) (hn : 0 < n) (v : Int)
    (h1 : -(2 ^ (n - 1) : Int) ≤ v) (h2 : v < (2 ^ (n - 1) : Int)) :
    toSigned n (twos n v) = v := by
  have hn' : 2 ^ n = 2 * 2 ^ (n - 1) := by
    conv => lhs; rw [← Nat.sub_add_cancel hn]
    exact Nat.pow_succ'
  have hc : (2 ^ (n - 1) : Int) = ((2 ^ (n - 1) : Nat) : Int) := by rw [Int.natCast_pow]; rfl
  rw [hc] at h1 h2
  simp only [toSigned, twos, hn']
  generalize 2 ^ (n - 1) = P at h1 h2
  clear hn' hc hn
  rcases Int.lt_or_le v 0 with hv | hv
  · have h0 : 0 ≤ v + (2 * P : Nat) := by omega
    have hu := Int.toNat_of_nonneg h0
    rw [← Int.add_emod_right, Int.emod_eq_of_lt h0 (by omega), Nat.mod_eq_of_lt (by omega), if_neg (by omega), hu]
    omega
  · have hu := Int.toNat_of_nonneg hv
    rw [Int.emod_eq_of_lt hv (by omega), Nat.mod_eq_of_lt (by omega), if_pos (by omega), hu]

theorem toSigned_twos (sz : Sz) (v : Int)
    (h1 : -(2 ^ (sz.bits - 1) : Int) ≤ v) (h2 : v < (2 ^ (sz.bits - 1) : Int)) :
    toSigned sz.bits (twos sz.bits v) = v :=
  toSigned_twos_width sz.bits (by cases sz <;> decide) v h1 h2

theorem flat1_word (v : Nat) : flat1 (word v) = [⟨[], v, false⟩] := rfl

theorem popFmt_word (f : Nat → Bytes) (v : Nat) (rest : List Flat) :
    popFmt f (⟨[], v, false⟩ :: rest) = (f v, rest) := rfl

theorem popName_word (v : Nat) (rest : List Flat) :
    popName (⟨[], v, false⟩ :: rest) = (hexAddr v, rest) := rfl

theorem pop_tail (flat : List Flat) : (pop flat).2 = flat.tail := by
  cases flat <;> rfl

theorem popFmt_tail (f : Nat → Bytes) (flat : List Flat) : (popFmt f flat).2 = flat.tail := by
  cases flat with
  | nil => rfl
  | cons a t => simp only [popFmt, pop]; split <;> rfl

theorem popName_tail (flat : List Flat) : (popName flat).2 = flat.tail := by
  cases flat with
  | nil => rfl
  | cons a t =>
    simp only [popName, pop]
    split
    · rfl
    · split <;> rfl

theorem popNames_drop (n : Nat) (flat : List Flat) : (popNames n flat).2 = flat.drop n := by
  induction n generalizing flat with
  | zero => rfl
  | succ n ih =>
    simp only [popNames]
    rw [ih, popName_tail, List.drop_tail]

theorem popNames_length (n : Nat) (flat : List Flat) : (popNames n flat).1.length = n := by
  induction n generalizing flat with
  | zero => rfl
  | succ n ih => simp only [popNames, List.length_cons, ih]

theorem flat1_encode1_ne (tv : TV) : flat1 (encode1 tv) ≠ [] := by
  cases tv <;> exact List.cons_ne_nil _ _

theorem flat1_encode1_length (tv : TV) : (flat1 (encode1 tv)).length = tv.words := by
  cases tv <;> rfl

instance (tv : TV) : Decidable tv.InRange := by
  cases tv <;> unfold TV.InRange <;> infer_instance

/-- one iteration of the loop on the words of a typed value renders the value
and consumes exactly its words, whatever `call.Args.Values[i:]` is.

On a literal type name the switch and its pops are decided by evaluation, up
to the arithmetic fact of the kind (the word read back with the size of the
type is the value); the names with a variable part need their `classify_*`. -/
theorem render_encode1 (ff : FloatFmt) (vals : List Arg) (rest : List Flat) (tv : TV) (h : tv.InRange) :
    render ff (typeName tv) vals (flat1 (encode1 tv) ++ rest) = (showTV ff tv, rest) := by
  cases tv with
  | bool b => cases b <;> rfl
  | int sz v =>
    have := toSigned_twos sz v h.1 h.2
    cases sz <;> exact congrArg (fun i => (formatInt i, rest)) this
  | uint sz v =>
    have : v % 2 ^ sz.bits = v := Nat.mod_eq_of_lt h
    cases sz <;> exact congrArg (fun w => (formatUint w, rest)) this
  | intUnsized v => exact congrArg (fun i => (formatInt i, rest)) (toSigned_twos .s64 v h.1 h.2)
  | uintUnsized v => exact congrArg (fun w => (formatUint w, rest)) (Nat.mod_eq_of_lt h)
  | uintptr v => exact congrArg (fun w => (formatUint w, rest)) (Nat.mod_eq_of_lt h)
  | byte v => exact congrArg (fun w => (formatUint w, rest)) (Nat.mod_eq_of_lt h)
  | rune v => exact congrArg (fun i => (formatInt i, rest)) (toSigned_twos .s32 v h.1 h.2)
  | f32 b =>
    have hb : b % 2 ^ 32 = b := Nat.mod_eq_of_lt h
    exact congrArg (fun w => (ff.f32 w, rest)) (by rw [hb, hb] : b % 2 ^ 32 % 2 ^ 32 = b)
  | f64 b => exact congrArg (fun w => (ff.f64 w, rest)) (Nat.mod_eq_of_lt h)
  | str p l => rfl
  | slice e p l c => simp only [render, typeName, classify_slice]; rfl
  | ptr t a => simp only [render, typeName, classify_star]; rfl
  | map k v a => simp only [render, typeName, classify_map]; rfl
  | chan e a => simp only [render, typeName, classify_chan]; rfl
  | func a => rfl

theorem flatL_encode_cons (tv : TV) (vs : List TV) :
    flatL (encode (tv :: vs)) = flat1 (encode1 tv) ++ flatL (encode vs) := rfl

theorem augmentLoop_encode (ff : FloatFmt) (last : Option Bytes) (extra : Bool) (vs : List TV)
    (h : ∀ tv ∈ vs, tv.InRange) (fuel : Nat) (hf : vs.length ≤ fuel) (vals : List Arg) :
    augmentLoop ff last extra fuel (vs.map typeName) vals (flatL (encode vs)) = .ok (vs.map (showTV ff)) := by
  induction vs generalizing fuel vals with
  | nil => cases fuel <;> rfl
  | cons tv vs ih =>
    rw [flatL_encode_cons]
    cases hfl : flat1 (encode1 tv) ++ flatL (encode vs) with
    | nil => simp [flat1_encode1_ne] at hfl
    | cons a fl =>
      cases fuel with
      | zero => simp at hf
      | succ fuel =>
        simp only [List.map_cons, augmentLoop]
        rw [← hfl, render_encode1 ff vals (flatL (encode vs)) tv (h tv (by simp))]
        simp only
        rw [ih (fun t ht => h t (by simp [ht])) fuel (by simpa using hf)]
        rfl

/-! ### the loop on arbitrary inputs -/

variable (ff : FloatFmt)

/-- the number of scalars one iteration pops, by the case of the switch -/
def consumed (t : Bytes) (vals : List Arg) : Nat :=
  match classify t, vals with
  | .string, _ => 2
  | .slice, _ => 3
  | .other, .agg fs _ :: _ => (flatL fs).length
  | .other, _ => 2
  | _, _ => 1

theorem render_snd (t : Bytes) (vals : List Arg) (flat : List Flat) :
    (render ff t vals flat).2 = flat.drop (consumed t vals) := by
  unfold render consumed
  generalize classify t = k
  cases k <;> simp only [popFmt_tail, popName_tail, pop_tail, ← List.drop_one, List.drop_drop]
  cases vals with
  | nil => rfl
  | cons v vs =>
    cases v with
    | scalar => rfl
    | agg fs e => exact popNames_drop _ _

theorem consumed_eq_zero {t : Bytes} {vals : List Arg} (h : consumed t vals = 0) :
    ∃ fs e rest, vals = .agg fs e :: rest ∧ flatL fs = [] := by
  unfold consumed at h
  split at h
  · cases h
  · cases h
  · exact ⟨_, _, _, rfl, List.eq_nil_of_length_eq_zero h⟩
  · cases h
  · cases h

/-- the body of the loop: the string appended to `Processed` and the number of
scalars popped; `none` is Go's `types[len(types)-1]` on an empty `types` -/
def iter (last : Option Bytes) (extra : Bool) (tys : List Bytes) (vals : List Arg) (flat : List Flat) :
    Option (Bytes × Nat) :=
  match tys with
  | t :: _ => some ((render ff t vals flat).1, consumed t vals)
  | [] =>
    if extra then last.map fun t => ((render ff t vals flat).1, consumed t vals)
    else some ((popName flat).1, 1)

theorem augmentLoop_succ (last : Option Bytes) (extra : Bool) (fuel : Nat) (tys : List Bytes) (vals : List Arg)
    (a : Flat) (flat : List Flat) :
    augmentLoop ff last extra (fuel + 1) tys vals (a :: flat) =
      match iter ff last extra tys vals (a :: flat) with
      | none => .error .index
      | some r => consOk r.1 (augmentLoop ff last extra fuel tys.tail vals.tail ((a :: flat).drop r.2)) := by
  cases tys with
  | cons t tys' => simp only [iter]; rw [← render_snd ff]; rfl
  | nil =>
    cases extra with
    | false => simp only [iter, Bool.false_eq_true, if_false, List.drop_one, ← popName_tail]; rfl
    | true =>
      cases last with
      | none => rfl
      | some t => simp only [iter, if_true, Option.map_some]; rw [← render_snd ff]; rfl

theorem iter_eq_none {last : Option Bytes} {extra : Bool} {tys : List Bytes} {vals : List Arg} {flat : List Flat}
    (h : iter ff last extra tys vals flat = none) : last = none ∧ extra = true := by
  unfold iter at h
  cases tys with
  | cons t tys' => cases h
  | nil =>
    cases extra with
    | false => cases h
    | true =>
      cases last with
      | none => exact ⟨rfl, rfl⟩
      | some t => cases h

theorem iter_eq_zero {last : Option Bytes} {extra : Bool} {tys : List Bytes} {vals : List Arg} {flat : List Flat}
    {r : Bytes × Nat} (h : iter ff last extra tys vals flat = some r) (h0 : r.2 = 0) :
    ∃ fs e rest, vals = .agg fs e :: rest ∧ flatL fs = [] := by
  unfold iter at h
  cases tys with
  | cons t tys' => cases h; exact consumed_eq_zero h0
  | nil =>
    cases extra with
    | false => cases h; cases h0
    | true =>
      cases last with
      | none => cases h
      | some t => cases h; exact consumed_eq_zero h0

/-- outcome of the loop: a list no longer than `n`, or the index panic, which
needs `types = []` and the ellipsis flag; never the fuel artefact -/
def Good (last : Option Bytes) (extra : Bool) (n : Nat) : Except AugErr (List Bytes) → Prop
  | .ok r => r.length ≤ n
  | .error .fuel => False
  | .error .index => last = none ∧ extra = true

theorem consOk_good {last : Option Bytes} {extra : Bool} {n m : Nat} (s : Bytes)
    {x : Except AugErr (List Bytes)} (h : Good last extra n x) (hm : n + 1 ≤ m) :
    Good last extra m (consOk s x) := by
  cases x with
  | ok r => exact Nat.le_trans (Nat.succ_le_succ h) hm
  | error e => cases e <;> exact h

/-- the measure `flat.length + vals.length` decreases at every iteration: a
scalar is popped, or the iteration is the aggregate case of a top-level `{}` -/
theorem augmentLoop_good (last : Option Bytes) (extra : Bool) (fuel : Nat)
    (tys : List Bytes) (vals : List Arg) (flat : List Flat) (h : flat.length + vals.length ≤ fuel) :
    Good last extra (flat.length + vals.length) (augmentLoop ff last extra fuel tys vals flat) := by
  induction fuel generalizing tys vals flat with
  | zero =>
    cases flat with
    | nil => exact Nat.zero_le _
    | cons a fl => simp at h
  | succ fuel ih =>
    cases flat with
    | nil => exact Nat.zero_le _
    | cons a fl =>
      rw [augmentLoop_succ]
      cases hi : iter ff last extra tys vals (a :: fl) with
      | none => exact iter_eq_none ff hi
      | some r =>
        have hlt : ((a :: fl).drop r.2).length + vals.tail.length < (a :: fl).length + vals.length := by
          rw [List.length_drop, List.length_tail]
          cases hk : r.2 with
          | zero => obtain ⟨fs, e, rest, rfl, _⟩ := iter_eq_zero ff hi hk; simp
          | succ k => simp only [List.length_cons]; omega
        exact consOk_good _ (ih _ _ _ (Nat.le_of_lt_succ (Nat.lt_of_lt_of_le hlt h))) hlt

/-- `augmentCall` gives the loop enough fuel -/
theorem augmentCall_good (types : List Bytes) (ellipsis : Bool) (args : Args) :
    Good types.getLast? ellipsis ((flatL args.values).length + args.values.length)
      (augmentCall ff types ellipsis args) :=
  augmentLoop_good ff _ _ _ _ _ _ (Nat.le_succ _)

theorem augmentLoop_mono (last : Option Bytes) (extra : Bool) :
    ∀ (fuel fuel' : Nat) (tys : List Bytes) (vals : List Arg) (flat : List Flat),
      augmentLoop ff last extra fuel tys vals flat ≠ .error .fuel → fuel ≤ fuel' →
      augmentLoop ff last extra fuel' tys vals flat = augmentLoop ff last extra fuel tys vals flat
  | fuel, fuel', tys, vals, [], _, _ => by cases fuel <;> cases fuel' <;> rfl
  | 0, _, tys, vals, a :: fl, h, _ => (h rfl).elim
  | fuel + 1, 0, _, _, _ :: _, _, hle => (Nat.not_succ_le_zero _ hle).elim
  | fuel + 1, fuel' + 1, tys, vals, a :: fl, h, hle => by
    rw [augmentLoop_succ] at h
    rw [augmentLoop_succ, augmentLoop_succ]
    generalize iter ff last extra tys vals (a :: fl) = o at h ⊢
    cases o with
    | none => rfl
    | some r =>
      simp only at h ⊢
      rw [augmentLoop_mono last extra fuel fuel' _ _ _ (fun hx => h (by rw [hx]; rfl))
        (Nat.le_of_succ_le_succ hle)]

theorem augmentLoop_enough (last : Option Bytes) (extra : Bool) (fuel fuel' : Nat) (tys : List Bytes)
    (vals : List Arg) (flat : List Flat) (h : flat.length + vals.length ≤ fuel) (h' : flat.length + vals.length ≤ fuel') :
    augmentLoop ff last extra fuel tys vals flat = augmentLoop ff last extra fuel' tys vals flat := by
  have ne : ∀ fuel, flat.length + vals.length ≤ fuel → augmentLoop ff last extra fuel tys vals flat ≠ .error .fuel :=
    fun fuel hf he => by have := augmentLoop_good ff last extra fuel tys vals flat hf; rw [he] at this; exact this
  rcases Nat.le_total fuel fuel' with hle | hle
  · exact (augmentLoop_mono ff last extra _ _ _ _ _ (ne _ h) hle).symm
  · exact augmentLoop_mono ff last extra _ _ _ _ _ (ne _ h') hle

/-! ### tighter bound without empty top-level aggregates -/

/-- no top-level argument is an aggregate without scalars (`{}`) -/
def NoEmptyAgg (vals : List Arg) : Prop := ∀ a ∈ vals, flat1 a ≠ []

theorem consOk_ok {s : Bytes} {x : Except AugErr (List Bytes)} {r : List Bytes} (h : consOk s x = .ok r) :
    ∃ r', x = .ok r' ∧ r = s :: r' := by
  cases x with
  | ok r' => cases h; exact ⟨r', rfl, rfl⟩
  | error e => cases h

theorem augmentLoop_length_le_flat (last : Option Bytes) (extra : Bool) (fuel : Nat)
    (tys : List Bytes) (vals : List Arg) (flat : List Flat) (hv : NoEmptyAgg vals) :
    ∀ r, augmentLoop ff last extra fuel tys vals flat = .ok r → r.length ≤ flat.length := by
  induction fuel generalizing tys vals flat with
  | zero =>
    cases flat with
    | nil => intro r hr; cases hr; exact Nat.le_refl _
    | cons a fl => intro r hr; cases hr
  | succ fuel ih =>
    cases flat with
    | nil => intro r hr; cases hr; exact Nat.le_refl _
    | cons a fl =>
      rw [augmentLoop_succ]
      cases hi : iter ff last extra tys vals (a :: fl) with
      | none => intro r hr; cases hr
      | some p =>
        intro r hr
        obtain ⟨r', hl, rfl⟩ := consOk_ok hr
        have hpos : p.2 ≠ 0 := by
          intro hz
          obtain ⟨fs, e, rest, rfl, hfs⟩ := iter_eq_zero ff hi hz
          exact hv _ (List.mem_cons_self ..) hfs
        have := ih _ _ _ (fun a ha => hv a (List.mem_of_mem_tail ha)) r' hl
        rw [List.length_drop] at this
        simp only [List.length_cons] at this ⊢
        omega

end PP.Spec
