import PP.Model.Cli
import PP.Props.C07
/-
Helper lemmas for the CLI vertical: the loop of `process` (`processL`) is the resumption
protocol `scanAll` (C07) with one rendering per call.
-/
namespace PP.Cli
open PP PP.Console

theorem splitLines_length_le (bs : Bytes) : (splitLines bs).1.length ≤ bs.length := by
  induction bs with
  | nil => simp [splitLines]
  | cons b bs ih =>
    simp only [splitLines]
    split
    · simp only [List.length_cons]; omega
    · cases h : (splitLines bs).1 with
      | nil => simp
      | cons l ls =>
        rw [h] at ih
        simp only [List.length_cons] at ih ⊢
        omega

theorem specLines_length_le (bs : Bytes) (fin : RErr) : (specLines bs fin).length ≤ bs.length + 1 := by
  simp only [specLines, List.length_append, List.length_map, List.length_cons, List.length_nil]
  have := splitLines_length_le bs
  omega

theorem statusOf_eq_ok {e : LErr} : statusOf e = .ok ↔ e = .reader .eof := by
  unfold statusOf
  by_cases h : e = .reader .eof <;> simp [h]

theorem statusOf_eq_failed {e e' : LErr} : statusOf e = .failed e' ↔ e' = e ∧ e ≠ .reader .eof := by
  unfold statusOf
  by_cases h : e = .reader .eof <;> simp [h, eq_comm]

/-! ### the rendering never panics on what ScanSnapshot returns -/

/-- the bytes `processInner` writes for the result of a call (nothing for a nil snapshot) -/
def renderBytes (cfg : CliCfg) (snap : Option (List Goroutine)) : Bytes :=
  match renderOpt cfg snap with
  | .ok b => b
  | .error _ => []

theorem renderSnapshot_cons (cfg : CliCfg) (g : Goroutine) (t : List Goroutine) :
    ∃ b, renderSnapshot cfg (g :: t) = .ok b := by
  simp only [renderSnapshot, isRace]
  cases (g.raceAddr != 0) <;> exact ⟨_, rfl⟩

theorem renderOpt_ok (cfg : CliCfg) (snap : Option (List Goroutine))
    (h : ∀ gs, snap = some gs → gs ≠ []) : renderOpt cfg snap = .ok (renderBytes cfg snap) := by
  cases snap with
  | none => rfl
  | some gs =>
    cases gs with
    | nil => exact absurd rfl (h [] rfl)
    | cons g t =>
      obtain ⟨b, hb⟩ := renderSnapshot_cons cfg g t
      simp only [renderBytes, renderOpt, hb]

theorem resultOf_snap_ne_nil (names : Bool) (o : OutL) :
    ∀ gs, (resultOf names o).snap = some gs → gs ≠ [] := by
  intro gs h
  simp only [resultOf] at h
  split at h
  · cases h
  · rename_i hne
    cases h
    cases hg : o.s.gs with
    | nil => simp [hg] at hne
    | cons g t => cases names <;> simp [nameArguments]

theorem renderOpt_resultOf (cfg : CliCfg) (names : Bool) (o : OutL) :
    renderOpt cfg (resultOf names o).snap = .ok (renderBytes cfg (resultOf names o).snap) :=
  renderOpt_ok cfg _ (resultOf_snap_ne_nil names o)

/-- one `ScanSnapshot` call: the items it was given and the outcome of the loop `scanL` on them -/
abbrev Call := List (Bytes × Option RErr) × OutL

/-- what one iteration of `process` writes: the pass-through text of the call, then the
rendering of its snapshot -/
def piece (cfg : CliCfg) (c : Call) : Bytes :=
  c.2.fwd ++ renderBytes cfg (resultOf true c.2).snap

/-- how the loop ends after these calls: the bytes of the final `out.Write(suffix)` and the
status.  A last call without error means the fuel ran out. -/
def endOf (calls : List Call) : Bytes × Status :=
  match calls.getLast? with
  | none => ([], .outOfFuel)
  | some c =>
    match c.2.err with
    | none => ([], .outOfFuel)
    | some e => ((resultOf true c.2).suffix.getD [], statusOf e)

theorem endOf_nil : endOf [] = ([], .outOfFuel) := rfl

theorem endOf_single_err (c : Call) (e : LErr) (h : c.2.err = some e) :
    endOf [c] = ((resultOf true c.2).suffix.getD [], statusOf e) := by
  simp [endOf, h]

theorem endOf_cons_none (c : Call) (cs : List Call) (h : c.2.err = none) :
    endOf (c :: cs) = endOf cs := by
  cases cs with
  | nil => simp [endOf, h]
  | cons c' cs => simp [endOf, List.getLast?_cons_cons]

theorem endOf_append_single (cs : List Call) (c : Call) : endOf (cs ++ [c]) = endOf [c] := by
  simp [endOf]

/-- **the loop of `process` is the resumption protocol**: for every fuel, the output is the
pieces of the successive calls of `scanAll` followed by the final suffix, and the status is
that of the last call -/
theorem processL_trace (cfg : CliCfg) (fin : RErr) (n : Nat) (bs out : Bytes) :
    processL cfg fin n bs out =
      (out ++ (scanAll n (specLines bs fin)).flatMap (piece cfg) ++ (endOf (scanAll n (specLines bs fin))).1,
       (endOf (scanAll n (specLines bs fin))).2) := by
  induction n generalizing bs out with
  | zero => simp [processL, scanAll, endOf]
  | succ n ih =>
    rw [scanAll_succ]
    have hp := scanL_init_no_panic [] [] (specLines bs fin)
    simp only [processL]
    rw [scanSnapshotL_eq]
    have hpan : (resultOf true (scanL {} [] [] (specLines bs fin))).panicked = false := by
      simp [resultOf, hp]
    have herr : (resultOf true (scanL {} [] [] (specLines bs fin))).err =
        (scanL {} [] [] (specLines bs fin)).err := rfl
    have hfwd : (resultOf true (scanL {} [] [] (specLines bs fin))).fwd =
        (scanL {} [] [] (specLines bs fin)).fwd := rfl
    rw [hpan, renderOpt_resultOf, herr, hfwd, hp]
    simp only [Bool.false_eq_true, if_false]
    cases he : (scanL {} [] [] (specLines bs fin)).err with
    | none =>
      simp only [Option.isNone_none, Bool.and_self, if_true]
      rw [resultOf_remaining, ih, specLines_rest bs fin he]
      rw [List.flatMap_cons, endOf_cons_none _ _ he]
      simp only [piece, List.append_assoc]
    | some e =>
      simp only [Option.isNone_some, Bool.false_and, Bool.false_eq_true, if_false]
      rw [endOf_single_err _ e he]
      simp only [List.flatMap_cons, List.flatMap_nil, List.append_nil, piece, List.append_assoc]

/-! ### an error never leaves a remainder outside `suffix` (line level) -/

theorem scan_err_shape {s s' : S} {l : Line} {p : Bool} {e : Err}
    (h : scan s l = .ok (s', p, some e)) : p = false ∧ s'.st ≠ .looking := by
  cases scan_effect h with
  | err hst => exact ⟨rfl, hst⟩

theorem combineErr_reader_of {s s' : S} {d : Bytes} {l : Bool} {e : Option RErr} {e1 : Option Err}
    (hsc : scanBytes s d = .ok (s', l, e1)) (hl : l = true ∨ s'.st = .looking)
    (h : (combineErr e e1).isSome = true) : ∃ r, e = some r := by
  cases e1 with
  | some p =>
    obtain ⟨rfl, hne⟩ := scan_err_shape hsc
    rcases hl with hl | hl
    · cases hl
    · exact absurd hl hne
  | none =>
    cases e with
    | none => simp [combineErr] at h
    | some r => exact ⟨r, rfl⟩

/-- at most the last item carries a reader error (the items of a stream: `errLast_specLines`) -/
def ErrLast (items : List (Bytes × Option RErr)) : Prop := ∀ p ∈ items.dropLast, p.2 = none

theorem ErrLast.tail {x : Bytes × Option RErr} {items : List (Bytes × Option RErr)}
    (h : ErrLast (x :: items)) : ErrLast items := by
  cases items with
  | nil => intro p hp; cases hp
  | cons y ys => exact fun p hp => h p (List.mem_cons_of_mem _ hp)

theorem ErrLast.nil_of_err {d : Bytes} {r : RErr} {items : List (Bytes × Option RErr)}
    (h : ErrLast ((d, some r) :: items)) : items = [] := by
  cases items with
  | nil => rfl
  | cons y ys => cases h (d, some r) List.mem_cons_self

theorem errLast_specLines (bs : Bytes) (fin : RErr) : ErrLast (specLines bs fin) := by
  intro p hp
  rw [specLines_eq, List.dropLast_concat, List.mem_map] at hp
  obtain ⟨l, _, rfl⟩ := hp
  rfl

/-- on such items a call that reports an error either left through `break` (the suffix is
everything that remains) or consumed everything: at line level nothing is ever left outside
`suffix` when the loop of `process` stops -/
theorem scanL_err_rest (s : S) (fwd : Bytes) (cons : List Bytes) (items : List (Bytes × Option RErr))
    (hl : ErrLast items) (h : (scanL s fwd cons items).err.isSome = true) :
    (scanL s fwd cons items).broke = true ∨ (scanL s fwd cons items).rest = [] := by
  fun_induction scanL s fwd cons items
  case case1 | case2 | case3 => simp at h
  case case4 => exact Or.inl rfl
  case case5 hsc _ _ hlk _ =>
    obtain ⟨r, rfl⟩ := combineErr_reader_of hsc (Or.inr (by simpa using hlk)) h
    exact Or.inr hl.nil_of_err
  case case7 hsc _ hw _ =>
    obtain ⟨r, rfl⟩ := combineErr_reader_of hsc (Or.inl (by simpa using hw)) h
    exact Or.inr hl.nil_of_err
  case case9 => exact Or.inr hl.nil_of_err
  case case6 ih | case8 ih | case10 ih => exact ih hl.tail h

theorem resultOf_err (names : Bool) (o : OutL) (h : o.broke = true ∨ o.rest = []) :
    (resultOf names o).suffix.getD [] = itemsBytes o.rest ∧ (resultOf names o).unread = [] := by
  simp only [resultOf]
  rcases h with hb | hr
  · simp [hb]
  · rw [hr]
    cases (o.broke || o.s.st == .done) <;> simp

theorem resultOf_suffix_cases (names : Bool) (o : OutL) :
    ((resultOf names o).suffix = some (itemsBytes o.rest) ∧ (resultOf names o).unread = []) ∨
    ((resultOf names o).suffix = none ∧ (resultOf names o).unread = itemsBytes o.rest ∧
      o.broke = false ∧ o.s.st ≠ .done) := by
  simp only [resultOf]
  cases hb : o.broke <;> cases hd : (o.s.st == .done) <;> simp_all

/-- the forwarded lines of a call (ghost trace of C02), in order -/
def fwdLines (c : Call) : Bytes := ((trace {} c.1).filter (fun p => !p.1)).flatMap (·.2)

/-- the withheld lines of a call (ghost trace of C02), in order -/
def withheldLines (c : Call) : List Bytes := ((trace {} c.1).filter (·.1)).map (·.2)

/-- all the lines a call processed, forwarded and withheld, in stream order -/
def processedBytes (c : Call) : Bytes := (trace {} c.1).flatMap (·.2)

theorem tiles_eq (calls : List Call) : tiles calls = calls.flatMap processedBytes := rfl

theorem scanAll_mem_spec (fin : RErr) (n : Nat) (bs : Bytes) :
    ∀ c ∈ scanAll n (specLines bs fin),
      ∃ bs', c.1 = specLines bs' fin ∧ c.2 = scanL {} [] [] (specLines bs' fin) := by
  induction n generalizing bs with
  | zero => intro c hc; simp [scanAll] at hc
  | succ n ih =>
    intro c hc
    rw [scanAll_succ] at hc
    split at hc
    · rename_i hcond
      simp only [Bool.and_eq_true, Option.isNone_iff_eq_none] at hcond
      simp only [List.mem_cons] at hc
      rcases hc with rfl | hc
      · exact ⟨bs, rfl, rfl⟩
      · rw [← specLines_rest bs fin hcond.1] at hc
        exact ih _ c hc
    · simp only [List.mem_singleton] at hc
      subst hc
      exact ⟨bs, rfl, rfl⟩

theorem call_fwd (c : Call) (h : c.2 = scanL {} [] [] c.1) : c.2.fwd = fwdLines c := by
  have := (scanL_traceL {} [] [] c.1).1
  rw [h, this, fwdOf_eq]
  simp [fwdLines, trace]

theorem call_consumed (c : Call) (h : c.2 = scanL {} [] [] c.1) : c.2.consumed = withheldLines c := by
  have := (scanL_traceL {} [] [] c.1).2.1
  rw [h, this, consOf_eq]
  simp [withheldLines, trace]

theorem flatMap_piece (cfg : CliCfg) (calls : List Call) (h : ∀ x ∈ calls, x.2 = scanL {} [] [] x.1) :
    calls.flatMap (piece cfg) =
      calls.flatMap (fun x => fwdLines x ++ renderBytes cfg (resultOf true x.2).snap) := by
  have : ∀ x ∈ calls, piece cfg x = fwdLines x ++ renderBytes cfg (resultOf true x.2).snap :=
    fun x hx => by rw [piece, call_fwd x (h x hx)]
  rw [List.flatMap_def, List.flatMap_def, List.map_congr_left this]

theorem remaining_append_single (cs : List Call) (c : Call) (items : List (Bytes × Option RErr)) :
    remaining (cs ++ [c]) items = c.2.rest := by
  simp [remaining]

/-- **the run of `process`**: with enough fuel the calls are `cs ++ [c]`, each a scan from the
initial state, only the last one reports an error `e`; the output is the pieces of all calls
followed by the last `suffix`, the status is that of `e`; the input is the processed lines of all
calls followed by what the last call did not process, and all of that is in `suffix` (nothing is
left unread) -/
theorem process_run (cfg : CliCfg) (fin : RErr) (input out : Bytes) (n : Nat) (hn : input.length + 2 ≤ n) :
    ∃ cs c e, scanAll n (specLines input fin) = cs ++ [c] ∧ c.2.err = some e ∧
      (∀ x ∈ cs, x.2.err = none) ∧ (∀ x ∈ cs ++ [c], x.2 = scanL {} [] [] x.1) ∧
      processL cfg fin n input out =
        (out ++ (cs ++ [c]).flatMap (piece cfg) ++ (resultOf true c.2).suffix.getD [], statusOf e) ∧
      (cs ++ [c]).flatMap processedBytes ++ itemsBytes c.2.rest = input ∧
      (resultOf true c.2).suffix.getD [] = itemsBytes c.2.rest ∧ (resultOf true c.2).unread = [] := by
  have hlen : (specLines input fin).length ≤ n := by
    have := specLines_length_le input fin
    omega
  obtain ⟨cs, c, h1, h2⟩ := resume_terminates n _ _ fin hlen
  rw [← specLines_eq] at h1
  obtain ⟨e, he⟩ := Option.isSome_iff_exists.mp h2
  have hchain := resume_chain n (specLines input fin)
  rw [h1] at hchain
  refine ⟨cs, c, e, h1, he, ?_, hchain.1, ?_, ?_, ?_⟩
  · intro x hx
    obtain ⟨a, b, rfl⟩ := List.append_of_mem hx
    cases b with
    | nil => exact (hchain.2.2 a x c [] (by simp)).2.1
    | cons y b' => exact (hchain.2.2 a x y (b' ++ [c]) (by simp)).2.1
  · rw [processL_trace, h1, endOf_append_single, endOf_single_err c e he]
  · have := resume_tiles n (specLines input fin)
    rw [h1, remaining_append_single, itemsBytes_specLines, tiles_eq] at this
    exact this
  · have hc : c ∈ scanAll n (specLines input fin) := by rw [h1]; simp
    obtain ⟨bs', _, hb2⟩ := scanAll_mem_spec fin n input c hc
    refine resultOf_err true c.2 ?_
    rw [hb2] at he ⊢
    exact scanL_err_rest _ _ _ _ (errLast_specLines bs' fin) (by rw [he]; rfl)

theorem containsBackslash_iff (s : Bytes) : containsBackslash s = true ↔ backslash ∈ s := by
  simp [containsBackslash]

theorem gopathsValid_false_iff (ps : List Bytes) :
    gopathsValid ps = false ↔ ∃ p ∈ ps, backslash ∈ p := by
  induction ps with
  | nil => simp [gopathsValid]
  | cons p ps ih =>
    simp only [gopathsValid]
    by_cases hp : containsBackslash p = true
    · simp only [hp, if_true, true_iff]
      exact ⟨p, by simp, (containsBackslash_iff p).1 hp⟩
    · simp only [hp, Bool.false_eq_true, if_false, ih, List.mem_cons, exists_eq_or_imp]
      rw [containsBackslash_iff] at hp
      simp [hp]

theorem scanAll_stable (n k : Nat) (items : List (Bytes × Option RErr)) (cs : List Call) (c : Call)
    (h : scanAll n items = cs ++ [c]) (he : c.2.err.isSome = true) :
    scanAll (n + k) items = cs ++ [c] := by
  induction n generalizing items cs with
  | zero => simp [scanAll] at h
  | succ n ih =>
    rw [show n + 1 + k = (n + k) + 1 by omega, scanAll_succ]
    rw [scanAll_succ] at h
    split
    · rename_i hcond
      rw [if_pos hcond] at h
      cases cs with
      | nil =>
        simp only [List.nil_append, List.cons.injEq] at h
        rw [← h.1] at he
        simp only [Bool.and_eq_true, Option.isNone_iff_eq_none] at hcond
        rw [hcond.1] at he
        simp at he
      | cons y cs' =>
        simp only [List.cons_append, List.cons.injEq] at h
        rw [ih _ cs' h.2, ← h.1]
        rfl
    · rename_i hcond
      rw [if_neg hcond] at h
      exact h

end PP.Cli
