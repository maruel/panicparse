import PP.Lemmas.HtmlLemmas
import PP.Model.HtmlDoc
/-
The vocabulary of the lemmas about the document: the literals of a piece list,
the literal text nodes of each part of the template as lists, and the functions
that look for a quoted URL scheme in a literal.  The facts about these lists
that need the bytes of the long text nodes are evaluated in
PP/Lemmas/HtmlDocTable.lean.
-/
namespace PP.Html
open PP PP.Bytes

/-- the literal template text of a piece list, in order -/
def litsOf (ps : List Piece) : List Bytes :=
  ps.filterMap fun p => match p with | .lit b => some b | .hole _ _ => none

theorem litsOf_append (a b : List Piece) : litsOf (a ++ b) = litsOf a ++ litsOf b := by
  simp [litsOf, List.filterMap_append]

@[simp] theorem litsOf_nil : litsOf [] = [] := rfl
@[simp] theorem litsOf_lit (b : Bytes) (ps : List Piece) : litsOf (.lit b :: ps) = b :: litsOf ps := by
  simp [litsOf]
@[simp] theorem litsOf_hole (k : HoleKind) (v : Bytes) (ps : List Piece) : litsOf (.hole k v :: ps) = litsOf ps := by
  simp [litsOf]
@[simp] theorem litsOf_tx (v : Bytes) (ps : List Piece) : litsOf (tx v :: ps) = litsOf ps := by simp [tx]
@[simp] theorem litsOf_txNat (n : Nat) (ps : List Piece) : litsOf (txNat n :: ps) = litsOf ps := by simp [txNat]

/-- all elements of `l` are in `S` -/
def inS (S l : List Bytes) : Bool := l.all fun x => S.contains x

theorem inS_iff {S l : List Bytes} : inS S l = true ↔ l ⊆ S := by
  simp [inS, List.subset_def]

theorem inS_append (S a b : List Bytes) : inS S (a ++ b) = (inS S a && inS S b) := by simp [inS, List.all_append]

theorem inS_cons (S : List Bytes) (a : Bytes) (l : List Bytes) : inS S (a :: l) = (S.contains a && inS S l) := rfl

theorem inS_mono {S T l : List Bytes} (h : inS S l = true) (hST : S ⊆ T) : inS T l = true :=
  inS_iff.2 fun _ hx => hST (inS_iff.1 h hx)

theorem count_zero_of_inS (S l : List Bytes) (b : Bytes) (h : inS S l = true) (hb : S.contains b = false) :
    l.count b = 0 := by
  rw [List.count_eq_zero]
  intro hm
  rw [List.contains_iff_mem.2 (inS_iff.1 h hm)] at hb
  cases hb

def argsLits : List Bytes := [Lit.a0, Lit.a1, Lit.a3, Lit.a4]

def srcPathLits : List Bytes := [Lit.c5, Lit.c6, Lit.c7]

/-- literals inside a row other than the row opener `Lit.c1` -/
def rowInner : List Bytes :=
  [Lit.c2, Lit.c3, Lit.c4, Lit.c5, Lit.c6, Lit.c7, Lit.c8, Lit.c9, Lit.c10, Lit.c11, Lit.c12, Lit.c13, Lit.c14,
   Lit.c15, Lit.c16, Lit.c17, Lit.a0, Lit.a1, Lit.a3, Lit.a4]

/-- literals of one stack table -/
def tableLits : List Bytes := Lit.c0 :: Lit.c18 :: Lit.c19 :: Lit.c1 :: rowInner

def createdLits : List Bytes :=
  [Lit.createdOpen, Lit.createdClose, Lit.r0, Lit.r4, Lit.r5, Lit.r6, Lit.r7, Lit.r8, Lit.r9, Lit.r10, Lit.r11,
   Lit.r12, Lit.r13, Lit.c5, Lit.c6, Lit.c7]

/-- literals of a heading (everything of a block before the creator and the table, except the `<h1>` opener) -/
def headLits : List Bytes :=
  [Lit.b6, Lit.b7, Lit.b8, Lit.stateOpen, Lit.stateClose, Lit.sleepOpen, Lit.sleepTilde, Lit.sleepClose, Lit.h1Close,
   Lit.locked, Lit.raceOpen, Lit.raceWrite, Lit.raceRead, Lit.raceAt, Lit.raceClose]

/-- every literal of a block other than its `<h1>` opener and its table opener -/
def blockInner : List Bytes := headLits ++ createdLits ++ [Lit.c18, Lit.c19, Lit.c1] ++ rowInner

/-- the literals of the head -/
def headLits' : List Bytes := [Lit.t0, Lit.t1, Lit.t2, Lit.t3, Lit.t4]

/-- the literals of the Metadata section and the legend -/
def metaLits : List Bytes :=
  [Lit.t37, Lit.t38, Lit.t39, Lit.t40, Lit.t41, Lit.t42, Lit.t43, Lit.t44, Lit.t45, Lit.j0, Lit.t46, Lit.t47,
   Lit.t48, Lit.t49, Lit.t50, Lit.t51, Lit.t52, Lit.t53]

/-- the literals of the content division: block markers, table opener, the rest -/
def contentLits : List Bytes := Lit.h1Goroutine :: Lit.h1Bucket :: Lit.c0 :: blockInner

/-- every text node of the template that can be written before `{{.Footer}}` -/
def docLits : List Bytes := headLits' ++ contentLits ++ metaLits

theorem headLits'_subset_docLits : headLits' ⊆ docLits :=
  fun _ h => List.mem_append_left _ (List.mem_append_left _ h)

theorem contentLits_subset_docLits : contentLits ⊆ docLits :=
  fun _ h => List.mem_append_left _ (List.mem_append_right _ h)

theorem metaLits_subset_docLits : metaLits ⊆ docLits :=
  fun _ h => List.mem_append_right _ h

/-- the number of positions of `s` at which `pat` occurs -/
def occ (pat : Bytes) : Bytes → Nat
  | [] => 0
  | c :: t => (if hasPrefix (c :: t) pat then 1 else 0) + occ pat t

/-- `s` is a proper prefix of `pat` -/
def partialAt (pat s : Bytes) : Bool := hasPrefix pat s && !hasPrefix s pat

/-- no non-empty suffix of the text is a proper prefix of `pat`: a match cannot
start in the text and continue after its end -/
def noPartial (pat : Bytes) : Bytes → Bool
  | [] => true
  | c :: t => !partialAt pat (c :: t) && noPartial pat t

/-- does the text end with a double quote (an attribute value is opened and the next piece fills it)? -/
def endsQuote (a : Bytes) : Bool := a.getLast? == some 34

/-- the check per literal: no suffix is a proper prefix of `pat`, the final quote apart -/
def litOK (pat a : Bytes) : Bool := if endsQuote a then noPartial pat a.dropLast else noPartial pat a

def patData : Bytes := b!"\"data:"
def patJavascript : Bytes := b!"\"javascript:"

end PP.Html
