import PP.Lemmas.RootsLayout
import PP.Lemmas.RootsModCache
/-
Lemmas for the multi-root layout theorems of C18: a layout with one GOROOT,
several GOPATHs (src and pkg/mod trees) and a set of admitted module
directories, whose remote roots are pairwise disjoint; the invariant of the
loop of `findRoots` ("only roots of the layout are recorded, and the go.mod
cache is consistent with the recorded modules"), the steps that detect a root
from a witness file (GOROOT, GOPATH, go.mod module, `go run` directory), and
`updateLocations` under that invariant.
-/
namespace PP
open Bytes

/-! ### layouts -/

/-- A layout: the local GOROOT `lg`, the GOROOT `rg` the dump was produced
under, the pairs (remote GOPATH, local GOPATH) in the order of `LocalGOPATHs`,
and the (directory, module path) pairs that may be recorded as local modules. -/
structure Layout where
  lg : Bytes
  rg : Bytes
  gps : List (Bytes × Bytes)
  mods : List (Bytes × Bytes) := []

namespace Layout
/-- the local GOPATHs, in order: the value of `LocalGOPATHs` -/
def locals (lay : Layout) : List Bytes := lay.gps.map Prod.snd
def remotes (lay : Layout) : List Bytes := lay.gps.map Prod.fst
def modDirs (lay : Layout) : List Bytes := lay.mods.map Prod.fst
def roots (lay : Layout) : List Bytes := lay.rg :: (lay.remotes ++ lay.modDirs)
end Layout

/-- Neither directory is a path-prefix of the other (`a/` is not a prefix of
`b/` and vice versa); in particular `a ≠ b`. -/
def disjointRoots (a b : Bytes) : Bool :=
  !hasPrefix (a ++ b!"/") (b ++ b!"/") && !hasPrefix (b ++ b!"/") (a ++ b!"/")

def Layout.Disjoint (lay : Layout) : Prop :=
  lay.roots.Pairwise (fun a b => disjointRoots a b = true)

instance (lay : Layout) : Decidable lay.Disjoint := by
  unfold Layout.Disjoint; infer_instance

theorem disjointRoots_symm {a b : Bytes} (h : disjointRoots a b = true) : disjointRoots b a = true := by
  simp only [disjointRoots, Bool.and_eq_true] at h ⊢
  exact ⟨h.2, h.1⟩

theorem disjointRoots_irrefl (a : Bytes) : disjointRoots a a = false := by
  have : hasPrefix (a ++ b!"/") (a ++ b!"/") = true := (hasPrefix_iff _ _).mpr ⟨[], (List.append_nil _).symm⟩
  simp [disjointRoots, this]

theorem no_two_claims {a b f : Bytes} (hd : disjointRoots a b = true)
    (ha : hasPrefix f (a ++ b!"/") = true) (hb : hasPrefix f (b ++ b!"/") = true) : False := by
  obtain ⟨t, e1⟩ := (hasPrefix_iff _ _).mp ha
  obtain ⟨t', e2⟩ := (hasPrefix_iff _ _).mp hb
  rw [e1] at e2
  simp only [disjointRoots, Bool.and_eq_true, Bool.not_eq_true'] at hd
  rcases List.append_eq_append_iff.mp e2 with ⟨x, hx, _⟩ | ⟨x, hx, _⟩
  · have := (hasPrefix_iff _ _).mpr ⟨x, hx⟩
    rw [hd.2] at this
    exact absurd this (by simp)
  · have := (hasPrefix_iff _ _).mpr ⟨x, hx⟩
    rw [hd.1] at this
    exact absurd this (by simp)

theorem under_of_src {f a : Bytes} (h : hasPrefix f (a ++ srcSep) = true) : hasPrefix f (a ++ b!"/") = true := by
  obtain ⟨t, e⟩ := (hasPrefix_iff _ _).mp h
  exact (hasPrefix_iff _ _).mpr ⟨b!"src/" ++ t, by rw [e]; simp [srcSep]⟩

theorem under_of_pkgmod {f a : Bytes} (h : hasPrefix f (a ++ pkgmodSep) = true) :
    hasPrefix f (a ++ b!"/") = true := by
  obtain ⟨t, e⟩ := (hasPrefix_iff _ _).mp h
  exact (hasPrefix_iff _ _).mpr ⟨b!"pkg/mod/" ++ t, by rw [e]; simp [pkgmodSep]⟩

theorem under_of_either {f a : Bytes}
    (h : hasPrefix f (a ++ srcSep) = true ∨ hasPrefix f (a ++ pkgmodSep) = true) :
    hasPrefix f (a ++ b!"/") = true :=
  h.elim under_of_src under_of_pkgmod

theorem pairwise_mem_ne {α : Type} {r : α → α → Prop} (hs : ∀ a b, r a b → r b a) {l : List α}
    (hp : l.Pairwise r) {x y : α} (hx : x ∈ l) (hy : y ∈ l) (hne : x ≠ y) : r x y := by
  induction l with
  | nil => simp at hx
  | cons a t ih =>
    rw [List.pairwise_cons] at hp
    simp only [List.mem_cons] at hx hy
    rcases hx with rfl | hx
    · rcases hy with rfl | hy
      · exact absurd rfl hne
      · exact hp.1 y hy
    · rcases hy with rfl | hy
      · exact hs _ _ (hp.1 x hx)
      · exact ih hp.2 hx hy

theorem pairwise_keys_functional {r : Bytes → Bytes → Prop} (hs : ∀ a b, r a b → r b a) (hirr : ∀ a, ¬ r a a)
    {l : List (Bytes × Bytes)} (hp : (l.map Prod.fst).Pairwise r) {k v v' : Bytes} (h1 : (k, v) ∈ l)
    (h2 : (k, v') ∈ l) : v = v' :=
  Decidable.byContradiction fun e => hirr k <|
    pairwise_mem_ne (r := fun a b => r a.1 b.1) (fun _ _ => hs _ _) (List.pairwise_map.mp hp) h1 h2
      fun h => e (Prod.mk.inj h).2

namespace Layout.Disjoint
variable {lay : Layout}

theorem rg_remote (hd : lay.Disjoint) {R : Bytes} (hR : R ∈ lay.remotes) : disjointRoots lay.rg R = true := by
  unfold Layout.Disjoint Layout.roots at hd
  exact (List.pairwise_cons.mp hd).1 R (List.mem_append_left _ hR)

theorem rg_mod (hd : lay.Disjoint) {k : Bytes} (hk : k ∈ lay.modDirs) : disjointRoots lay.rg k = true := by
  unfold Layout.Disjoint Layout.roots at hd
  exact (List.pairwise_cons.mp hd).1 k (List.mem_append_right _ hk)

theorem remotes_pairwise (hd : lay.Disjoint) : lay.remotes.Pairwise (fun a b => disjointRoots a b = true) := by
  unfold Layout.Disjoint Layout.roots at hd
  exact (List.pairwise_append.mp (List.pairwise_cons.mp hd).2).1

theorem mods_pairwise (hd : lay.Disjoint) : lay.modDirs.Pairwise (fun a b => disjointRoots a b = true) := by
  unfold Layout.Disjoint Layout.roots at hd
  exact (List.pairwise_append.mp (List.pairwise_cons.mp hd).2).2.1

theorem remote_remote (hd : lay.Disjoint) {R R' : Bytes} (hR : R ∈ lay.remotes) (hR' : R' ∈ lay.remotes)
    (hne : R ≠ R') : disjointRoots R R' = true :=
  pairwise_mem_ne (fun _ _ => disjointRoots_symm) hd.remotes_pairwise hR hR' hne

theorem mod_mod (hd : lay.Disjoint) {k k' : Bytes} (hk : k ∈ lay.modDirs) (hk' : k' ∈ lay.modDirs)
    (hne : k ≠ k') : disjointRoots k k' = true :=
  pairwise_mem_ne (fun _ _ => disjointRoots_symm) hd.mods_pairwise hk hk' hne

theorem remote_mod (hd : lay.Disjoint) {R k : Bytes} (hR : R ∈ lay.remotes) (hk : k ∈ lay.modDirs) :
    disjointRoots R k = true := by
  unfold Layout.Disjoint Layout.roots at hd
  exact (List.pairwise_append.mp (List.pairwise_cons.mp hd).2).2.2 R hR k hk

theorem gps_functional (hd : lay.Disjoint) {R L L' : Bytes} (h1 : (R, L) ∈ lay.gps) (h2 : (R, L') ∈ lay.gps) :
    L = L' :=
  pairwise_keys_functional (fun _ _ => disjointRoots_symm) (fun a h => by rw [disjointRoots_irrefl] at h; cases h)
    hd.remotes_pairwise h1 h2

theorem mods_functional (hd : lay.Disjoint) {k m m' : Bytes} (h1 : (k, m) ∈ lay.mods) (h2 : (k, m') ∈ lay.mods) :
    m = m' :=
  pairwise_keys_functional (fun _ _ => disjointRoots_symm) (fun a h => by rw [disjointRoots_irrefl] at h; cases h)
    hd.mods_pairwise h1 h2

end Layout.Disjoint

/-! ### the invariant: only roots of the layout are recorded -/

structure Inv (lay : Layout) (st : RootsState) : Prop where
  goroot : st.goroot = [] ∨ st.goroot = lay.rg
  gopaths : ∀ kv ∈ st.gopaths, kv ∈ lay.gps
  gomods : ∀ kv ∈ st.gomods, kv ∈ lay.mods

theorem Inv.gopath_key {lay : Layout} {st : RootsState} (h : Inv lay st) {k : Bytes} (hk : k ∈ st.gopaths.keys) :
    k ∈ lay.remotes := by
  have := h.gopaths _ (AMap.get_of_mem_keys hk)
  exact List.mem_map_of_mem (f := Prod.fst) this

theorem Inv.gomod_key {lay : Layout} {st : RootsState} (h : Inv lay st) {k : Bytes} (hk : k ∈ st.gomods.keys) :
    k ∈ lay.modDirs := by
  have := h.gomods _ (AMap.get_of_mem_keys hk)
  exact List.mem_map_of_mem (f := Prod.fst) this

/-- the loop invariant: only roots of the layout are recorded, and the go.mod
cache is consistent with the recorded modules -/
structure Inv2 (lay : Layout) (fs : FS) (st : RootsState) : Prop where
  inv : Inv lay st
  ci : CI fs st

/-- What is assumed of EVERY file `f` of the dump: the probes `findRoots` makes
on it record nothing but roots of the layout.
* `goroot`: when the probe under `LocalGOROOT/src` answers something ending in
  `/src`, the answer is `rg/src` and `f` lies under `rg/src/`;
* `gopath`: when the loop over `LocalGOPATHs` records a pair, it is a pair of
  the layout;
* `modules`: when neither probe claims `f`, a `go.mod` found above `f` is an
  admitted module; and if `f` itself exists, its directory is an admitted
  `main` module, or `f` is a clean path with a `go.mod` above it. -/
structure Tame (lay : Layout) (fs : FS) (f : Bytes) : Prop where
  goroot : hasSuffix (isRootedIn fs (lay.lg ++ srcDir) (splitPath f)) srcDir = true →
    isRootedIn fs (lay.lg ++ srcDir) (splitPath f) = lay.rg ++ srcDir ∧ hasPrefix f (lay.rg ++ srcSep) = true
  gopath : ∀ k l, findGopath fs (splitPath f) lay.locals = .ok (some (k, l)) → (k, l) ∈ lay.gps
  modules : hasSuffix (isRootedIn fs (lay.lg ++ srcDir) (splitPath f)) srcDir = false →
    findGopath fs (splitPath f) lay.locals = .ok none →
    (∀ i m, 0 < i → i < (splitPath f).length → modAt fs (pathJoin ((splitPath f).take i)) = some m →
      (pathJoin ((splitPath f).take i), m) ∈ lay.mods) ∧
    (fs.isFile f = true → (pathDir f, b!"main") ∈ lay.mods ∨
      (pathJoin (splitPath f) = f ∧
        ∃ i, 0 < i ∧ i < (splitPath f).length ∧ modAt fs (pathJoin ((splitPath f).take i)) ≠ none))

theorem take_ne_nil_of_dirs {f : Bytes} {i : Nat} (h1 : 0 < i) (h2 : i < (splitPath f).length) :
    pathJoin ((splitPath f).take i) ≠ [] := by
  have := pfx_ne_nil (dirShape_dropLast f) (i := i) h1 (by simp; omega)
  rw [pfx_dropLast _ h2] at this
  exact this

theorem findRootsMod_inv {lay : Layout} {fs : FS} {st : RootsState} {f : Bytes} (h2 : Inv2 lay fs st)
    (hskip : mapHasPrefix f st.gomods = false) (ht : Tame lay fs f)
    (hG : hasSuffix (isRootedIn fs (lay.lg ++ srcDir) (splitPath f)) srcDir = false)
    (hP : findGopath fs (splitPath f) lay.locals = .ok none) :
    Inv2 lay fs (findRootsMod fs st f (splitPath f)) := by
  have hm := ht.modules hG hP
  have hinv := h2.inv
  have hins : ∀ {k v : Bytes}, (k, v) ∈ lay.mods → ∀ kv ∈ st.gomods.insert k v, kv ∈ lay.mods := by
    intro k v hkv kv h
    rcases AMap.mem_insert h with rfl | h
    · exact hkv
    · exact hinv.gomods kv h
  rcases findRootsMod_cases fs st f (splitPath f) with ⟨hr, e⟩ | ⟨hr, hfile, e⟩ | ⟨hr, _, e⟩ <;> rw [e]
  · obtain ⟨i, b, h1, h2', h3, h4, h5⟩ := findModule_spec hr
    refine ⟨⟨hinv.goroot, hinv.gopaths, hins ?_⟩, ?_⟩
    · rw [h3]
      exact hm.1 i _ h1 h2' (by rw [← h3]; exact modAt_of_read h4 h5)
    · rcases findModule_cacheOK f h2.ci with ⟨h0, _⟩ | ⟨_, hc⟩
      · exact absurd h0 hr
      · refine hc.mono fun k hk => ?_
        rcases List.mem_cons.mp hk with rfl | hk
        · exact AMap.keys_insert_self _ _ _
        · exact AMap.keys_insert_mono hk
  all_goals
    have hc : CacheOK fs (findModule fs st.cache (splitPath f)).1 st.gomods.keys none := by
      rcases findModule_cacheOK f h2.ci with ⟨_, hc⟩ | ⟨h0, _⟩
      · exact hc
      · exact absurd hr h0
  · refine ⟨⟨hinv.goroot, hinv.gopaths, hins ?_⟩, hc.mono fun k hk => AMap.keys_insert_mono hk⟩
    rcases hm.2 hfile with hmain | ⟨hclean, i, hi1, hi2, hmod⟩
    · exact hmain
    · -- a clean path with a go.mod above it: the walk would have found it
      rcases findModule_trace h2.ci hclean hskip with ⟨_, hnone⟩ | ⟨i', h1, h2', h3, _⟩
      · exact absurd (hnone i hi1 hi2) hmod
      · rw [hr] at h3
        exact absurd h3.symm (take_ne_nil_of_dirs h1 h2')
  · exact ⟨⟨hinv.goroot, hinv.gopaths, hinv.gomods⟩, hc⟩

theorem findRootsStep_inv {lay : Layout} {fs : FS} {st st' : RootsState} {f : Bytes} (h2 : Inv2 lay fs st)
    (ht : Tame lay fs f) (h : findRootsStep fs lay.lg lay.locals st f = .ok st') : Inv2 lay fs st' := by
  have hinv := h2.inv
  cases findRootsStep_outcome h with
  | skip => exact h2
  | goroot _ hr =>
    refine ⟨⟨Or.inr ?_, hinv.gopaths, hinv.gomods⟩, h2.ci⟩
    show (isRootedIn fs (lay.lg ++ srcDir) (splitPath f)).take _ = lay.rg
    rw [(ht.goroot hr).1]
    exact take_append_length _ _
  | gopath k l _ _ hg =>
    refine ⟨⟨hinv.goroot, fun kv hkv => ?_, hinv.gomods⟩, h2.ci⟩
    rcases AMap.mem_insert hkv with rfl | hkv
    · exact ht.gopath k l hg
    · exact hinv.gopaths kv hkv
  | mod hs hq hg =>
    simp only [skips, Bool.or_eq_false_iff] at hs
    refine findRootsMod_inv h2 hs.2 ht ?_ hg
    -- the GOROOT probe is quiet, or was not made because GOROOT is known and `f` is not under it
    cases hp : hasSuffix (isRootedIn fs (lay.lg ++ srcDir) (splitPath f)) srcDir with
    | false => rfl
    | true =>
      have hne : st.goroot ≠ [] := fun hg0 => by
        rw [gorootProbe_of_nil hg0, hp] at hq; cases hq
      have e : st.goroot = lay.rg := hinv.goroot.resolve_left hne
      have := hs.1.1
      rw [e, (ht.goroot hp).2, Bool.and_true, bne_eq_false_iff_eq] at this
      exact absurd (e ▸ this) hne

theorem findRootsLoop_inv {lay : Layout} {fs : FS} (todo : List Bytes) (ht : ∀ f ∈ todo, Tame lay fs f)
    {st st' : RootsState} (hinv : Inv2 lay fs st)
    (h : findRootsLoop fs lay.lg lay.locals st todo = .ok st') : Inv2 lay fs st' :=
  findRootsLoop_induct todo (fun f hf _ _ hi hs => findRootsStep_inv hi (ht f hf) hs) hinv h

/-! ### witnesses: a file of the dump that makes `findRoots` record a root -/

/-- `w` makes `findRoots` record `R ↦ L`: it lies under `R/src/` or
`R/pkg/mod/`, the GOROOT probe does not claim it, and the loop over
`LocalGOPATHs` answers `(R, L)`. -/
structure DetectsGopath (lay : Layout) (fs : FS) (w R L : Bytes) : Prop where
  under : hasPrefix w (R ++ srcSep) = true ∨ hasPrefix w (R ++ pkgmodSep) = true
  gorootQuiet : hasSuffix (isRootedIn fs (lay.lg ++ srcDir) (splitPath w)) srcDir = false
  probe : findGopath fs (splitPath w) lay.locals = .ok (some (R, L))

/-- `w` makes `findRoots` record the remote GOROOT: it lies under `rg/src/` and
the probe under `LocalGOROOT/src` answers `rg/src`. -/
structure DetectsGoroot (lay : Layout) (fs : FS) (w : Bytes) : Prop where
  under : hasPrefix w (lay.rg ++ srcSep) = true
  probe : isRootedIn fs (lay.lg ++ srcDir) (splitPath w) = lay.rg ++ srcDir

variable {lay : Layout} {fs : FS}

/-- the kinds of root `findRoots` records -/
inductive RootKind | goroot | gopath | gomod

def Layout.rootsOf (lay : Layout) : RootKind → List Bytes
  | .goroot => [lay.rg]
  | .gopath => lay.remotes
  | .gomod => lay.modDirs

def recorded (st : RootsState) : RootKind → List Bytes
  | .goroot => if st.goroot = [] then [] else [st.goroot]
  | .gopath => st.gopaths.keys
  | .gomod => st.gomods.keys

theorem mem_recorded_goroot {st : RootsState} {k : Bytes} :
    k ∈ recorded st .goroot ↔ st.goroot ≠ [] ∧ k = st.goroot := by
  show k ∈ (if st.goroot = [] then [] else [st.goroot]) ↔ _
  by_cases hg : st.goroot = [] <;> simp [hg]

theorem Inv.recorded_sub {st : RootsState} (hinv : Inv lay st) (κ : RootKind) :
    ∀ k ∈ recorded st κ, k ∈ lay.rootsOf κ := by
  cases κ with
  | goroot =>
    intro k hk
    obtain ⟨hg, rfl⟩ := mem_recorded_goroot.mp hk
    exact List.mem_singleton.mpr (hinv.goroot.resolve_left hg)
  | gopath => exact fun k hk => hinv.gopath_key hk
  | gomod => exact fun k hk => hinv.gomod_key hk

theorem Layout.Disjoint.of_ne (hd : lay.Disjoint) {κ κ' : RootKind} {a b : Bytes} (ha : a ∈ lay.rootsOf κ)
    (hb : b ∈ lay.rootsOf κ') (hne : ¬ (κ = κ' ∧ a = b)) : disjointRoots a b = true := by
  cases κ <;> cases κ' <;> simp only [Layout.rootsOf, List.mem_singleton] at ha hb
  · exact absurd ⟨rfl, ha.trans hb.symm⟩ hne
  · exact ha ▸ hd.rg_remote hb
  · exact ha ▸ hd.rg_mod hb
  · exact hb ▸ disjointRoots_symm (hd.rg_remote ha)
  · exact hd.remote_remote ha hb fun e => hne ⟨rfl, e⟩
  · exact hd.remote_mod ha hb
  · exact hb ▸ disjointRoots_symm (hd.rg_mod ha)
  · exact disjointRoots_symm (hd.remote_mod hb ha)
  · exact hd.mod_mod ha hb fun e => hne ⟨rfl, e⟩

theorem skips_recorded {st : RootsState} {w : Bytes} (hs : skips st w = true) :
    ∃ κ, ∃ k ∈ recorded st κ, hasPrefix w (k ++ b!"/") = true := by
  simp only [skips, Bool.or_eq_true, Bool.and_eq_true, bne_iff_ne, ne_eq] at hs
  rcases hs with (⟨hg, hp⟩ | hc) | hc
  · exact ⟨.goroot, st.goroot, mem_recorded_goroot.mpr ⟨hg, rfl⟩, under_of_src hp⟩
  · obtain ⟨k, hk, hm⟩ := hasSrcPrefix_exists hc
    exact ⟨.gopath, k, hk, under_of_either hm⟩
  · obtain ⟨k, hk, hm⟩ := mapHasPrefix_exists hc
    exact ⟨.gomod, k, hk, hm⟩

/-- A state that has only recorded roots of a disjoint layout passes over a file under the root `a`
of kind `κ` only when it has recorded `a` itself, as a root of that kind. -/
theorem Inv.recorded_of_skips {st : RootsState} (hinv : Inv lay st) (hd : lay.Disjoint) {κ : RootKind} {a w : Bytes}
    (ha : a ∈ lay.rootsOf κ) (hu : hasPrefix w (a ++ b!"/") = true) (hs : skips st w = true) :
    a ∈ recorded st κ := by
  obtain ⟨κ', k, hk, hc⟩ := skips_recorded hs
  by_cases e : κ' = κ ∧ k = a
  · exact e.1 ▸ e.2 ▸ hk
  · exact (no_two_claims (hd.of_ne (hinv.recorded_sub κ' k hk) ha e) hc hu).elim

theorem DetectsGopath.step {w R L : Bytes} (hw : DetectsGopath lay fs w R L) (hd : lay.Disjoint)
    (hRL : (R, L) ∈ lay.gps) {st1 st2 : RootsState} (hinv : Inv lay st1)
    (hs : findRootsStep fs lay.lg lay.locals st1 w = .ok st2) : R ∈ st2.gopaths.keys := by
  have hR : R ∈ lay.remotes := List.mem_map_of_mem (f := Prod.fst) hRL
  have hu := under_of_either hw.under
  cases findRootsStep_outcome hs with
  | skip hsk => exact hinv.recorded_of_skips hd (κ := .gopath) hR hu hsk
  | goroot _ hr => rw [hw.gorootQuiet] at hr; cases hr
  | gopath k l _ _ hg =>
    rw [hw.probe] at hg
    cases hg
    exact AMap.keys_insert_self _ _ _
  | mod _ _ hg => rw [hw.probe] at hg; cases hg

theorem DetectsGoroot.step {w : Bytes} (hw : DetectsGoroot lay fs w) (hd : lay.Disjoint)
    {st1 st2 : RootsState} (hinv : Inv lay st1)
    (hs : findRootsStep fs lay.lg lay.locals st1 w = .ok st2) : st2.goroot = lay.rg := by
  have hu := under_of_src hw.under
  have hsuf : hasSuffix (isRootedIn fs (lay.lg ++ srcDir) (splitPath w)) srcDir = true := by
    rw [hw.probe]; exact hasSuffix_append _ _
  -- the GOROOT probe comes first: it answers, or GOROOT is known and `w` is passed over
  have key : skips st1 w = false → hasSuffix (gorootProbe fs lay.lg st1 (splitPath w)) srcDir = false → False := by
    intro hsk hq
    rcases hinv.goroot with h0 | h0
    · rw [gorootProbe_suffix.mpr ⟨h0, hsuf⟩] at hq
      cases hq
    · by_cases hne : lay.rg = []
      · rw [gorootProbe_suffix.mpr ⟨h0.trans hne, hsuf⟩] at hq
        cases hq
      · simp [skips, h0, hne, hw.under] at hsk
  cases findRootsStep_outcome hs with
  | skip hsk =>
    exact (mem_recorded_goroot.mp
      (hinv.recorded_of_skips hd (κ := .goroot) (List.mem_singleton.mpr rfl) hu hsk)).2.symm
  | goroot =>
    show (isRootedIn fs (lay.lg ++ srcDir) (splitPath w)).take _ = lay.rg
    rw [hw.probe]
    exact take_append_length _ _
  | gopath k l hsk hq => exact (key hsk hq).elim
  | mod hsk hq => exact (key hsk hq).elim

/-- What the step on a witness `w` establishes (`P`, kept by later steps) holds at the end. -/
theorem final_of_step {P : RootsState → Prop} {w : Bytes} {files : List Bytes}
    (ht : ∀ f ∈ files, Tame lay fs f) (hf : w ∈ files) {st0 fin : RootsState} (hinv : Inv2 lay fs st0)
    (hloop : findRootsLoop fs lay.lg lay.locals st0 files = .ok fin)
    (hstep : ∀ st1 st2, Inv2 lay fs st1 → findRootsStep fs lay.lg lay.locals st1 w = .ok st2 → P st2)
    (hmono : ∀ st2, P st2 → Mono st2 fin → P fin) : P fin ∧ Inv lay fin := by
  obtain ⟨pre, post, e⟩ := List.append_of_mem hf
  have hfin := (findRootsLoop_inv _ ht hinv hloop).inv
  rw [e] at hloop
  obtain ⟨st1, st2, h1, h2, h3⟩ := findRootsLoop_append pre hloop
  have hinv1 := findRootsLoop_inv pre (fun f hf' => ht f (e ▸ List.mem_append_left _ hf')) hinv h1
  exact ⟨hmono st2 (hstep st1 st2 hinv1 h2) (findRootsLoop_mono post h3), hfin⟩

theorem DetectsGopath.final {w R L : Bytes} (hw : DetectsGopath lay fs w R L) (hd : lay.Disjoint)
    {files : List Bytes} (ht : ∀ f ∈ files, Tame lay fs f) (hf : w ∈ files)
    {st0 fin : RootsState} (hinv : Inv2 lay fs st0)
    (hloop : findRootsLoop fs lay.lg lay.locals st0 files = .ok fin) :
    R ∈ fin.gopaths.keys ∧ fin.gopaths.get R = L := by
  have hRL : (R, L) ∈ lay.gps := (ht w hf).gopath R L hw.probe
  obtain ⟨hk, hfin⟩ := final_of_step (P := fun st => R ∈ st.gopaths.keys) ht hf hinv hloop
    (fun _ _ hi hs => hw.step hd hRL hi.inv hs) (fun _ hk hm => hm.gopaths _ hk)
  exact ⟨hk, hd.gps_functional (hfin.gopaths _ (AMap.get_of_mem_keys hk)) hRL⟩

theorem DetectsGoroot.final {w : Bytes} (hw : DetectsGoroot lay fs w) (hd : lay.Disjoint) (hne : lay.rg ≠ [])
    {files : List Bytes} (ht : ∀ f ∈ files, Tame lay fs f) (hf : w ∈ files)
    {st0 fin : RootsState} (hinv : Inv2 lay fs st0)
    (hloop : findRootsLoop fs lay.lg lay.locals st0 files = .ok fin) : fin.goroot = lay.rg :=
  (final_of_step (P := fun st => st.goroot = lay.rg) ht hf hinv hloop
    (fun _ _ hi hs => hw.step hd hi.inv hs)
    (fun _ h hm => by rw [hm.goroot (by rw [h]; exact hne), h])).1

/-! ### `updateLocations` with roots of the layout -/

theorem not_under_of_disjoint {f a k : Bytes} (hdis : disjointRoots k a = true)
    (hu : hasPrefix f (a ++ b!"/") = true) : hasPrefix f (k ++ b!"/") = false :=
  Bool.eq_false_iff.mpr fun h => no_two_claims hdis h hu

theorem tryGopath_none_of_disjoint {c : Call} {a k dest : Bytes} (hdis : disjointRoots k a = true)
    (hu : hasPrefix c.remoteSrcPath (a ++ b!"/") = true) : c.tryGopath k dest = none :=
  tryGopath_eq_none.mpr
    ⟨Bool.eq_false_iff.mpr fun h => no_two_claims hdis (under_of_src h) hu,
     Bool.eq_false_iff.mpr fun h => no_two_claims hdis (under_of_pkgmod h) hu⟩

theorem tryGoroot_none_of_disjoint {c : Call} {fin : RootsState} {lg a : Bytes} (hfin : Inv lay fin)
    (hdis : disjointRoots lay.rg a = true) (hu : hasPrefix c.remoteSrcPath (a ++ b!"/") = true) :
    c.tryGoroot fin.goroot lg = none :=
  tryGoroot_eq_none.mpr <| hfin.goroot.imp id fun e =>
    Bool.eq_false_iff.mpr fun h => no_two_claims hdis (under_of_src (by rw [← e]; exact h)) hu

theorem gopathLoop_at_remote {c : Call} {fin : RootsState} {R : Bytes} (hd : lay.Disjoint)
    (hfin : Inv lay fin) (hk : R ∈ fin.gopaths.keys) (hu : hasPrefix c.remoteSrcPath (R ++ b!"/") = true) :
    c.gopathLoop fin.gopaths (sortedByLen fin.gopaths) = c.tryGopath R (fin.gopaths.get R) := by
  rw [gopathLoop_eq]
  apply findSome?_unique (mem_sortedByLen.mpr hk)
  intro k hk' hne
  exact tryGopath_none_of_disjoint
    (hd.remote_remote (hfin.gopath_key (mem_sortedByLen.mp hk')) (hfin.gopath_key hk) hne) hu

theorem hasPrefix_root_sep (R sep rel : Bytes) : hasPrefix (R ++ sep ++ rel) (R ++ sep) = true :=
  hasPrefix_append _ _

theorem update_gopath {c c' : Call} {fin : RootsState} {lg R : Bytes} (hd : lay.Disjoint) (hfin : Inv lay fin)
    (hk : R ∈ fin.gopaths.keys) (hu : hasPrefix c.remoteSrcPath (R ++ b!"/") = true)
    (ht : c.tryGopath R (fin.gopaths.get R) = some c') :
    c.updateLocations fin.goroot lg fin.gomods fin.gopaths = (c', true) := by
  have hne : c.remoteSrcPath ≠ [] := fun e => by rw [e] at hu; cases R <;> cases hu
  exact updateLocations_true.mpr (updateLocations?_cases.mpr ⟨hne, Or.inr (Or.inl
    ⟨tryGoroot_none_of_disjoint hfin (hd.rg_remote (hfin.gopath_key hk)) hu,
      (gopathLoop_at_remote hd hfin hk hu).trans ht⟩)⟩)

theorem update_src {c : Call} {fin : RootsState} {lg R L rel : Bytes} (hd : lay.Disjoint) (hfin : Inv lay fin)
    (hc : c.remoteSrcPath = R ++ srcSep ++ rel)
    (hk : R ∈ fin.gopaths.keys) (hv : fin.gopaths.get R = L) :
    c.updateLocations fin.goroot lg fin.gomods fin.gopaths =
      ({ c with relSrcPath := rel, localSrcPath := L ++ srcSep ++ rel,
                importPath := importOfRel rel c.importPath, location := setLoc c .gopath }, true) :=
  update_gopath hd hfin hk (under_of_src (hc ▸ hasPrefix_root_sep _ _ _)) (hv ▸ tryGopath_src hc)

theorem update_pkgmod {c : Call} {fin : RootsState} {lg R L rel : Bytes} (hd : lay.Disjoint) (hfin : Inv lay fin)
    (hc : c.remoteSrcPath = R ++ pkgmodSep ++ rel)
    (hk : R ∈ fin.gopaths.keys) (hv : fin.gopaths.get R = L) :
    c.updateLocations fin.goroot lg fin.gomods fin.gopaths =
      ({ c with relSrcPath := rel, localSrcPath := L ++ pkgmodSep ++ rel,
                importPath := importOfRel rel c.importPath, location := setLoc c .goPkg }, true) :=
  update_gopath hd hfin hk (under_of_pkgmod (hc ▸ hasPrefix_root_sep _ _ _)) (hv ▸ tryGopath_pkgmod hc)

theorem update_goroot {c : Call} {goroot lg rel : Bytes} {gomods gopaths : AMap} (hne : goroot ≠ [])
    (hc : c.remoteSrcPath = goroot ++ srcSep ++ rel) :
    c.updateLocations goroot lg gomods gopaths =
      ({ c with relSrcPath := rel, localSrcPath := lg ++ srcSep ++ rel,
                importPath := importOfRel rel c.importPath, location := setLoc c .stdlib }, true) :=
  updateLocations_true.mpr (updateLocations?_cases.mpr
    ⟨by rw [hc]; simp [srcSep], Or.inl (tryGoroot_of hne hc)⟩)

/-- `f` lies under no root of the layout (decidable, on the layout alone) -/
structure Unclaimed (lay : Layout) (f : Bytes) : Prop where
  goroot : hasPrefix f (lay.rg ++ srcSep) = false
  gopaths : ∀ R ∈ lay.remotes, hasPrefix f (R ++ srcSep) = false ∧ hasPrefix f (R ++ pkgmodSep) = false
  gomods : ∀ k ∈ lay.modDirs, hasPrefix f (k ++ b!"/") = false

theorem update_unclaimed {c : Call} {fin : RootsState} {lg : Bytes} (hfin : Inv lay fin)
    (hu : Unclaimed lay c.remoteSrcPath) :
    c.updateLocations fin.goroot lg fin.gomods fin.gopaths = (c, false) := by
  have hgr : c.tryGoroot fin.goroot lg = none :=
    tryGoroot_eq_none.mpr (hfin.goroot.imp id fun e => by rw [e]; exact hu.goroot)
  have hgp : c.gopathLoop fin.gopaths (sortedByLen fin.gopaths) = none := by
    rw [gopathLoop_eq, List.findSome?_eq_none_iff]
    exact fun k hk => tryGopath_eq_none.mpr (hu.gopaths k (hfin.gopath_key (mem_sortedByLen.mp hk)))
  have hgm : c.gomodLoop fin.gomods (sortedByLen fin.gomods) = none := by
    rw [gomodLoop_eq, List.findSome?_eq_none_iff]
    exact fun k hk => tryGomod_eq_none.mpr (hu.gomods k (hfin.gomod_key (mem_sortedByLen.mp hk)))
  rw [Call.updateLocations, updateLocations?_eq_none.mpr (Or.inr ⟨hgr, hgp, hgm⟩)]

/-! ### reading the probe conditions on the disk contents -/

/-- neither probe under the local GOPATH `l` answers a root -/
def QuietGopath (fs : FS) (parts : List Bytes) (l : Bytes) : Prop :=
  hasSuffix (isRootedIn fs (l ++ srcDir) parts) srcDir = false ∧
  hasSuffix (isRootedIn fs (l ++ pkgmodDir) parts) pkgmodDir = false

instance (fs : FS) (parts : List Bytes) (l : Bytes) : Decidable (QuietGopath fs parts l) := by
  unfold QuietGopath; infer_instance

theorem findGopath_skip {parts : List Bytes} (pre rest : List Bytes) (h : ∀ l ∈ pre, QuietGopath fs parts l) :
    findGopath fs parts (pre ++ rest) = findGopath fs parts rest := by
  induction pre with
  | nil => rfl
  | cons a t ih =>
    have ha := h a List.mem_cons_self
    rw [List.cons_append, findGopath_cons, ha.1, ha.2]
    exact ih (fun l hl => h l (List.mem_cons_of_mem _ hl))

theorem quiet_of_absent {root suf : Bytes} {parts : List Bytes} (hsuf : suf ≠ [])
    (h : ∀ j, 0 < j → j < parts.length → fs.isFile (root ++ b!"/" ++ pathJoin (parts.drop j)) = false) :
    hasSuffix (isRootedIn fs root parts) suf = false := by
  rw [isRootedIn_none h]
  exact hasSuffix_nil_false hsuf

theorem findGopath_at {parts : List Bytes} {R L : Bytes} {pre post : List (Bytes × Bytes)}
    (hgps : lay.gps = pre ++ (R, L) :: post) (hpre : ∀ p ∈ pre, QuietGopath fs parts p.2) :
    findGopath fs parts lay.locals = findGopath fs parts (L :: post.map Prod.snd) := by
  have : lay.locals = pre.map Prod.snd ++ L :: post.map Prod.snd := by simp [Layout.locals, hgps]
  rw [this]
  apply findGopath_skip
  intro l hl
  obtain ⟨p, hp, rfl⟩ := List.mem_map.mp hl
  exact hpre p hp

theorem DetectsGopath.of_src_probe {w R L rel : Bytes} {pre post : List (Bytes × Bytes)}
    (hgps : lay.gps = pre ++ (R, L) :: post) (hw : w = R ++ srcSep ++ rel)
    (hG : hasSuffix (isRootedIn fs (lay.lg ++ srcDir) (splitPath w)) srcDir = false)
    (hpre : ∀ p ∈ pre, QuietGopath fs (splitPath w) p.2)
    (hhit : isRootedIn fs (L ++ srcDir) (splitPath w) = R ++ srcDir) :
    DetectsGopath lay fs w R L :=
  ⟨Or.inl (hw ▸ hasPrefix_root_sep _ _ _), hG, (findGopath_at hgps hpre).trans (findGopath_src_hit _ hhit)⟩

theorem DetectsGopath.of_pkgmod_probe {w R L rel : Bytes} {pre post : List (Bytes × Bytes)}
    (hgps : lay.gps = pre ++ (R, L) :: post) (hw : w = R ++ pkgmodSep ++ rel)
    (hG : hasSuffix (isRootedIn fs (lay.lg ++ srcDir) (splitPath w)) srcDir = false)
    (hpre : ∀ p ∈ pre, QuietGopath fs (splitPath w) p.2)
    (hq : hasSuffix (isRootedIn fs (L ++ srcDir) (splitPath w)) srcDir = false)
    (hhit : isRootedIn fs (L ++ pkgmodDir) (splitPath w) = R ++ pkgmodDir) :
    DetectsGopath lay fs w R L :=
  ⟨Or.inr (hw ▸ hasPrefix_root_sep _ _ _), hG, (findGopath_at hgps hpre).trans (findGopath_pkgmod_hit _ hq hhit)⟩

/-! ### files that satisfy `Tame` -/

theorem DetectsGopath.tame {w R L : Bytes} (hw : DetectsGopath lay fs w R L) (hRL : (R, L) ∈ lay.gps) :
    Tame lay fs w := by
  refine ⟨fun h => ?_, fun k l h => ?_, fun _ h => ?_⟩
  · rw [hw.gorootQuiet] at h; cases h
  · rw [hw.probe] at h
    cases h
    exact hRL
  · rw [hw.probe] at h
    cases h

/-- `hq`: the loop over `LocalGOPATHs` is reached on a GOROOT witness too, once the remote GOROOT is known -/
theorem DetectsGoroot.tame {w : Bytes} (hw : DetectsGoroot lay fs w)
    (hq : findGopath fs (splitPath w) lay.locals = .ok none) : Tame lay fs w := by
  refine ⟨fun _ => ⟨hw.probe, hw.under⟩, fun k l h => (by rw [hq] at h; cases h), ?_⟩
  intro h
  rw [hw.probe, hasSuffix_append] at h
  exact absurd h (by simp)

theorem tame_of_quiet {f : Bytes}
    (hG : hasSuffix (isRootedIn fs (lay.lg ++ srcDir) (splitPath f)) srcDir = false)
    (hP : findGopath fs (splitPath f) lay.locals = .ok none)
    (hM : (∀ i m, 0 < i → i < (splitPath f).length → modAt fs (pathJoin ((splitPath f).take i)) = some m →
        (pathJoin ((splitPath f).take i), m) ∈ lay.mods) ∧
      (fs.isFile f = true → (pathDir f, b!"main") ∈ lay.mods ∨
        (pathJoin (splitPath f) = f ∧
          ∃ i, 0 < i ∧ i < (splitPath f).length ∧ modAt fs (pathJoin ((splitPath f).take i)) ≠ none))) :
    Tame lay fs f := by
  refine ⟨fun h => ?_, fun k l h => ?_, fun _ _ => hM⟩
  · rw [hG] at h; cases h
  · rw [hP] at h; cases h

theorem tame_of_silent {f : Bytes}
    (hG : hasSuffix (isRootedIn fs (lay.lg ++ srcDir) (splitPath f)) srcDir = false)
    (hP : findGopath fs (splitPath f) lay.locals = .ok none)
    (hM : ∀ i, 0 < i → i < (splitPath f).length → modAt fs (pathJoin ((splitPath f).take i)) = none)
    (hF : fs.isFile f = false) : Tame lay fs f :=
  tame_of_quiet hG hP ⟨fun i m h1 h2 h => (by rw [hM i h1 h2] at h; cases h), fun h => (by rw [hF] at h; cases h)⟩

theorem findGopath_none_of_quiet {parts : List Bytes} (ls : List Bytes) (h : ∀ l ∈ ls, QuietGopath fs parts l) :
    findGopath fs parts ls = .ok none := by
  have := findGopath_skip (fs := fs) (parts := parts) ls [] h
  rw [List.append_nil] at this
  rw [this]
  rfl

/-! ### local go.mod modules -/

/-- `w` makes `findRoots` record the module `k ↦ m`: it is a clean path, neither
the GOROOT probe nor the loop over `LocalGOPATHs` claims it, `k` is one of its
directories `parts[:i]`, `k/go.mod` declares `module m`, and no directory
between `k` and the file has a `go.mod`. -/
structure DetectsGomod (lay : Layout) (fs : FS) (w k m : Bytes) : Prop where
  clean : pathJoin (splitPath w) = w
  gorootQuiet : hasSuffix (isRootedIn fs (lay.lg ++ srcDir) (splitPath w)) srcDir = false
  gopathQuiet : findGopath fs (splitPath w) lay.locals = .ok none
  dir : ∃ i, 0 < i ∧ i < (splitPath w).length ∧ k = pathJoin ((splitPath w).take i) ∧ modAt fs k = some m ∧
    ∀ j, i < j → j < (splitPath w).length → modAt fs (pathJoin ((splitPath w).take j)) = none

theorem DetectsGomod.under {w k m : Bytes} (hw : DetectsGomod lay fs w k m) :
    hasPrefix w (k ++ b!"/") = true := by
  obtain ⟨i, h1, h2, hk, _⟩ := hw.dir
  obtain ⟨t, _, e⟩ := clean_split hw.clean h1 h2
  exact (hasPrefix_iff _ _).mpr ⟨t, by rw [hk]; simpa [pfx] using e⟩

theorem DetectsGomod.step {w k m : Bytes} (hw : DetectsGomod lay fs w k m) (hd : lay.Disjoint)
    (hkm : (k, m) ∈ lay.mods) {st1 st2 : RootsState} (h2 : Inv2 lay fs st1)
    (hs : findRootsStep fs lay.lg lay.locals st1 w = .ok st2) : k ∈ st2.gomods.keys := by
  have hkd : k ∈ lay.modDirs := List.mem_map_of_mem (f := Prod.fst) hkm
  have hu := hw.under
  cases findRootsStep_outcome hs with
  | skip hsk => exact h2.inv.recorded_of_skips hd (κ := .gomod) hkd hu hsk
  | goroot _ hr => rw [hw.gorootQuiet] at hr; cases hr
  | gopath k' l _ _ hg => rw [hw.gopathQuiet] at hg; cases hg
  | mod hsk =>
    simp only [skips, Bool.or_eq_false_iff] at hsk
    obtain ⟨i, hi1, hi2, hk, hmod, habove⟩ := hw.dir
    rw [hk] at hmod
    -- the walk answers the innermost directory with a go.mod, which is `k`
    rcases findModule_trace h2.ci hw.clean hsk.2 with ⟨_, hnone⟩ | ⟨i', h1, h2', h3, h4, h5⟩
    · rw [hnone i hi1 hi2] at hmod
      cases hmod
    · have hii : i' = i := by
        rcases Nat.lt_trichotomy i' i with hlt | heq | hgt
        · rw [h5 i hlt hi2] at hmod; cases hmod
        · exact heq
        · rw [habove i' hgt h2'] at h4; cases h4
      subst hii
      have hne : (findModule fs st1.cache (splitPath w)).2.1 ≠ [] := h3 ▸ take_ne_nil_of_dirs h1 h2'
      rcases findRootsMod_cases fs st1 w (splitPath w) with ⟨_, e⟩ | ⟨hr, _⟩ | ⟨hr, _⟩
      · rw [e]
        show k ∈ AMap.keys (st1.gomods.insert _ _)
        rw [h3, ← hk]
        exact AMap.keys_insert_self _ _ _
      · exact absurd hr hne
      · exact absurd hr hne

theorem DetectsGomod.final {w k m : Bytes} (hw : DetectsGomod lay fs w k m) (hd : lay.Disjoint)
    {files : List Bytes} (ht : ∀ f ∈ files, Tame lay fs f) (hf : w ∈ files)
    {st0 fin : RootsState} (hinv : Inv2 lay fs st0)
    (hloop : findRootsLoop fs lay.lg lay.locals st0 files = .ok fin) :
    k ∈ fin.gomods.keys ∧ fin.gomods.get k = m := by
  have hkm : (k, m) ∈ lay.mods := by
    obtain ⟨i, h1, h2, hk, hmod, _⟩ := hw.dir
    rw [hk] at hmod ⊢
    exact ((ht w hf).modules hw.gorootQuiet hw.gopathQuiet).1 i m h1 h2 hmod
  obtain ⟨hk, hfin⟩ := final_of_step (P := fun st => k ∈ st.gomods.keys) ht hf hinv hloop
    (fun _ _ hi hs => hw.step hd hkm hi hs) (fun _ hk hm => hm.gomods _ hk)
  exact ⟨hk, hd.mods_functional (hfin.gomods _ (AMap.get_of_mem_keys hk)) hkm⟩

theorem update_gomod {c : Call} {fin : RootsState} {lg k m rel : Bytes} (hd : lay.Disjoint) (hfin : Inv lay fin)
    (hc : c.remoteSrcPath = k ++ b!"/" ++ rel)
    (hk : k ∈ fin.gomods.keys) (hv : fin.gomods.get k = m) :
    c.updateLocations fin.goroot lg fin.gomods fin.gopaths =
      ({ c with relSrcPath := rel, localSrcPath := c.remoteSrcPath,
                importPath := gomodImport m rel, location := setLoc c .goMod }, true) := by
  have hkd := hfin.gomod_key hk
  have hu : hasPrefix c.remoteSrcPath (k ++ b!"/") = true := hc ▸ hasPrefix_root_sep _ _ _
  have hgp : c.gopathLoop fin.gopaths (sortedByLen fin.gopaths) = none := by
    rw [gopathLoop_eq, List.findSome?_eq_none_iff]
    exact fun R hR => tryGopath_none_of_disjoint (hd.remote_mod (hfin.gopath_key (mem_sortedByLen.mp hR)) hkd) hu
  have hgm : c.gomodLoop fin.gomods (sortedByLen fin.gomods) = c.tryGomod k (fin.gomods.get k) := by
    rw [gomodLoop_eq]
    apply findSome?_unique (mem_sortedByLen.mpr hk)
    intro x hx hne
    exact tryGomod_eq_none.mpr (not_under_of_disjoint (hd.mod_mod (hfin.gomod_key (mem_sortedByLen.mp hx)) hkd hne) hu)
  exact updateLocations_true.mpr (updateLocations?_cases.mpr ⟨by rw [hc]; simp, Or.inr (Or.inr
    ⟨tryGoroot_none_of_disjoint hfin (hd.rg_mod hkd) hu, hgp, hgm.trans (hv ▸ tryGomod_of hc)⟩)⟩)

theorem DetectsGomod.tame {w k m : Bytes} (hw : DetectsGomod lay fs w k m)
    (hmods : ∀ i m', 0 < i → i < (splitPath w).length → modAt fs (pathJoin ((splitPath w).take i)) = some m' →
      (pathJoin ((splitPath w).take i), m') ∈ lay.mods) : Tame lay fs w := by
  refine tame_of_quiet hw.gorootQuiet hw.gopathQuiet ⟨hmods, fun _ => Or.inr ⟨hw.clean, ?_⟩⟩
  obtain ⟨i, h1, h2, hk, hmod, _⟩ := hw.dir
  exact ⟨i, h1, h2, by rw [← hk, hmod]; simp⟩

/-! ### files that exist as such and have no go.mod above them (`go run`) -/

/-- `w` makes `findRoots` record `path.Dir(w) ↦ "main"`: neither probe claims it,
no directory above it has a `go.mod`, and it exists itself.  (`under`: the file
lies in `path.Dir(w)`, i.e. the path is clean enough for `path.Dir` to cut off
exactly the last part.) -/
structure DetectsGorun (lay : Layout) (fs : FS) (w : Bytes) : Prop where
  under : hasPrefix w (pathDir w ++ b!"/") = true
  gorootQuiet : hasSuffix (isRootedIn fs (lay.lg ++ srcDir) (splitPath w)) srcDir = false
  gopathQuiet : findGopath fs (splitPath w) lay.locals = .ok none
  nomod : ∀ i, 0 < i → i < (splitPath w).length → modAt fs (pathJoin ((splitPath w).take i)) = none
  present : fs.isFile w = true

theorem DetectsGorun.step {w : Bytes} (hw : DetectsGorun lay fs w) (hd : lay.Disjoint)
    (hkm : (pathDir w, b!"main") ∈ lay.mods) {st1 st2 : RootsState} (hinv : Inv lay st1)
    (hs : findRootsStep fs lay.lg lay.locals st1 w = .ok st2) : pathDir w ∈ st2.gomods.keys := by
  have hkd : pathDir w ∈ lay.modDirs := List.mem_map_of_mem (f := Prod.fst) hkm
  have hu := hw.under
  cases findRootsStep_outcome hs with
  | skip hsk => exact hinv.recorded_of_skips hd (κ := .gomod) hkd hu hsk
  | goroot _ hr => rw [hw.gorootQuiet] at hr; cases hr
  | gopath k' l _ _ hg => rw [hw.gopathQuiet] at hg; cases hg
  | mod =>
    rcases findRootsMod_cases fs st1 w (splitPath w) with ⟨hr, _⟩ | ⟨_, _, e⟩ | ⟨_, hf, _⟩
    · obtain ⟨i, b, h1, h2, h3, h4, h5⟩ := findModule_spec hr
      have := hw.nomod i h1 h2
      rw [← h3, modAt_of_read h4 h5] at this
      cases this
    · rw [e]
      exact AMap.keys_insert_self _ _ _
    · rw [hw.present] at hf
      cases hf

theorem DetectsGorun.final {w : Bytes} (hw : DetectsGorun lay fs w) (hd : lay.Disjoint)
    {files : List Bytes} (ht : ∀ f ∈ files, Tame lay fs f) (hf : w ∈ files)
    {st0 fin : RootsState} (hinv : Inv2 lay fs st0)
    (hloop : findRootsLoop fs lay.lg lay.locals st0 files = .ok fin) :
    pathDir w ∈ fin.gomods.keys ∧ fin.gomods.get (pathDir w) = b!"main" := by
  have hkm : (pathDir w, b!"main") ∈ lay.mods := by
    rcases ((ht w hf).modules hw.gorootQuiet hw.gopathQuiet).2 hw.present with h | ⟨_, i, h1, h2, h3⟩
    · exact h
    · exact absurd (hw.nomod i h1 h2) h3
  obtain ⟨hk, hfin⟩ := final_of_step (P := fun st => pathDir w ∈ st.gomods.keys) ht hf hinv hloop
    (fun _ _ hi hs => hw.step hd hkm hi.inv hs) (fun _ hk hm => hm.gomods _ hk)
  exact ⟨hk, hd.mods_functional (hfin.gomods _ (AMap.get_of_mem_keys hk)) hkm⟩

theorem DetectsGorun.tame {w : Bytes} (hw : DetectsGorun lay fs w) (hkm : (pathDir w, b!"main") ∈ lay.mods) :
    Tame lay fs w :=
  tame_of_quiet hw.gorootQuiet hw.gopathQuiet
    ⟨fun i m h1 h2 h => (by rw [hw.nomod i h1 h2] at h; cases h), fun _ => Or.inl hkm⟩

/-! ### the hypotheses of the multi-root theorem, bundled -/

/-- The snapshot is configured for the layout, the remote roots of the layout
are pairwise disjoint, and every file of the dump is tame. -/
structure MultiHyp (fs : FS) (lay : Layout) (s : Snapshot) : Prop where
  localGoroot : s.localGOROOT = lay.lg
  localGopaths : s.localGOPATHs = lay.locals
  /-- `RemoteGOROOT` is not set beforehand, or is set to the right value -/
  remoteGoroot : s.remoteGOROOT = [] ∨ s.remoteGOROOT = lay.rg
  disjoint : lay.Disjoint
  tame : ∀ f ∈ getFiles s.goroutines, Tame lay fs f

theorem MultiHyp.loop {s : Snapshot} (H : MultiHyp fs lay s) {st : RootsState} (h : s.findRoots fs = .ok st) :
    findRootsLoop fs lay.lg lay.locals { goroot := s.remoteGOROOT } (getFiles s.goroutines) = .ok st := by
  rw [← H.localGoroot, ← H.localGopaths]; exact h

theorem MultiHyp.inv0 {s : Snapshot} (H : MultiHyp fs lay s) : Inv2 lay fs { goroot := s.remoteGOROOT } :=
  ⟨⟨H.remoteGoroot, by simp, by simp⟩, by intro d hd; simp at hd⟩

theorem MultiHyp.inv {s : Snapshot} (H : MultiHyp fs lay s) {st : RootsState} (h : s.findRoots fs = .ok st) :
    Inv lay st :=
  (findRootsLoop_inv _ H.tame H.inv0 (H.loop h)).inv

end PP
