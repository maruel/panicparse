import PP.Lemmas.LoopLemmas
import PP.Lemmas.ScanLoop
import PP.Lemmas.ScanEffect
/-
Helper lemmas for sections 1–4 of C07 (locality and resumption of the line-level loop `scanL`).
Nothing here depends on what the classifiers recognise: the lemmas hold for arbitrary bytes.
-/
namespace PP

/-- an item that cannot start a dump: the line is neither a goroutine header nor a race
separator (seen from the initial state, i.e. with the empty prefix), and no reader error -/
def NoStart (p : Bytes × Option RErr) : Prop := Plain p.1 ∧ p.2 = none

theorem scanL_plain_prefix (s : S) (hs : s.st = .looking) (hp : s.pfx = []) (fwd : Bytes)
    (cons : List Bytes) (pre rest : List (Bytes × Option RErr)) (h : ∀ p ∈ pre, NoStart p) :
    scanL s fwd cons (pre ++ rest) = scanL s (fwd ++ itemsBytes pre) cons rest := by
  have hnd : ¬ (s.st == .done) = true := by simp [hs]
  induction pre generalizing fwd with
  | nil => simp
  | cons x pre ih =>
    obtain ⟨d, e⟩ := x
    obtain ⟨hpl, he⟩ := h (d, e) (by simp)
    simp only at he hpl
    subst he
    have h' : ∀ p ∈ pre, NoStart p := fun p hp' => h p (by simp [hp'])
    rw [List.cons_append, scanL_cons, if_neg hnd]
    by_cases hlen : (d.length != 0) = true
    · rw [if_pos hlen, scanBytes_plain s d hs hp hpl]
      simp only [hs, combineErr]
      simp only [Bool.not_false, if_true, bne_self_eq_false, Bool.false_eq_true, if_false,
        Option.isSome_none]
      rw [ih _ h', itemsBytes_cons, List.append_assoc]
    · rw [if_neg hlen]
      have := length_eq_nil hlen
      subst this
      simp only
      rw [ih _ h']
      simp

/-! ### everything after the line that stops the loop is handed back untouched -/

/-- the loop ended before its input was exhausted, or in a way that does not depend on further
input: it broke, reported an error, panicked, left items, or is in state `done` -/
def OutL.stopped (o : OutL) : Bool :=
  o.broke || o.err.isSome || o.panicked.isSome || !o.rest.isEmpty || o.s.st == .done

theorem scanL_append (s : S) (fwd : Bytes) (cons : List Bytes) (xs ys : List (Bytes × Option RErr)) :
    scanL s fwd cons (xs ++ ys) =
      if (scanL s fwd cons xs).stopped then
        { scanL s fwd cons xs with rest := (scanL s fwd cons xs).rest ++ ys }
      else scanL (scanL s fwd cons xs).s (scanL s fwd cons xs).fwd (scanL s fwd cons xs).consumed ys := by
  induction xs generalizing s fwd cons with
  | nil =>
    by_cases hd : (s.st == .done) = true
    · rw [List.nil_append, scanL_done _ _ _ ys hd]
      simp [scanL, OutL.stopped, hd]
    · simp [scanL, OutL.stopped, hd]
  | cons x xs ih =>
    obtain ⟨d, e⟩ := x
    rw [List.cons_append, scanL_cons, scanL_cons]
    by_cases hd : (s.st == .done) = true
    · rw [if_pos hd, if_pos hd]; simp [OutL.stopped]
    · rw [if_neg hd, if_neg hd]
      by_cases hlen : (d.length != 0) = true
      · rw [if_pos hlen, if_pos hlen]
        cases hsc : scanBytes s d with
        | error p => simp [OutL.stopped]
        | ok v =>
          obtain ⟨s', l, e1⟩ := v
          dsimp only
          cases l with
          | false =>
            simp only [Bool.not_false, if_true]
            by_cases hlk : (s'.st != .looking) = true
            · rw [if_pos hlk, if_pos hlk]; simp [OutL.stopped]
            · rw [if_neg hlk, if_neg hlk]
              by_cases herr : (combineErr e e1).isSome = true
              · rw [if_pos herr, if_pos herr]; simp [OutL.stopped, herr]
              · rw [if_neg herr, if_neg herr]; exact ih _ _ _
          | true =>
            simp only [Bool.not_true, Bool.false_eq_true, if_false]
            by_cases herr : (combineErr e e1).isSome = true
            · rw [if_pos herr, if_pos herr]; simp [OutL.stopped, herr]
            · rw [if_neg herr, if_neg herr]; exact ih _ _ _
      · rw [if_neg hlen, if_neg hlen]
        cases e with
        | some r => simp [OutL.stopped]
        | none => exact ih _ _ _

theorem scanL_acc (s : S) (fwd : Bytes) (cons : List Bytes) (items : List (Bytes × Option RErr)) :
    scanL s fwd cons items =
      { scanL s [] [] items with
        fwd := fwd ++ (scanL s [] [] items).fwd, consumed := cons ++ (scanL s [] [] items).consumed } := by
  induction items generalizing s fwd cons with
  | nil => simp [scanL]
  | cons x items ih =>
    obtain ⟨d, e⟩ := x
    rw [scanL_cons, scanL_cons]
    by_cases hd : (s.st == .done) = true
    · rw [if_pos hd, if_pos hd]; simp
    · rw [if_neg hd, if_neg hd]
      by_cases hlen : (d.length != 0) = true
      · rw [if_pos hlen, if_pos hlen]
        cases hsc : scanBytes s d with
        | error p => simp
        | ok v =>
          obtain ⟨s', l, e1⟩ := v
          dsimp only
          cases l with
          | false =>
            simp only [Bool.not_false, if_true]
            by_cases hlk : (s'.st != .looking) = true
            · rw [if_pos hlk, if_pos hlk]; simp
            · rw [if_neg hlk, if_neg hlk]
              by_cases herr : (combineErr e e1).isSome = true
              · rw [if_pos herr, if_pos herr]; simp
              · rw [if_neg herr, if_neg herr]
                rw [ih s' (fwd ++ d) cons, ih s' ([] ++ d) []]
                simp
          | true =>
            simp only [Bool.not_true, Bool.false_eq_true, if_false]
            by_cases herr : (combineErr e e1).isSome = true
            · rw [if_pos herr, if_pos herr]; simp
            · rw [if_neg herr, if_neg herr]
              rw [ih s' fwd (cons ++ [d]), ih s' [] ([] ++ [d])]
              simp
      · rw [if_neg hlen, if_neg hlen]
        cases e with
        | some r => simp
        | none => exact ih _ _ _

/-! ### `rest` is a suffix of the input; progress from the initial state -/

theorem scanL_rest_suffix (s : S) (fwd : Bytes) (cons : List Bytes) (items : List (Bytes × Option RErr)) :
    ∃ pre, items = pre ++ (scanL s fwd cons items).rest := by
  fun_induction scanL s fwd cons items
  case case6 ih | case8 ih | case10 ih =>
    obtain ⟨pre, h⟩ := ih
    exact ⟨_ :: pre, by rw [List.cons_append, ← h]⟩
  case case5 | case7 | case9 => exact ⟨[_], rfl⟩
  all_goals exact ⟨[], rfl⟩

theorem scanL_rest_le (s : S) (fwd : Bytes) (cons : List Bytes) (items : List (Bytes × Option RErr)) :
    (scanL s fwd cons items).rest.length ≤ items.length := by
  obtain ⟨pre, h⟩ := scanL_rest_suffix s fwd cons items
  have := congrArg List.length h
  simp at this
  omega

theorem scan_looking_cases (s : S) (l : Line) (hs : s.st = .looking) (hi : l.indentOK = true) :
    (∃ s', scan s l = .ok (s', true, none)) ∨ scan s l = .ok (s, false, none) := by
  cases he : l.hasEOL
  · exact Or.inr (scan_noEOL he (Or.inl hs))
  · rw [scan_looking hs he hi]
    split
    · exact Or.inl ⟨_, rfl⟩
    · split
      · exact Or.inl ⟨_, rfl⟩
      · exact Or.inr rfl

theorem scanL_first_not_rest (s : S) (hs : s.st = .looking) (hp : s.pfx = []) (fwd : Bytes)
    (cons : List Bytes) (x : Bytes × Option RErr) (xs : List (Bytes × Option RErr)) :
    (scanL s fwd cons (x :: xs)).rest.length ≤ xs.length := by
  obtain ⟨d, e⟩ := x
  have hnd : ¬ (s.st == .done) = true := by simp [hs]
  rw [scanL_cons, if_neg hnd]
  by_cases hlen : (d.length != 0) = true
  · rw [if_pos hlen]
    unfold scanBytes
    rcases scan_looking_cases s (classify s.pfx d) hs (by rw [hp]; exact classify_nil_indentOK d) with
      ⟨s', h⟩ | h
    · rw [h]
      dsimp only
      simp only [Bool.not_true, Bool.false_eq_true, if_false]
      split
      · exact Nat.le_refl _
      · exact scanL_rest_le _ _ _ _
    · rw [h]
      dsimp only
      simp only [Bool.not_false, if_true, hs, bne_self_eq_false, Bool.false_eq_true, if_false]
      split
      · exact Nat.le_refl _
      · exact scanL_rest_le _ _ _ _
  · rw [if_neg hlen]
    cases e with
    | some r => exact Nat.le_refl _
    | none => exact scanL_rest_le _ _ _ _

/-! ### a remainder that starts at a line boundary re-splits into the same items -/

/-- `items` is a canonical split: complete lines without error, then the unterminated tail
with the terminal error -/
def IsSpec (items : List (Bytes × Option RErr)) (fin : RErr) : Prop :=
  ∃ (ls : List Bytes) (t : Bytes), items = ls.map (fun l => (l, (none : Option RErr))) ++ [(t, some fin)] ∧
    (∀ l ∈ ls, ∃ p, (10 : UInt8) ∉ p ∧ l = p ++ [10]) ∧ (10 : UInt8) ∉ t

theorem isSpec_specLines (bs : Bytes) (fin : RErr) : IsSpec (specLines bs fin) fin :=
  ⟨(splitLines bs).1, (splitLines bs).2, rfl, splitLines_lines bs, splitLines_tail_noNL bs⟩

theorem splitLines_of_lines (ls : List Bytes) (t : Bytes)
    (hl : ∀ l ∈ ls, ∃ p, (10 : UInt8) ∉ p ∧ l = p ++ [10]) (ht : (10 : UInt8) ∉ t) :
    splitLines (ls.flatten ++ t) = (ls, t) := by
  induction ls with
  | nil =>
    simp only [List.flatten_nil, List.nil_append]
    exact splitLines_of_cutNL_none ((cutNL_none_iff t).2 ht)
  | cons l ls ih =>
    obtain ⟨p, hp, rfl⟩ := hl l (by simp)
    have ih' := ih (fun l hl' => hl l (by simp [hl']))
    rw [List.flatten_cons, List.append_assoc, splitLines_line_append p _ hp, ih']

theorem specLines_of_isSpec (items : List (Bytes × Option RErr)) (fin : RErr) (h : IsSpec items fin) :
    specLines (itemsBytes items) fin = items := by
  obtain ⟨ls, t, rfl, hl, ht⟩ := h
  rw [itemsBytes_append, itemsBytes_map_none]
  simp only [itemsBytes_cons, itemsBytes_nil, List.append_nil]
  simp only [specLines]
  rw [splitLines_of_lines ls t hl ht]

theorem isSpec_suffix (xs ys : List (Bytes × Option RErr)) (fin : RErr) (h : IsSpec (xs ++ ys) fin)
    (hy : ys ≠ []) : IsSpec ys fin := by
  induction xs with
  | nil => simpa using h
  | cons x xs ih =>
    apply ih
    obtain ⟨ls, t, heq, hl, ht⟩ := h
    cases ls with
    | nil =>
      simp at heq
      exact absurd heq.2.2 hy
    | cons l ls =>
      simp only [List.map_cons, List.cons_append, List.cons.injEq] at heq
      exact ⟨ls, t, heq.2, fun l' hl' => hl l' (by simp [hl']), ht⟩

theorem scanL_init_no_panic (fwd : Bytes) (cons : List Bytes) (items : List (Bytes × Option RErr)) :
    (scanL {} fwd cons items).panicked = none :=
  (scanL_panicked_none {} fwd cons items inv_init').1

/-! ### repeated scanning -/

/-- the resumption protocol at line level: scan from the initial state; when the call returns
without error (and without panic), scan again what it handed back.  Each entry is the input of
a call and its result.  `MultiReader(suffix, unread input)` re-splits into `o.rest`
(`specLines_suffix`, `scanSnapshot_eq_L`). -/
def scanAll : Nat → List (Bytes × Option RErr) → List (List (Bytes × Option RErr) × OutL)
  | 0, _ => []
  | n + 1, items =>
    let o := scanL {} [] [] items
    if o.err.isNone && o.panicked.isNone then (items, o) :: scanAll n o.rest else [(items, o)]

/-- the bytes processed (forwarded or withheld) by the calls, in order -/
def tiles (calls : List (List (Bytes × Option RErr) × OutL)) : Bytes :=
  calls.flatMap (fun c => (trace {} c.1).flatMap (·.2))

/-- what the last call handed back (the whole input if there was no call) -/
def remaining (calls : List (List (Bytes × Option RErr) × OutL)) (items : List (Bytes × Option RErr)) :
    List (Bytes × Option RErr) :=
  match calls.getLast? with
  | none => items
  | some c => c.2.rest

theorem remaining_cons (c : List (Bytes × Option RErr) × OutL) (cs) (items : List (Bytes × Option RErr)) :
    remaining (c :: cs) items = remaining cs c.2.rest := by
  cases cs with
  | nil => rfl
  | cons c' cs =>
    simp only [remaining, List.getLast?_cons_cons]
    cases h : (c' :: cs).getLast? with
    | none => simp at h
    | some x => rfl

theorem scanAll_succ (n : Nat) (items : List (Bytes × Option RErr)) :
    scanAll (n + 1) items =
      if (scanL {} [] [] items).err.isNone && (scanL {} [] [] items).panicked.isNone then
        (items, scanL {} [] [] items) :: scanAll n (scanL {} [] [] items).rest
      else [(items, scanL {} [] [] items)] := rfl

theorem scanL_last_err (s : S) (fwd : Bytes) (cons : List Bytes) (init : List (Bytes × Option RErr))
    (t : Bytes) (r : RErr) :
    (scanL s fwd cons (init ++ [(t, some r)])).err.isSome = true ∨
    (scanL s fwd cons (init ++ [(t, some r)])).panicked.isSome = true ∨
    ∃ init', (scanL s fwd cons (init ++ [(t, some r)])).rest = init' ++ [(t, some r)] := by
  generalize hi : init ++ [(t, some r)] = items
  fun_induction scanL s fwd cons items generalizing init
  case case1 => simp at hi
  case case2 | case4 => exact Or.inr (Or.inr ⟨init, hi.symm⟩)
  case case3 => exact Or.inr (Or.inl rfl)
  case case5 h | case7 h => exact Or.inl h
  case case9 => exact Or.inl rfl
  case case6 herr ih | case8 herr ih =>
    cases init with
    | nil =>
      -- the last item cannot be passed over: its reader error is an error of the call
      simp at hi
      obtain ⟨⟨rfl, rfl⟩, rfl⟩ := hi
      exact absurd (combineErr_some r _) herr
    | cons x init =>
      simp at hi
      exact ih init hi.2
  case case10 ih =>
    cases init with
    | nil => simp at hi
    | cons x init =>
      simp at hi
      exact ih init hi.2

theorem tiles_cons (c : List (Bytes × Option RErr) × OutL) (cs) :
    tiles (c :: cs) = (trace {} c.1).flatMap (·.2) ++ tiles cs := by
  simp [tiles]

/-- conservation (as `PP.conservation` in `PP.Props.C02`) -/
theorem trace_conservation (s : S) (fwd : Bytes) (cons : List Bytes) (items : List (Bytes × Option RErr)) :
    (trace s items).flatMap (·.2) ++ itemsBytes (scanL s fwd cons items).rest = itemsBytes items := by
  obtain ⟨_, _, h3⟩ := scanL_traceL s fwd cons items
  unfold trace
  rw [← bytesOf_eq]
  exact h3

/-! ### a clean end leaves the goroutines as they were before the terminating line -/

/-- a line that is not processed and raises no error changes at most the state enum and the
prefix (`scan_effect`), not the goroutines -/
theorem scan_false_none_gs {s s' : S} {l : Line} (h : scan s l = .ok (s', false, none)) :
    s'.gs = s.gs := by
  cases scan_effect h <;> rfl

theorem combineErr_eq_none {e : Option RErr} {e1 : Option Err} (h : combineErr e e1 = none) :
    e = none ∧ e1 = none := by
  cases e1 <;> cases e <;> simp [combineErr] at h ⊢
  rename_i a b; cases b <;> simp at h

theorem scanL_single_clean (s : S) (fwd : Bytes) (cons : List Bytes) (x : Bytes × Option RErr)
    (h1 : (scanL s fwd cons [x]).rest = [x]) (h2 : (scanL s fwd cons [x]).err = none) :
    (scanL s fwd cons [x]).s.gs = s.gs := by
  generalize hi : [x] = items at h1 h2 ⊢
  fun_induction scanL s fwd cons items
  case case1 => simp at hi
  case case2 | case3 => rfl
  case case4 d e items _ _ s' l e1 hsc _ hl _ =>
    simp only at h2 ⊢
    obtain ⟨_, rfl⟩ := combineErr_eq_none h2
    simp at hl
    subst hl
    exact scan_false_none_gs hsc
  case case5 herr | case7 herr => simp only at h2; rw [h2] at herr; simp at herr
  case case9 => simp at h2
  case case6 | case8 | case10 =>
    -- the only item was passed over: nothing is handed back
    simp only [List.cons.injEq] at hi
    obtain ⟨rfl, rfl⟩ := hi
    simp [scanL] at h1

theorem scanL_clean_end_gs (s : S) (fwd : Bytes) (cons : List Bytes) (d : List (Bytes × Option RErr))
    (t : Bytes × Option RErr) (h1 : (scanL s fwd cons (d ++ [t])).rest = [t])
    (h2 : (scanL s fwd cons (d ++ [t])).err = none) :
    (scanL s fwd cons (d ++ [t])).s.gs = (scanL s fwd cons d).s.gs := by
  rw [scanL_append] at h1 h2 ⊢
  by_cases hst : (scanL s fwd cons d).stopped = true
  · rw [if_pos hst]
  · rw [if_neg hst] at h1 h2 ⊢
    exact scanL_single_clean _ _ _ _ h1 h2

/-- `Blocks items outs`: `items` is `pre₁ ++ d₁ ++ t₁ :: …` where each `preᵢ` starts no dump,
each `dᵢ` scanned alone up to its terminating line `tᵢ` hands `tᵢ` back without error; the next
block begins at `tᵢ`.  `outs` are the results of scanning each `dᵢ ++ [tᵢ]` alone, relocated. -/
inductive Blocks : List (Bytes × Option RErr) → List OutL → Prop
  | nil (items : List (Bytes × Option RErr)) : Blocks items []
  | cons (pre d post : List (Bytes × Option RErr)) (t : Bytes × Option RErr) (outs : List OutL) :
      (∀ p ∈ pre, NoStart p) →
      (scanL {} [] [] (d ++ [t])).rest = [t] → (scanL {} [] [] (d ++ [t])).err = none →
      Blocks (t :: post) outs →
      Blocks (pre ++ d ++ t :: post)
        ({ scanL {} [] [] (d ++ [t]) with
            fwd := itemsBytes pre ++ (scanL {} [] [] (d ++ [t])).fwd, rest := t :: post } :: outs)

/-! ### resumption at the level of `ScanSnapshot` -/

theorem specLines_eq (bs : Bytes) (fin : RErr) :
    specLines bs fin = (splitLines bs).1.map (fun l => (l, none)) ++ [((splitLines bs).2, some fin)] := rfl

/-- the result of `ScanSnapshot` computed from the outcome of the loop (the body of `scanSnapshotL`) -/
def resultOf (nameArgs : Bool) (o : OutL) : ScanResult :=
  let snap := if o.s.gs.isEmpty then none else some (if nameArgs then nameArguments o.s.gs else o.s.gs)
  let remaining := itemsBytes o.rest
  let suffix := if o.broke || o.s.st == .done then some remaining else none
  { snap := snap, fwd := o.fwd, suffix := suffix, unread := if suffix.isSome then [] else remaining,
    err := o.err, consumed := o.consumed, state := o.s.st, panicked := o.panicked.isSome }

theorem scanSnapshotL_eq (nameArgs : Bool) (bs : Bytes) (fin : RErr) :
    scanSnapshotL nameArgs bs fin = resultOf nameArgs (scanL {} [] [] (specLines bs fin)) := rfl

/-- whatever way the remaining bytes are split between `suffix` and the unread input,
`MultiReader(suffix, unread)` carries the bytes of `rest` -/
theorem resultOf_remaining (nameArgs : Bool) (o : OutL) :
    (resultOf nameArgs o).suffix.getD [] ++ (resultOf nameArgs o).unread = itemsBytes o.rest := by
  simp only [resultOf]
  cases (o.broke || o.s.st == .done) <;> simp

/-- the caller's loop around `ScanSnapshot` (as in `cmd/pp`): scan; if there is no error, scan
again `MultiReader(suffix, unread input)` -/
def scanAllB (nameArgs : Bool) : Nat → Bytes → RErr → List ScanResult
  | 0, _, _ => []
  | n + 1, bs, fin =>
    let r := scanSnapshotL nameArgs bs fin
    if r.err.isNone && !r.panicked then r :: scanAllB nameArgs n (r.suffix.getD [] ++ r.unread) fin
    else [r]

end PP
