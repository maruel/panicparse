import PP.Lemmas.HtmlDocLemmas
/-
Lemmas about the whole document of PP/Model/HtmlDoc.lean: the head, the
Metadata section, the footer.
-/
namespace PP.Html
open PP PP.Bytes

/-- the holes of a piece list, in order: (pipeline, value) -/
def holesOf (ps : List Piece) : List (HoleKind × Bytes) :=
  ps.filterMap fun p => match p with | .hole k v => some (k, v) | .lit _ => none

theorem holesOf_append (a b : List Piece) : holesOf (a ++ b) = holesOf a ++ holesOf b := by
  simp [holesOf, List.filterMap_append]

@[simp] theorem holesOf_nil : holesOf [] = [] := rfl
@[simp] theorem holesOf_lit (b : Bytes) (ps : List Piece) : holesOf (.lit b :: ps) = holesOf ps := by
  simp [holesOf]
@[simp] theorem holesOf_hole (k : HoleKind) (v : Bytes) (ps : List Piece) :
    holesOf (.hole k v :: ps) = (k, v) :: holesOf ps := by
  simp [holesOf]
@[simp] theorem holesOf_tx (v : Bytes) (ps : List Piece) : holesOf (tx v :: ps) = (.text, v) :: holesOf ps := by
  simp [tx]
@[simp] theorem holesOf_txNat (n : Nat) (ps : List Piece) :
    holesOf (txNat n :: ps) = (.text, natToDec n) :: holesOf ps := by
  simp [txNat]

/-- the favicon hole is rendered by the pinned pipeline `urlnormalizer, attrescaper` -/
theorem faviconHole_render (v : Bytes) :
    (faviconHole v).render = .ok (attrEscaper (urlNormalizer v)) := rfl

@[simp] theorem wf_faviconHole (v : Bytes) : Piece.wf (faviconHole v) = true := rfl

theorem headPieces_lits (m : DocMeta) : litsOf (headPieces m) = headLits' := rfl

theorem headPieces_wf (m : DocMeta) : (headPieces m).all Piece.wf = true := rfl

theorem headPieces_holes (m : DocMeta) : holesOf (headPieces m) = [(.href, m.favicon)] := rfl

/-! ### the Metadata section: literals of `metaLits`, text holes with the values `metaVals` -/

theorem joinItems_plain (l : List Bytes) : plainPart [Lit.j0] (joinItems l) = true := by
  induction l with
  | nil => rfl
  | cons x xs ih =>
    cases xs with
    | nil => rfl
    | cons y ys => exact ih

theorem joinItems_holes (l : List Bytes) : holesOf (joinItems l) = l.map fun e => (HoleKind.text, e) := by
  induction l with
  | nil => rfl
  | cons x xs ih =>
    cases xs with
    | nil => rfl
    | cons y ys => simp only [joinItems, holesOf_tx, holesOf_lit, List.map_cons]; rw [ih]; rfl

/-- the values printed for GOROOT -/
def gorootVals (m : DocMeta) : List Bytes :=
  if m.localGOROOT != [] && m.remoteGOROOT != m.localGOROOT then [m.remoteGOROOT, m.localGOROOT]
  else [m.remoteGOROOT]

theorem gorootPieces_plain (m : DocMeta) : plainPart metaLits (gorootPieces m) = true := by
  unfold gorootPieces; split <;> rfl

theorem gorootPieces_holes (m : DocMeta) :
    holesOf (gorootPieces m) = (gorootVals m).map fun e => (HoleKind.text, e) := by
  unfold gorootPieces gorootVals; split <;> rfl

theorem gomodItems_plain (l : List (Bytes × Bytes)) : plainPart metaLits (gomodItems l) = true := by
  induction l with
  | nil => rfl
  | cons x xs ih => rw [gomodItems, plainPart_append, ih]; rfl

theorem gomodItems_holes (l : List (Bytes × Bytes)) :
    holesOf (gomodItems l) = l.flatMap fun kv => [(HoleKind.text, kv.1), (HoleKind.text, kv.2)] := by
  induction l with
  | nil => rfl
  | cons x xs ih => simp [gomodItems, ih]

theorem gomodPieces_plain (m : DocMeta) : plainPart metaLits (gomodPieces m) = true := by
  unfold gomodPieces
  split
  · rfl
  · simp only [plainPart_append, gomodItems_plain, Bool.and_true]; rfl

theorem gomodPieces_holes (m : DocMeta) :
    holesOf (gomodPieces m) = m.localGomods.flatMap fun kv => [(HoleKind.text, kv.1), (HoleKind.text, kv.2)] := by
  unfold gomodPieces
  split
  · rename_i h
    rw [List.isEmpty_iff] at h; rw [h]; rfl
  · simp [holesOf_append, gomodItems_holes]

theorem metaPieces_plain (ver : Bytes) (m : DocMeta) : plainPart metaLits (metaPieces ver m) = true := by
  have hj := plainPart_mono (joinItems_plain m.localGOPATHs) (by decide +kernel : [Lit.j0] ⊆ metaLits)
  have hl : plainPart metaLits (metaListPieces ver m) = true := by
    unfold metaListPieces
    simp only [plainPart_append, gorootPieces_plain, gomodPieces_plain, hj, Bool.and_true]
    rfl
  -- `Lit.t53` is in `metaLits` by its position: comparing its 1618 bytes with themselves recurses too deep
  rw [metaPieces, plainPart_append, hl, plainPart_lit, List.contains_iff_mem.2 (List.mem_of_getElem? (i := 17) rfl)]
  rfl

theorem metaPieces_lits (ver : Bytes) (m : DocMeta) : inS metaLits (litsOf (metaPieces ver m)) = true :=
  plainPart_lits (metaPieces_plain ver m)

theorem metaPieces_wf (ver : Bytes) (m : DocMeta) : (metaPieces ver m).all Piece.wf = true :=
  plainPart_wf (metaPieces_plain ver m)

/-- every value the Metadata section prints, in document order -/
def metaVals (ver : Bytes) (m : DocMeta) : List Bytes :=
  [m.now, ver] ++ gorootVals m ++ m.localGOPATHs ++ (m.localGomods.flatMap fun kv => [kv.1, kv.2]) ++
  [natToDec m.gomaxprocs]

theorem mem_metaVals {ver : Bytes} {m : DocMeta} {x : Bytes} :
    x ∈ metaVals ver m ↔ x = m.now ∨ x = ver ∨ x ∈ gorootVals m ∨ x ∈ m.localGOPATHs ∨
      (∃ kv ∈ m.localGomods, x = kv.1 ∨ x = kv.2) ∨ x = natToDec m.gomaxprocs := by
  simp [metaVals]

theorem remoteGOROOT_mem_gorootVals (m : DocMeta) : m.remoteGOROOT ∈ gorootVals m := by
  unfold gorootVals; split <;> simp

theorem metaPieces_holes (ver : Bytes) (m : DocMeta) :
    holesOf (metaPieces ver m) = (metaVals ver m).map fun e => (HoleKind.text, e) := by
  unfold metaPieces metaListPieces metaVals
  simp [holesOf_append, gorootPieces_holes, joinItems_holes, gomodPieces_holes, List.map_flatMap]

/-! ### the content division: its literals are template text nodes -/

theorem contentOf_spec (ver : Bytes) (b : DocBody) (c : List Piece) (h : contentOf ver b = .ok c) :
    inS contentLits (litsOf c) = true ∧ c.all Piece.wf = true := by
  refine contentOf_closed (fun r => inS contentLits (litsOf r) = true ∧ r.all Piece.wf = true) ⟨rfl, rfl⟩ ?_ ?_ h
  · rintro a b ⟨ha, ha'⟩ ⟨hb, hb'⟩
    rw [litsOf_append, inS_append, ha, hb, List.all_append, ha', hb']; exact ⟨rfl, rfl⟩
  · intro m sig r hm hs
    have hspec : BlockSpec m sig r := hs.spec (marker_fresh hm)
    refine ⟨inS_mono hspec.inner ?_, hspec.wf⟩
    -- `contentLits` is both markers, then `Lit.c0 :: blockInner`
    intro x hx
    rcases List.mem_cons.1 hx with rfl | hx
    · rcases hm with rfl | rfl <;> simp [contentLits]
    · exact List.mem_cons_of_mem _ (List.mem_cons_of_mem _ hx)

theorem docPieces_eq (d : DocData) (ps : List Piece) (h : docPieces d = .ok ps) :
    ∃ c, contentOf d.ver d.body = .ok c ∧ ps = headPieces d.toDocMeta ++ c ++ metaPieces d.ver d.toDocMeta := by
  unfold docPieces at h
  split at h
  · cases h
  · rename_i c hc
    injection h with h
    exact ⟨c, hc, h.symm⟩

theorem docPieces_spec (d : DocData) (ps : List Piece) (h : docPieces d = .ok ps) :
    inS docLits (litsOf ps) = true ∧ ps.all Piece.wf = true := by
  obtain ⟨c, hc, rfl⟩ := docPieces_eq d ps h
  obtain ⟨c1, c2⟩ := contentOf_spec d.ver d.body c hc
  constructor
  · rw [litsOf_append, litsOf_append, inS_append, inS_append, headPieces_lits, inS_iff.2 headLits'_subset_docLits,
      inS_mono c1 contentLits_subset_docLits, inS_mono (metaPieces_lits d.ver d.toDocMeta) metaLits_subset_docLits]
    rfl
  · simp [List.all_append, headPieces_wf, c2, metaPieces_wf]

theorem renderWithFooter_spec (ps : List Piece) (footer : Bytes) (h : ps.all Piece.wf = true) :
    ∃ r, renderPieces ps = .ok r ∧ renderWithFooter ps footer = .ok (r ++ footer ++ Lit.t54) ∧
      markup (r ++ footer ++ Lit.t54) = markup (litsOf ps).flatten ++ markup footer ++ markup Lit.t54 := by
  obtain ⟨r, hr, hm⟩ := renderPieces_spec ps h
  refine ⟨r, hr, ?_, ?_⟩
  · simp [renderWithFooter, hr, htmlEscaperHTML]
  · rw [markup_append, markup_append, hm]

theorem renderDoc_eq (d : DocData) (ps : List Piece) (h : docPieces d = .ok ps) :
    renderDoc d = renderWithFooter ps d.footer := by
  simp [renderDoc, h]

/-- text holes render to text in which every `&` starts a reference, so the rendering is as good
as the literals -/
theorem renderPieces_ampOK {S : List Bytes} (hS : ∀ a ∈ S, ampOK a = true) {ps : List Piece}
    (hp : plainPart S ps = true) (r : Bytes) (h : renderPieces ps = .ok r) : ampOK r = true := by
  induction ps generalizing r with
  | nil => injection h with h; subst h; rfl
  | cons p ps ih =>
    simp only [plainPart, List.all_cons, Bool.and_eq_true] at hp
    obtain ⟨b, r', hb, hr', rfl⟩ := renderPieces_cons_inv h
    refine ampOK_append _ _ ?_ (ih hp.2 r' hr')
    cases p with
    | lit x => injection hb with hb; subst hb; exact hS x (List.contains_iff_mem.1 hp.1)
    | hole k v =>
      rw [beq_iff_eq.1 hp.1] at hb
      injection hb with hb; subst hb
      exact ampOK_htmlReplacer v

/-! ### rendering succeeds -/

/-- the runtime version does not trip the slice expression of html.go:142 -/
def verOK (ver : Bytes) : Prop := hasPrefix ver develPrefix = false ∨ 17 ≤ ver.length

theorem builders_ok' (ver : Bytes) (c : Call) (hv : verOK ver) :
    (∃ u, srcURL ver c = .ok u) ∧ (∃ u, pkgURL ver c = .ok u) := by
  have hd : ∃ v, develVersion ver = .ok v := by
    unfold develVersion
    rcases hv with hv | hv
    · rw [hv]; exact ⟨_, rfl⟩
    · split
      · rw [if_neg (show ¬ver.length < develPrefix.length + 10 from Nat.not_lt.2 hv)]; exact ⟨_, rfl⟩
      · exact ⟨_, rfl⟩
  obtain ⟨v, hv'⟩ := hd
  have hg : ∃ ut, getSrcBranchURL ver c = .ok ut := by
    unfold getSrcBranchURL
    split
    · rw [hv']; exact ⟨_, rfl⟩
    · exact ⟨_, rfl⟩
  obtain ⟨ut, hut⟩ := hg
  constructor
  · exact ⟨ut.1, by simp [srcURL, hut, Except.map]⟩
  · have hs : ∃ s, pkgSite ver c = .ok s := by
      unfold pkgSite
      split
      · exact ⟨_, rfl⟩
      · rw [hut]; simp only []; split <;> exact ⟨_, rfl⟩
    obtain ⟨s, hs⟩ := hs
    unfold pkgURL
    simp only [hs]
    split
    · exact ⟨_, rfl⟩
    · split <;> exact ⟨_, rfl⟩

theorem callRow_ok (ver : Bytes) (hv : verOK ver) (i : Nat) (c : Call) : ∃ r, callRow ver i c = .ok r := by
  obtain ⟨⟨su, hsu⟩, ⟨pu, hpu⟩⟩ := builders_ok' ver c hv
  unfold callRow
  rw [hsu, hpu]
  exact ⟨_, rfl⟩

theorem renderCalls_ok (ver : Bytes) (hv : verOK ver) (s : Stack) : ∃ r, renderCalls ver s = .ok r := by
  obtain ⟨rows, h⟩ := concatMapIdx_ok (callRow_ok ver hv) 0 s.calls
  simp only [renderCalls, callRows_eq, h]; exact ⟨_, rfl⟩

theorem createdPieces_ok (ver : Bytes) (hv : verOK ver) (s : Signature) : ∃ r, createdPieces ver s = .ok r := by
  unfold createdPieces
  split
  · exact ⟨_, rfl⟩
  · rename_i c _ _
    obtain ⟨⟨su, hsu⟩, ⟨pu, hpu⟩⟩ := builders_ok' ver c hv
    simp only [renderCreatedBy, hsu, hpu]
    exact ⟨_, rfl⟩

theorem goroutineBlock_ok (ver : Bytes) (hv : verOK ver) (g : Goroutine) : ∃ r, goroutineBlock ver g = .ok r := by
  obtain ⟨cr, hcr⟩ := createdPieces_ok ver hv g.sig
  obtain ⟨calls, hcalls⟩ := renderCalls_ok ver hv g.sig.stack
  simp only [goroutineBlock, hcr, hcalls]; exact ⟨_, rfl⟩

theorem bucketBlock_ok (ver : Bytes) (hv : verOK ver) (i : Nat) (b : Bucket) : ∃ r, bucketBlock ver i b = .ok r := by
  obtain ⟨cr, hcr⟩ := createdPieces_ok ver hv b.sig
  obtain ⟨calls, hcalls⟩ := renderCalls_ok ver hv b.sig.stack
  simp only [bucketBlock, hcr, hcalls]; exact ⟨_, rfl⟩

theorem docPieces_ok (d : DocData) (hv : verOK d.ver) : ∃ ps, docPieces d = .ok ps := by
  have : ∃ c, contentOf d.ver d.body = .ok c := by
    cases hb : d.body with
    | snapshot gs =>
      show ∃ c, goroutineBlocks d.ver gs = .ok c
      rw [goroutineBlocks_eq d.ver 0]; exact concatMapIdx_ok (fun _ => goroutineBlock_ok d.ver hv) 0 gs
    | aggregated bs =>
      show ∃ c, bucketBlocks d.ver 0 bs = .ok c
      rw [bucketBlocks_eq]; exact concatMapIdx_ok (bucketBlock_ok d.ver hv) 0 bs
  obtain ⟨c, hc⟩ := this
  simp only [docPieces, hc]; exact ⟨_, rfl⟩

end PP.Html
