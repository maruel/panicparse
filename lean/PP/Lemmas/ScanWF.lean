import PP.Lemmas.ScanGs
import PP.Lemmas.SigLaws
/-
For section 6 of Props/C03.lean: the arguments `parseArgs` builds are well-formed,
and every goroutine the scanner holds has a well-formed signature.  The walk over
`parseArgs` is done once, for any predicate on argument lists that is closed under its
operations (`ArgsClosed`, `parseArgs_closed`); well-formedness is one instance,
Lemmas/ScanUnnamed.lean uses another.
-/
namespace PP
open Bytes

/-! ### parseArgs

`parseArgs` builds its result from `[]` by appending scalars without a name and closed
aggregates: a property of argument lists that these steps keep holds of the result. -/

/-- what `parseArgs` needs of a property `W` of argument lists to establish it of its result;
the scalars are those `argItem` makes: `_` (too large to print) and a parsed number -/
structure ArgsClosed (W : List Arg → Bool) : Prop where
  nil : W [] = true
  append : ∀ as bs, W (as ++ bs) = (W as && W bs)
  scalar : ∀ v p o i, (o = true → v = 0 ∧ p = false) → W [.scalar [] v p o i] = true
  agg : ∀ vs e, W vs = true → W [.agg vs e] = true

/-- every open aggregate satisfies `W` -/
def FramesW (W : List Arg → Bool) (st : List Frame) : Prop := ∀ f ∈ st, W f.1 = true

theorem framesW_pushVal {W : List Arg → Bool} (hW : ArgsClosed W) (a : Arg) (st : List Frame)
    (ha : W [a] = true) (h : FramesW W st) : FramesW W (pushVal a st) := by
  cases st with
  | nil => simpa [pushVal] using h
  | cons f t =>
    obtain ⟨vs, e⟩ := f
    intro f' hf'
    simp only [pushVal, List.mem_cons] at hf'
    rcases hf' with rfl | hf'
    · have := h (vs, e) (by simp)
      simp only at this
      simp [hW.append, ha, this]
    · exact h f' (by simp [hf'])

theorem framesW_openN {W : List Arg → Bool} (hW : ArgsClosed W) (n : Nat) (st st' : List Frame)
    (h : FramesW W st) (ho : argItem.openN n st = .ok st') : FramesW W st' := by
  induction n generalizing st with
  | zero => simp only [argItem.openN] at ho; cases ho; exact h
  | succ n ih =>
    simp only [argItem.openN] at ho
    split at ho
    · cases ho
    · refine ih _ ?_ ho
      intro f hf
      simp only [List.mem_cons] at hf
      rcases hf with rfl | hf
      · exact hW.nil
      · exact h f hf

theorem framesW_closeN {W : List Arg → Bool} (hW : ArgsClosed W) (n : Nat) (st st' : List Frame)
    (h : FramesW W st) (ho : argItem.closeN n st = .ok st') : FramesW W st' := by
  induction n generalizing st with
  | zero => simp only [argItem.closeN] at ho; cases ho; exact h
  | succ n ih =>
    simp only [argItem.closeN] at ho
    split at ho
    · rename_i vs e pvs pe t
      refine ih _ ?_ ho
      intro f hf
      simp only [List.mem_cons] at hf
      rcases hf with rfl | hf
      · have h1 := h (vs, e) (by simp)
        have h2 := h (pvs, pe) (by simp)
        simp only at h1 h2
        simp [hW.append, hW.agg vs e h1, h2]
      · exact h f (by simp [hf])
    · cases ho

theorem framesW_argItem {W : List Arg → Bool} (hW : ArgsClosed W) (st st' : List Frame) (item : Bytes)
    (h : FramesW W st) (ho : argItem st item = .ok st') : FramesW W st' := by
  unfold argItem at ho
  dsimp only at ho
  split at ho
  · cases ho
  · rename_i st1 h1
    have hw1 := framesW_openN hW _ _ _ h h1
    split at ho
    · cases ho
    · rename_i st2 h2
      refine framesW_closeN hW _ _ _ ?_ ho
      split at h2
      · split at h2
        · split at h2
          · rename_i vs e t
            cases h2
            intro f hf
            simp only [List.mem_cons] at hf
            rcases hf with rfl | hf
            · exact hw1 (vs, e) (by simp)
            · exact hw1 f (by simp [hf])
          · cases h2; exact hw1
        · split at h2
          · cases h2
            exact framesW_pushVal hW _ _ (hW.scalar _ _ _ _ (fun _ => ⟨rfl, rfl⟩)) hw1
          · split at h2
            · cases h2
            · cases h2
              exact framesW_pushVal hW _ _ (hW.scalar _ _ _ _ (fun h => nomatch h)) hw1
      · cases h2; exact hw1

theorem framesW_go {W : List Arg → Bool} (hW : ArgsClosed W) (items : List Bytes) (st st' : List Frame)
    (h : FramesW W st) (ho : parseArgs.go items st = .ok st') : FramesW W st' := by
  induction items generalizing st with
  | nil => simp only [parseArgs.go] at ho; cases ho; exact h
  | cons it rest ih =>
    simp only [parseArgs.go] at ho
    split at ho
    · cases ho
    · rename_i st1 h1
      exact ih _ (framesW_argItem hW _ _ _ h h1) ho

theorem parseArgs_closed {W : List Arg → Bool} (hW : ArgsClosed W) (line : Bytes) (a : Args)
    (h : parseArgs line = .ok a) : W a.values = true := by
  unfold parseArgs at h
  dsimp only at h
  split at h
  · cases h
  · rename_i vs e hgo
    cases h
    have := framesW_go hW _ _ _ (by intro f hf; simp at hf; subst hf; exact hW.nil) hgo
    exact this (vs, e) (by simp)
  · cases h

theorem Arg.WFL_append (as bs : List Arg) : Arg.WFL (as ++ bs) = (Arg.WFL as && Arg.WFL bs) := by
  induction as with
  | nil => simp [Arg.WFL]
  | cons a as ih => simp [Arg.WFL, ih, Bool.and_assoc]

theorem parseArgs_wfl (line : Bytes) (a : Args) (h : parseArgs line = .ok a) :
    Arg.WFL a.values = true :=
  parseArgs_closed ⟨rfl, Arg.WFL_append,
    fun v p o i h => by cases o <;> simp_all [Arg.WFL, Arg.WF],
    fun vs e h => by simp [Arg.WFL, Arg.WF, h]⟩ line a h

theorem callsWF_iff (cs : List Call) : callsWF cs = true ↔ ∀ c ∈ cs, Arg.WFL c.args.values = true := by
  induction cs with
  | nil => simp [callsWF]
  | cons c cs ih => simp [callsWF, ih]

def AllWF (gs : List Goroutine) : Prop := ∀ g ∈ gs, g.sig.WF = true

/-- the calls a line carries have well-formed arguments -/
def LineWF (l : Line) : Prop :=
  (∀ c e, l.func = some (c, e) → Arg.WFL c.args.values = true) ∧
  (∀ c e, l.funcL = some (c, e) → Arg.WFL c.args.values = true)

theorem allWF_iff (gs : List Goroutine) :
    AllWF gs ↔ ∀ g ∈ gs, g.Args (fun a => Arg.WFL a = true) (fun _ => True) :=
  forall₂_congr fun g _ => by simp [Goroutine.Args, Signature.WF, callsWF_iff]

theorem scan_allWF (s : S) (l : Line) (s' : S) (p : Bool) (e : Option Err)
    (hs : AllWF s.gs) (hl : LineWF l) (h : scan s l = .ok (s', p, e)) : AllWF s'.gs :=
  (allWF_iff _).mpr (scan_allArgs rfl trivial (fun c e hc => ⟨hc.elim (hl.1 c e) (hl.2 c e), trivial⟩)
    ((allWF_iff _).mp hs) h)

theorem parseFunc_wfl (line : Bytes) (c : Call) (e : Option Err) (h : parseFunc line = some (c, e)) :
    Arg.WFL c.args.values = true := by
  unfold parseFunc at h
  split at h
  · cases h
  · split at h
    · cases h; rfl
    · dsimp only at h
      split at h
      · cases h; rfl
      · rename_i a ha
        cases h
        exact parseArgs_wfl _ _ ha

theorem classify_lineWF (pfx raw : Bytes) : LineWF (classify pfx raw) := by
  unfold classify
  exact ⟨fun c e h => parseFunc_wfl _ c e h, fun c e h => parseFunc_wfl _ c e h⟩

theorem scanBytes_allWF (s : S) (raw : Bytes) (s' : S) (p : Bool) (e : Option Err)
    (hs : AllWF s.gs) (h : scanBytes s raw = .ok (s', p, e)) : AllWF s'.gs :=
  scan_allWF s _ s' p e hs (classify_lineWF _ _) h

end PP
