import PP.Lemmas.ScanInv
import PP.Lemmas.LoopLemmas
import PP.Props.C09
/-
The scanner invariant, and any other state predicate that `scanBytes` keeps, carried through
the loops `feed`, `scanL` and `scanB` (C03).
-/
namespace PP
open Bytes

theorem inv_init' : Inv ({} : S) := ⟨rfl, firstOK_nil⟩

theorem scanBytes_stepOK (s : S) (raw : Bytes) (h : Inv s) : StepOK (scanBytes s raw) :=
  scan_stepOK s _ h

theorem scanBytes_inv {s s' : S} {raw : Bytes} {p : Bool} {e : Option Err} (hs : Inv s)
    (h : scanBytes s raw = .ok (s', p, e)) : Inv s' := by
  obtain ⟨s1, p1, e1, h1, hi⟩ := scanBytes_stepOK s raw hs
  rw [h1] at h
  cases h
  exact hi

/-- feed raw lines one after the other, ignoring `scan`'s verdicts -/
def feed (s : S) : List Bytes → Except Panic S
  | [] => .ok s
  | r :: rs =>
    match scanBytes s r with
    | .error p => .error p
    | .ok (s', _, _) => feed s' rs

theorem feed_inv (s : S) (raws : List Bytes) (h : Inv s) : ∃ s', feed s raws = .ok s' ∧ Inv s' := by
  induction raws generalizing s with
  | nil => exact ⟨s, rfl, h⟩
  | cons r rs ih =>
    obtain ⟨s1, p, e, h1, hi⟩ := scanBytes_stepOK s r h
    simp only [feed, h1]
    exact ih s1 hi

theorem scanL_preserves (P : S → Prop)
    (hP : ∀ s raw s' p e, P s → scanBytes s raw = .ok (s', p, e) → P s')
    (s : S) (fwd : Bytes) (cons : List Bytes) (items : List (Bytes × Option RErr)) (h : P s) :
    P (scanL s fwd cons items).s :=
  scanL_induct P items (fun s d s' l e1 _ => hP s d s' l e1) s fwd cons h

theorem scanL_panicked_none (s : S) (fwd : Bytes) (cons : List Bytes)
    (items : List (Bytes × Option RErr)) (h : Inv s) :
    (scanL s fwd cons items).panicked = none ∧ Inv (scanL s fwd cons items).s := by
  have hI := scanL_preserves Inv (fun _ _ _ _ _ => scanBytes_inv) s fwd cons items h
  refine ⟨?_, hI⟩
  -- the loop stops with a panic only on a line on which `scanBytes` panics
  cases hp : (scanL s fwd cons items).panicked with
  | none => rfl
  | some p =>
    obtain ⟨d, _, _, _, herr⟩ := scanL_panicked s fwd cons items p hp
    obtain ⟨_, _, _, hok, _⟩ := scanBytes_stepOK _ d hI
    rw [hok] at herr
    cases herr

theorem scanB_preserves (P : S → Prop)
    (hP : ∀ s raw s' p e, P s → scanBytes s raw = .ok (s', p, e) → P s')
    (N retry fuel : Nat) (s : S) (fwd : Bytes) (cons : List Bytes) (rd : Rd) (h : P s) (o : OutB)
    (ho : scanB N retry fuel s fwd cons rd = some o) : P o.s := by
  fun_induction scanB N retry fuel s fwd cons rd
  case case8 ih | case10 ih => exact ih (hP _ _ _ _ _ h ‹_›) ho
  case case12 ih => exact ih h ho
  case case6 | case7 | case9 => cases ho; exact hP _ _ _ _ _ h ‹_›
  all_goals cases ho <;> exact h

theorem scanB_not_panicked (N retry fuel : Nat) (s : S) (fwd : Bytes) (cons : List Bytes) (rd : Rd)
    (h : Inv s) (hb : rd.buf.length ≤ N) (o : OutB)
    (ho : scanB N retry fuel s fwd cons rd = some o) : o.panicked = false ∧ Inv o.s := by
  fun_induction scanB N retry fuel s fwd cons rd
  case case4 hp => exact absurd hp (readLine_no_panic N retry _ [] _ hb)
  case case5 hsc =>
    obtain ⟨_, _, _, hok, _⟩ := scanBytes_stepOK _ _ h
    rw [hok] at hsc
    cases hsc
  case case8 ih | case10 ih =>
    exact ih (scanBytes_inv h ‹_›) (readLine_buf_le N retry _ [] _ hb _ _ _ ‹_›) ho
  case case12 ih => exact ih h (readLine_buf_le N retry _ [] _ hb _ _ _ ‹_›) ho
  case case6 | case7 | case9 => cases ho; exact ⟨rfl, scanBytes_inv h ‹_›⟩
  all_goals cases ho <;> exact ⟨rfl, h⟩

end PP
