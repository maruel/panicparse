import PP.Model.Unicode
/-
Facts about `decodeRune` / `runeCount` (utf8.RuneCountInString): the count is
at most the byte length, and it is additive across a boundary that is followed
by an ASCII byte (an ASCII byte is never part of a longer sequence).
-/
namespace PP
open PP.Bytes

/-- `decodeRune` by the class of the lead byte: the byte announces `k` continuation bytes, and the
width is `k + 1` when a test on the next `k` bytes succeeds, which only bytes ≥ 0x80 pass, else 1. -/
theorem decodeRune_width_eq (b0 : UInt8) :
    ∃ (k : Nat) (ok : Bytes → Bool), (∀ u, ok u = true → u.length = k ∧ ∀ c ∈ u, 0x80 ≤ c.toNat) ∧
      ∀ t, (decodeRune (b0 :: t)).2 = if ok (t.take k) = true then k + 1 else 1 := by
  -- `decodeRune` on a non-empty input is a cascade over the class of the lead byte (the branches are
  -- filled in by unification); each class below rewrites with it instead of unfolding again
  have cascade : ∀ t, decodeRune (b0 :: t) =
      if b0.toNat < 0x80 then _ else if (decide (0xC2 ≤ b0.toNat) && decide (b0.toNat ≤ 0xDF)) = true then _
      else if (decide (0xE0 ≤ b0.toNat) && decide (b0.toNat ≤ 0xEF)) = true then _
      else if (decide (0xF0 ≤ b0.toNat) && decide (b0.toNat ≤ 0xF4)) = true then _ else _ := fun _ => rfl
  by_cases h1 : b0.toNat < 0x80
  · refine ⟨0, fun _ => false, fun _ h => Bool.noConfusion h, fun t => ?_⟩
    rw [cascade, if_pos h1]; rfl
  by_cases h2 : (decide (0xC2 ≤ b0.toNat) && decide (b0.toNat ≤ 0xDF)) = true
  · refine ⟨1, fun | [b1] => decide (0x80 ≤ b1.toNat) && decide (b1.toNat ≤ 0xBF) | _ => false, ?_, fun t => ?_⟩
    · intro u h
      match u, h with
      | [b1], h =>
        simp only [Bool.and_eq_true, decide_eq_true_eq] at h
        simp only [List.mem_singleton, forall_eq]
        exact ⟨rfl, h.1⟩
    · rw [cascade, if_neg h1, if_pos h2]
      match t with
      | [] => rfl
      | _ :: _ => exact apply_ite Prod.snd ..
  by_cases h3 : (decide (0xE0 ≤ b0.toNat) && decide (b0.toNat ≤ 0xEF)) = true
  · refine ⟨2, fun
        | [b1, b2] => decide ((if b0.toNat == 0xE0 then 0xA0 else 0x80) ≤ b1.toNat) &&
            decide (b1.toNat ≤ (if b0.toNat == 0xED then 0x9F else 0xBF)) &&
            (decide (0x80 ≤ b2.toNat) && decide (b2.toNat ≤ 0xBF))
        | _ => false, ?_, fun t => ?_⟩
    · intro u h
      match u, h with
      | [b1, b2], h =>
        simp only [Bool.and_eq_true, decide_eq_true_eq] at h
        obtain ⟨⟨hlo, _⟩, h2, _⟩ := h
        simp only [List.mem_cons, List.not_mem_nil, or_false, forall_eq_or_imp, forall_eq]
        exact ⟨rfl, by split at hlo <;> omega, h2⟩
    · rw [cascade, if_neg h1, if_neg h2, if_pos h3]
      match t with
      | [] | [_] => rfl
      | _ :: _ :: _ => exact apply_ite Prod.snd ..
  by_cases h4 : (decide (0xF0 ≤ b0.toNat) && decide (b0.toNat ≤ 0xF4)) = true
  · refine ⟨3, fun
        | [b1, b2, b3] => decide ((if b0.toNat == 0xF0 then 0x90 else 0x80) ≤ b1.toNat) &&
            decide (b1.toNat ≤ (if b0.toNat == 0xF4 then 0x8F else 0xBF)) &&
            (decide (0x80 ≤ b2.toNat) && decide (b2.toNat ≤ 0xBF)) &&
            (decide (0x80 ≤ b3.toNat) && decide (b3.toNat ≤ 0xBF))
        | _ => false, ?_, fun t => ?_⟩
    · intro u h
      match u, h with
      | [b1, b2, b3], h =>
        simp only [Bool.and_eq_true, decide_eq_true_eq] at h
        obtain ⟨⟨⟨hlo, _⟩, h2, _⟩, h3, _⟩ := h
        simp only [List.mem_cons, List.not_mem_nil, or_false, forall_eq_or_imp, forall_eq]
        exact ⟨rfl, by split at hlo <;> omega, h2, h3⟩
    · rw [cascade, if_neg h1, if_neg h2, if_neg h3, if_pos h4]
      match t with
      | [] | [_] | [_, _] => rfl
      | _ :: _ :: _ :: _ => exact apply_ite Prod.snd ..
  · refine ⟨0, fun _ => false, fun _ h => Bool.noConfusion h, fun t => ?_⟩
    rw [cascade, if_neg h1, if_neg h2, if_neg h3, if_neg h4]; rfl

theorem decodeRune_width_pos (c : UInt8) (t : Bytes) : 1 ≤ (decodeRune (c :: t)).2 := by
  obtain ⟨k, ok, _, hw⟩ := decodeRune_width_eq c
  rw [hw]; split <;> omega

theorem decodeRune_width_le : ∀ s : Bytes, (decodeRune s).2 ≤ s.length
  | [] => Nat.le_refl 0
  | b0 :: t => by
    obtain ⟨k, ok, hok, hw⟩ := decodeRune_width_eq b0
    rw [hw, List.length_cons]
    split
    · next h => have := (hok _ h).1; rw [List.length_take] at this; omega
    · omega

theorem decodeRune_width_ascii (c : UInt8) (t : Bytes) (hc : c.toNat < 0x80) : (decodeRune (c :: t)).2 = 1 := by
  show (if c.toNat < 0x80 then _ else _ : Nat × Nat).2 = 1
  rw [if_pos hc]

/-- `b` is empty or starts with an ASCII byte -/
def AsciiHead (b : Bytes) : Prop := ∀ c t, b = c :: t → c.toNat < 0x80

theorem asciiHead_nil : AsciiHead [] := by intro c t h; cases h
theorem asciiHead_cons (c : UInt8) (t : Bytes) (h : c.toNat < 0x80) : AsciiHead (c :: t) := by
  intro c' t' e; cases e; exact h

/-- what follows an ASCII boundary does not change the width of the first rune: the test on the
continuation bytes never accepts the ASCII byte, and does not look past it -/
theorem decodeRune_width_append (s b : Bytes) (hs : s ≠ []) (hb : AsciiHead b) :
    (decodeRune (s ++ b)).2 = (decodeRune s).2 := by
  match s, b with
  | _, [] => rw [List.append_nil]
  | b0 :: t, c :: bt =>
    obtain ⟨k, ok, hok, hw⟩ := decodeRune_width_eq b0
    rw [List.cons_append, hw, hw]
    by_cases hk : k ≤ t.length
    · rw [List.take_append_of_le_length hk]
    · have hc : c ∈ (t ++ c :: bt).take k := by
        obtain ⟨j, hj⟩ : ∃ j, k - t.length = j + 1 := ⟨k - t.length - 1, by omega⟩
        rw [List.take_append, List.take_of_length_le (by omega), hj]
        simp
      have hlt := hb c bt rfl
      have h1 : ¬ ok ((t ++ c :: bt).take k) = true := fun h => by have := (hok _ h).2 c hc; omega
      have h2 : ¬ ok (t.take k) = true := fun h => by
        have := (hok _ h).1; rw [List.length_take] at this; omega
      rw [if_neg h1, if_neg h2]

theorem length_drop_rune (c : UInt8) (t : Bytes) :
    ((c :: t).drop (max 1 (decodeRune (c :: t)).2)).length ≤ t.length := by
  simp only [List.length_drop, List.length_cons]; omega

theorem runeCount_go_eq : ∀ (fuel : Nat) (s : Bytes) (n : Nat), s.length ≤ fuel →
    runeCount.go fuel s n = n + runeCount.go s.length s 0 := by
  intro fuel
  induction fuel using Nat.strongRecOn with
  | _ fuel ih =>
    intro s n hle
    match fuel, s with
    | 0, [] | _ + 1, [] => exact (Nat.add_zero n).symm
    | f + 1, c :: t =>
      have hlen := length_drop_rune c t
      simp only [List.length_cons] at hle
      simp only [runeCount.go, List.length_cons]
      rw [ih f (by omega) _ (n + 1) (by omega), ih t.length (by omega) _ 1 hlen]
      omega

theorem runeCount_nil : runeCount [] = 0 := rfl

theorem runeCount_cons (c : UInt8) (t : Bytes) :
    runeCount (c :: t) = 1 + runeCount ((c :: t).drop (max 1 (decodeRune (c :: t)).2)) :=
  runeCount_go_eq t.length _ 1 (length_drop_rune c t)

theorem runeCount_le : ∀ s : Bytes, runeCount s ≤ s.length
  | [] => Nat.le_refl 0
  | c :: t => by
    have hlen := length_drop_rune c t
    have := runeCount_le ((c :: t).drop (max 1 (decodeRune (c :: t)).2))
    rw [runeCount_cons, List.length_cons]
    omega
termination_by s => s.length
decreasing_by exact Nat.lt_succ_of_le (length_drop_rune c t)

theorem runeCount_append_of_asciiHead (a b : Bytes) (hb : AsciiHead b) :
    runeCount (a ++ b) = runeCount a + runeCount b := by
  match a with
  | [] => rw [List.nil_append, runeCount_nil, Nat.zero_add]
  | c :: t =>
    have hle := decodeRune_width_le (c :: t)
    have ih := runeCount_append_of_asciiHead ((c :: t).drop (max 1 (decodeRune (c :: t)).2)) b hb
    rw [List.cons_append, runeCount_cons, runeCount_cons c t, ← List.cons_append,
      decodeRune_width_append (c :: t) b (List.cons_ne_nil _ _) hb,
      List.drop_append_of_le_length (by have := decodeRune_width_pos c t; omega), ih, Nat.add_assoc]
termination_by a.length
decreasing_by exact Nat.lt_succ_of_le (length_drop_rune c t)

theorem runeCount_ascii_cons (c : UInt8) (t : Bytes) (hc : c.toNat < 0x80) :
    runeCount (c :: t) = 1 + runeCount t := by
  rw [runeCount_cons, decodeRune_width_ascii c t hc]
  rfl

theorem runeCount_replicate_space (n : Nat) : runeCount (List.replicate n (32 : UInt8)) = n := by
  induction n with
  | zero => rfl
  | succ n ih => rw [List.replicate_succ, runeCount_ascii_cons _ _ (by decide), ih]; omega

theorem runeCount_append_spaces (a : Bytes) (n : Nat) :
    runeCount (a ++ List.replicate n (32 : UInt8)) = runeCount a + n := by
  rw [runeCount_append_of_asciiHead a _ ?_, runeCount_replicate_space]
  cases n with
  | zero => exact asciiHead_nil
  | succ n => exact asciiHead_cons _ _ (by decide)

theorem runeCount_snoc_ascii_append (a : Bytes) (c : UInt8) (b : Bytes) (hc : c.toNat < 0x80) :
    runeCount (a ++ c :: b) = runeCount (a ++ [c]) + runeCount b := by
  rw [runeCount_append_of_asciiHead a (c :: b) (asciiHead_cons c b hc),
    runeCount_append_of_asciiHead a [c] (asciiHead_cons c [] hc),
    runeCount_ascii_cons c b hc, runeCount_ascii_cons c [] hc, runeCount_nil]
  omega

end PP
