import PP.Lemmas.LinePrint
import PP.Lemmas.LoopLemmas
import PP.Lemmas.DumpLines
import PP.Lemmas.ScanStep
/-
The round trip of C01: the scanner, run over the lines of a printed dump, builds
exactly the goroutines the dump describes.
-/
namespace PP.Spec
open PP Bytes

/-- the goroutine the scanner holds while it reads the section of `g`: `calls`,
`elided` and `created` are what it has read of the stack and of the creator -/
def buildG (g : GSpec) (first : Bool) (calls : List Call) (elided : Bool) (created : List Call) : Goroutine :=
  { id := g.id, first := first,
    sig := { state := expState g, sleepMin := g.waitMin, sleepMax := g.waitMin, locked := g.locked,
             stack := { calls := calls, elided := elided }, createdBy := { calls := created } } }

/-- the classifier record of a complete line whose text (after stripping the end of line and the
dump prefix) is `t` -/
def lineOf (t : Bytes) : Line :=
  { hasEOL := true, indentOK := true, empty := t.isEmpty,
    header := parseHeader t,
    sep := t == Extracted.raceHeaderFooter,
    warn := t == Extracted.raceHeader,
    unavail := matchUnavail t,
    func := parseFunc t,
    funcL := parseFunc (trimLeftSpace t),
    file := parseFile t,
    created := (matchCreated t).map (fun n => match funcInit n with | .ok f => .ok f | .error e => .error (Err.ofFErr e)),
    elidedMark := isFramesElidedLine t,
    raceOp := parseRaceOp (matchRaceOp t) Extracted.writeCap,
    racePrev := parseRaceOp (matchRacePrev t) Extracted.writeLow,
    raceGor := (matchRaceGoroutine t).map (fun (d, st) => (atou d, st)) }

theorem fileStep_snoc {s : S} {init : List Goroutine} {g : Goroutine} {cs : List Call} {c : Call} {l : Line}
    {pl : Bytes × Nat} (h : s.gs = init ++ [g]) (hc : g.sig.stack.calls = cs ++ [c])
    (hf : l.file = some (some pl)) (next : St) (e : Err) :
    fileStep s l next e =
      .ok ({ s with st := next,
                    gs := init ++ [setStack g (fun st => { st with calls := cs ++ [c.init pl.1 pl.2] })] },
        true, none) := by
  rw [fileStep, needLastCall_snoc h, hc]
  simp [hf, h, modifyLast_snoc, setStack, hc, initLast_snoc]

/-! ### the state machine on a line of known text, while the goroutine `g` is being built -/

section
variable (pre : List Goroutine) (gi : Nat) (pfx : Bytes) (g : GSpec) (first : Bool) (t : Bytes)

theorem scan_header (s : S) (h : Hdr) (hs : s.st = .looking ∨ s.st = .betweenRoutine)
    (hh : parseHeader t = some h) :
    scan s (lineOf t) = .ok ({ s with st := .gotRoutineHeader, gs := s.gs ++ [mkGoroutine h s.gs.isEmpty],
                                      pfx := if s.st == .looking then h.indent else s.pfx }, true, none) := by
  rcases hs with hs | hs
  · rw [scan_looking hs rfl rfl]; simp [lineOf, hh, hs]
  · rw [scan_betweenRoutine hs rfl]; simp [lineOf, hh, hs]

theorem scan_unavail (hu : matchUnavail t = true) :
    scan ⟨.gotRoutineHeader, pre ++ [buildG g first [] false []], gi, pfx⟩ (lineOf t) =
      .ok (⟨.gotUnavail, pre ++ [buildG g first [{ remoteSrcPath := b!"<unavailable>" }] false []], gi, pfx⟩, true, none) := by
  rw [scan_gotRoutineHeader rfl rfl]
  simp only [lineOf, hu, if_true, modifyLast_snoc]
  rfl

theorem scan_func (cs : List Call) (e : Bool) (c : Call) (st : St)
    (hst : st = .gotRoutineHeader ∨ st = .gotFileFunc)
    (hu : matchUnavail t = false) (hc : matchCreated t = none) (he : isFramesElidedLine t = false)
    (hf : parseFunc t = some (c, none)) :
    scan ⟨st, pre ++ [buildG g first cs e []], gi, pfx⟩ (lineOf t) =
      .ok (⟨.gotFunc, pre ++ [buildG g first (cs ++ [c]) e []], gi, pfx⟩, true, none) := by
  rcases hst with h | h <;> subst h
  · rw [scan_gotRoutineHeader rfl rfl]
    simp only [lineOf, hu, hf, Bool.false_eq_true, if_false, List.reverse_append, List.reverse_cons,
      List.reverse_nil, List.nil_append, List.cons_append]
    rw [funcStep_snoc rfl]
    rfl
  · rw [scan_gotFileFunc rfl rfl]
    simp only [lineOf, hc, he, hf, Option.map_none, Bool.false_eq_true, if_false]
    rw [funcStep_snoc rfl]
    rfl

theorem scan_elided (cs : List Call) (e : Bool) (hc : matchCreated t = none) (he : isFramesElidedLine t = true) :
    scan ⟨.gotFileFunc, pre ++ [buildG g first cs e []], gi, pfx⟩ (lineOf t) =
      .ok (⟨.gotFileFunc, pre ++ [buildG g first cs true []], gi, pfx⟩, true, none) := by
  rw [scan_gotFileFunc rfl rfl]
  simp only [lineOf, hc, he, Option.map_none, if_true, modifyLast_snoc]
  rfl

theorem scan_file (cs : List Call) (c : Call) (e : Bool) (pl : Bytes × Nat) (hf : parseFile t = some (some pl)) :
    scan ⟨.gotFunc, pre ++ [buildG g first (cs ++ [c]) e []], gi, pfx⟩ (lineOf t) =
      .ok (⟨.gotFileFunc, pre ++ [buildG g first (cs ++ [c.init pl.1 pl.2]) e []], gi, pfx⟩, true, none) := by
  rw [scan_gotFunc rfl rfl, fileStep_snoc rfl rfl hf]
  rfl

/-- a `created by` line, after a stack (then `init("", 0)` is called) or after an unavailable stack -/
theorem scan_created (cs : List Call) (e : Bool) (n : Bytes) (f : Func) (st : St)
    (hst : st = .gotFileFunc ∨ st = .gotUnavail) (hne : t ≠ [])
    (hc : matchCreated t = some n) (hf : funcInit n = .ok f) :
    scan ⟨st, pre ++ [buildG g first cs e []], gi, pfx⟩ (lineOf t) =
      .ok (⟨.gotCreated, pre ++ [buildG g first cs e
        [if st = .gotFileFunc then ({ fn := f } : Call).init [] 0 else { fn := f }]], gi, pfx⟩, true, none) := by
  have hem : t.isEmpty = false := by cases t with | nil => exact absurd rfl hne | cons a b => rfl
  rcases hst with h | h <;> subst h
  · rw [scan_gotFileFunc rfl rfl]
    simp only [lineOf, hc, hf, Option.map_some]
    rw [createdStep_snoc_ok rfl]
    rfl
  · rw [scan_gotUnavail rfl rfl]
    simp only [lineOf, hem, hc, hf, Option.map_some, Bool.false_eq_true, if_false]
    rw [createdStep_snoc_ok rfl]
    rfl

theorem scan_blank (s : S) (hs : s.st = .gotFileFunc ∨ s.st = .gotFileCreated ∨ s.st = .gotUnavail) :
    scan s (lineOf []) = .ok ({ s with st := .betweenRoutine }, true, none) := by
  rcases hs with hs | hs | hs
  · rw [scan_gotFileFunc hs rfl]; rfl
  · rw [scan_gotFileCreated hs rfl]; rfl
  · rw [scan_gotUnavail hs rfl]; rfl

theorem scan_file_created (cs : List Call) (e : Bool) (c : Call) (pl : Bytes × Nat)
    (hf : parseFile t = some (some pl)) :
    scan ⟨.gotCreated, pre ++ [buildG g first cs e [c]], gi, pfx⟩ (lineOf t) =
      .ok (⟨.gotFileCreated, pre ++ [buildG g first cs e [c.init pl.1 pl.2]], gi, pfx⟩, true, none) := by
  rw [scan_gotCreated rfl rfl, needCreated0_snoc rfl]
  simp only [lineOf, hf, modifyLast_snoc]
  rfl

end

theorem stripEOL_eol (crlf : Bool) (x : Bytes) (h : crlf = false → x.getLast? ≠ some 13) :
    stripEOL (x ++ eolOf crlf) = (x, true) := by
  cases crlf with
  | true =>
    have h1 : hasSuffix (x ++ eolOf true) Extracted.crlf = true := hasSuffix_append x [13, 10]
    rw [stripEOL, if_pos h1]
    simp [eolOf]
  | false =>
    have h1 : ¬ hasSuffix (x ++ [10]) Extracted.crlf = true := by
      intro hh
      obtain ⟨a, ha⟩ := (hasSuffix_iff _ _).1 hh
      have e : x ++ [10] = (a ++ [13]) ++ [10] := by rw [ha, List.append_assoc]; rfl
      exact h rfl (by rw [List.append_cancel_right e]; exact List.getLast?_concat)
    have h2 : hasSuffix (x ++ [10]) Extracted.lf = true := hasSuffix_append x [10]
    rw [stripEOL, eolOf, if_neg Bool.false_ne_true, if_neg h1, if_pos h2]
    simp

/-- a printed line (indentation, text, end of line) read with that indentation as the prefix, or
with no prefix set when there is no indentation, is classified as its text -/
theorem classify_line (crlf : Bool) (indent t : Bytes) (hne : t ≠ [] ∨ indent = [])
    (hcr : t.getLast? ≠ some 13) :
    classify indent (indent ++ t ++ eolOf crlf) = lineOf t := by
  have hs : stripEOL (indent ++ t ++ eolOf crlf) = (indent ++ t, true) := by
    apply stripEOL_eol
    intro _
    rcases hne with h | h
    · rwa [getLast?_append_ne_nil _ _ h]
    · rwa [h, List.nil_append]
  unfold classify
  rw [hs]
  by_cases hi : indent = []
  · subst hi
    simp [lineOf]
    rfl
  · have h1 : ((indent ++ t).length != 0 && indent.length != 0) = true := by
      cases indent with
      | nil => exact absurd rfl hi
      | cons a t => simp
    simp only [h1, hasPrefix_append indent t, if_true, List.drop_left]
    rfl

theorem classify_blank (crlf : Bool) (pfx : Bytes) : classify pfx (eolOf crlf) = lineOf [] := by
  have := stripEOL_eol crlf [] (fun _ => by simp)
  simp only [List.nil_append] at this
  unfold classify
  rw [this]
  simp [lineOf]
  rfl

/-- a run of consumed lines: every line is non-empty, is withheld (`scan` returns true) without
error, and is read in a state other than `done` -/
inductive Steps : S → List Bytes → S → Prop
  | nil (s : S) : Steps s [] s
  | cons {s s1 s' : S} {raw : Bytes} {ls : List Bytes} :
      s.st ≠ .done → raw ≠ [] → scanBytes s raw = .ok (s1, true, none) → Steps s1 ls s' →
      Steps s (raw :: ls) s'

theorem Steps.append {s s1 s2 : S} {a b : List Bytes} (h1 : Steps s a s1) (h2 : Steps s1 b s2) :
    Steps s (a ++ b) s2 := by
  induction h1 with
  | nil => exact h2
  | cons hd hr hs _ ih => exact Steps.cons hd hr hs (ih h2)

theorem Steps.one {s s1 : S} {raw : Bytes} (hd : s.st ≠ .done) (hr : raw ≠ [])
    (hs : scanBytes s raw = .ok (s1, true, none)) : Steps s [raw] s1 :=
  Steps.cons hd hr hs (Steps.nil s1)

/-- a loop: when the lines of each element `a` move `mk acc` to `mk (acc ++ [g a])`, the lines of the whole
list move `mk acc` to `mk (acc ++ as.map g)` -/
theorem Steps.flatMap {α β : Type} (mk : List β → S) (lines : α → List Bytes) (g : α → β) (as : List α)
    (h : ∀ a ∈ as, ∀ acc, Steps (mk acc) (lines a) (mk (acc ++ [g a]))) (acc : List β) :
    Steps (mk acc) (as.flatMap lines) (mk (acc ++ as.map g)) := by
  induction as generalizing acc with
  | nil => simpa using Steps.nil (mk acc)
  | cons a as ih =>
    simpa using (h a (by simp) acc).append (ih (fun x hx => h x (by simp [hx])) (acc ++ [g a]))

/-- the same loop when the lines of the first element are read in another state -/
theorem Steps.flatMap_first {α β : Type} (s0 mk : List β → S) (lines : α → List Bytes) (g : α → β)
    (as : List α) (hne : as ≠ [])
    (h0 : ∀ a ∈ as, ∀ acc, Steps (s0 acc) (lines a) (mk (acc ++ [g a])))
    (h : ∀ a ∈ as, ∀ acc, Steps (mk acc) (lines a) (mk (acc ++ [g a]))) (acc : List β) :
    Steps (s0 acc) (as.flatMap lines) (mk (acc ++ as.map g)) := by
  cases as with
  | nil => exact absurd rfl hne
  | cons a as =>
    have := (h0 a (by simp) acc).append
      (Steps.flatMap mk lines g as (fun x hx => h x (by simp [hx])) (acc ++ [g a]))
    simpa using this

theorem scanL_steps {s s' : S} {ls : List Bytes} (h : Steps s ls s') (fwd : Bytes) (cons : List Bytes)
    (tail : List (Bytes × Option RErr)) :
    scanL s fwd cons (ls.map (fun l => (l, none)) ++ tail) = scanL s' fwd (cons ++ ls) tail := by
  induction h generalizing cons with
  | nil => simp
  | @cons s s1 s' raw ls hd hr hs _ ih =>
    simp only [List.map_cons, List.cons_append]
    rw [scanL_cons]
    have hd' : ¬ (s.st == .done) = true := by simpa using hd
    have hlen : (raw.length != 0) = true := by
      cases raw with
      | nil => exact absurd rfl hr
      | cons a t => simp
    rw [if_neg hd', if_pos hlen, hs]
    simp only [combineErr, Bool.not_true, Bool.false_eq_true, if_false, Option.isSome_none]
    rw [ih]
    simp

theorem line_step (crlf : Bool) (indent t : Bytes) (s s1 : S) (hp : s.pfx = indent) (hd : s.st ≠ .done)
    (hne : t ≠ [] ∨ indent = []) (hcr : t.getLast? ≠ some 13)
    (h : scan s (lineOf t) = .ok (s1, true, none)) : Steps s [indent ++ t ++ eolOf crlf] s1 := by
  refine Steps.one hd (by cases crlf <;> simp [eolOf]) ?_
  unfold scanBytes
  rw [hp, classify_line crlf indent t hne hcr]
  exact h

theorem dump_step (c : PrintCfg) (t : Bytes) (s s1 : S) (hp : s.pfx = c.indent) (hd : s.st ≠ .done)
    (hne : t ≠ []) (hcr : t.getLast? ≠ some 13) (h : scan s (lineOf t) = .ok (s1, true, none)) :
    Steps s [rawLine c t] s1 :=
  line_step c.crlf c.indent t s s1 hp hd (Or.inl hne) hcr h

theorem funcLine_ne_nil (f : FrameSpec) : funcLine f ≠ [] := by rw [funcLine_eq]; simp

theorem funcLine_last (f : FrameSpec) : (funcLine f).getLast? = some 41 := by
  unfold funcLine
  exact List.getLast?_concat

theorem funcLine_unavail (f : FrameSpec) (hp : Bool) (hs : SymOK f hp) : matchUnavail (funcLine f) = false := by
  obtain ⟨c, t, hsym, hb⟩ := hs.head
  rw [funcLine_eq, hsym]
  exact matchUnavail_nonblank c _ hb

theorem funcLine_created (f : FrameSpec) (hp : Bool) (hs : SymOK f hp) : matchCreated (funcLine f) = none := by
  apply matchCreated_none
  rw [funcLine_eq]
  exact hasPrefix_append_cons_false _ _ _ 40 hs.created (by decide)

theorem funcLine_elided (f : FrameSpec) : isFramesElidedLine (funcLine f) = false := by
  have : funcLine f = (f.symbol ++ 40 :: (if f.inlined then b!"..." else printArgList f.args f.argsElide)) ++ [41] := by
    simp [funcLine]
  rw [this]
  exact isFramesElidedLine_paren _

theorem init_fresh (fn : Func) (ip : Bytes) (args : Args) (file : Bytes) (line : Nat) (hf : file ≠ []) :
    ({ fn := fn, importPath := ip, args := args } : Call).init file line =
      { fn := fn, args := args, remoteSrcPath := file, line := line, srcName := expSrcName file,
        dirSrc := expDirSrc file, importPath := fn.importPath,
        location := if expDirSrc file == testMainSrc then .stdlib else .unknown } := by
  have hne : (file != []) = true := by simpa using hf
  cases h1 : lastIndexByte file 47 with
  | none => simp [Call.init, hne, h1, expSrcName, expDirSrc, testMainSrc]
  | some i =>
    cases h2 : lastIndexByte (file.take i) 47 with
    | none => simp [Call.init, hne, h1, h2, expSrcName, expDirSrc, testMainSrc]
    | some j =>
      by_cases ht : (file.drop (j + 1) == testMainSrc) = true <;>
        simp [Call.init, hne, h1, h2, ht, expSrcName, expDirSrc]

theorem preCall_init (f : FrameSpec) (hf : f.file ≠ []) :
    (preCall f).init f.file f.line = expCall f none true := by
  rw [preCall, init_fresh _ _ _ _ _ hf]
  simp [expCall, expArgsOf, expFunc]

theorem fileLine_last (fi file : Bytes) (line : Nat) (off : Option Nat) (fp : Option (Nat × Nat × Option Nat)) :
    (fi ++ (file ++ tailText line off fp)).getLast? ≠ some 13 := by
  rw [getLast?_append_ne_nil _ _ (by simp [tailText_ne_nil]), getLast?_append_ne_nil _ _ (tailText_ne_nil _ _ _)]
  intro h
  exact tailText_lacks line off fp 13 (by decide) (List.mem_of_getLast? h)

theorem parseFile_frame (c : PrintCfg) (hc : CfgOK c) (f : FrameSpec) (cr hp : Bool) (hf : FrameOK c f cr hp)
    (fp : Option (Nat × Nat × Option Nat)) :
    parseFile (c.fileIndent ++ (f.file ++ tailText f.line f.off fp)) = some (some (f.file, f.line)) :=
  parseFile_print c.fileIndent f.file hc.fileIndent hf.file.path hf.file.sp f.line hf.line f.off fp

theorem frame_steps (c : PrintCfg) (hc : CfgOK c) (f : FrameSpec) (hf : FrameOK c f false false)
    (pre : List Goroutine) (gi : Nat) (g : GSpec) (first : Bool) (cs : List Call) (e : Bool) (st : St)
    (hst : st = .gotRoutineHeader ∨ st = .gotFileFunc) :
    Steps ⟨st, pre ++ [buildG g first cs e []], gi, c.indent⟩ ((frameLines c f).map (rawLine c))
      ⟨.gotFileFunc, pre ++ [buildG g first (cs ++ [expCall f none true]) e []], gi, c.indent⟩ := by
  refine Steps.append (s1 := ⟨.gotFunc, pre ++ [buildG g first (cs ++ [preCall f]) e []], gi, c.indent⟩)
    (dump_step c (funcLine f) _ _ rfl ?_ (funcLine_ne_nil f) (by rw [funcLine_last]; simp) ?_)
    (dump_step c (c.fileIndent ++ fileText f) _ _ rfl (by simp) ?_ ?_ ?_)
  · rcases hst with h | h <;> rw [h] <;> simp
  · exact scan_func pre gi c.indent g first _ cs e _ st hst (funcLine_unavail f false hf.sym)
      (funcLine_created f false hf.sym) (funcLine_elided f) (parseFunc_print f hf.sym (hf.args rfl))
  · simp [fileText_eq, tailText_ne_nil]
  · rw [fileText_eq]; exact fileLine_last _ _ _ _ _
  · rw [fileText_eq, scan_file pre gi c.indent g first _ cs (preCall f) e (f.file, f.line)
      (parseFile_frame c hc f false false hf f.fp), preCall_init f (pathOK_ne_nil hf.file.path)]

theorem frames_steps (c : PrintCfg) (hc : CfgOK c) (fs : List FrameSpec)
    (hfs : ∀ f ∈ fs, FrameOK c f false false)
    (pre : List Goroutine) (gi : Nat) (g : GSpec) (first : Bool) (cs : List Call) (e : Bool) :
    Steps ⟨.gotFileFunc, pre ++ [buildG g first cs e []], gi, c.indent⟩
      ((fs.flatMap (frameLines c)).map (rawLine c))
      ⟨.gotFileFunc, pre ++ [buildG g first (cs ++ fs.map (fun f => expCall f none true)) e []], gi, c.indent⟩ := by
  rw [List.map_flatMap]
  exact Steps.flatMap (fun cs => ⟨.gotFileFunc, pre ++ [buildG g first cs e []], gi, c.indent⟩) _ _ fs
    (fun f hf cs => frame_steps c hc f (hfs f hf) pre gi g first cs e .gotFileFunc (Or.inr rfl)) cs

theorem elidedMarker_last (cnt : Option Nat) : (elidedMarker cnt).getLast? ≠ some 13 := by
  cases cnt with
  | none => decide
  | some n =>
    unfold elidedMarker
    rw [getLast?_append_ne_nil _ _ (by decide)]
    decide

theorem marker_step (c : PrintCfg) (cnt : Option Nat)
    (pre : List Goroutine) (gi : Nat) (g : GSpec) (first : Bool) (cs : List Call) (e : Bool) :
    Steps ⟨.gotFileFunc, pre ++ [buildG g first cs e []], gi, c.indent⟩ [rawLine c (elidedMarker cnt)]
      ⟨.gotFileFunc, pre ++ [buildG g first cs true []], gi, c.indent⟩ := by
  obtain ⟨t, ht⟩ := elidedMarker_head cnt
  exact dump_step c _ _ _ rfl (by simp) (by rw [ht]; simp) (elidedMarker_last cnt)
    (scan_elided pre gi c.indent g first _ cs e
      (matchCreated_none _ (by rw [ht]; exact hasPrefix_cons_ne 46 99 _ _ (by decide)))
      (isFramesElidedLine_print cnt))

/-- the lines of a stack: frames, with the elision marker somewhere after the first frame -/
theorem stack_steps (c : PrintCfg) (hc : CfgOK c) (fs : List FrameSpec) (hne : fs ≠ [])
    (hfs : ∀ f ∈ fs, FrameOK c f false false) (el : Option (Option Nat × Nat))
    (hel : ∀ cnt pos, el = some (cnt, pos) → 1 ≤ pos ∧ pos < fs.length)
    (pre : List Goroutine) (gi : Nat) (g : GSpec) (first : Bool) :
    Steps ⟨.gotRoutineHeader, pre ++ [buildG g first [] false []], gi, c.indent⟩
      ((stackLines c fs el).map (rawLine c))
      ⟨.gotFileFunc, pre ++ [buildG g first (fs.map (fun f => expCall f none true)) el.isSome []], gi, c.indent⟩ := by
  -- a non-empty run of frames right after the header
  have hrun : ∀ fs' : List FrameSpec, fs' ≠ [] → (∀ f ∈ fs', f ∈ fs) →
      Steps ⟨.gotRoutineHeader, pre ++ [buildG g first [] false []], gi, c.indent⟩
        ((fs'.flatMap (frameLines c)).map (rawLine c))
        ⟨.gotFileFunc, pre ++ [buildG g first ([] ++ fs'.map (fun f => expCall f none true)) false []], gi, c.indent⟩ := by
    intro fs' hne' hsub
    rw [List.map_flatMap]
    exact Steps.flatMap_first (fun cs => ⟨.gotRoutineHeader, pre ++ [buildG g first cs false []], gi, c.indent⟩)
      (fun cs => ⟨.gotFileFunc, pre ++ [buildG g first cs false []], gi, c.indent⟩) _ _ fs' hne'
      (fun f hf cs => frame_steps c hc f (hfs f (hsub f hf)) pre gi g first cs false _ (Or.inl rfl))
      (fun f hf cs => frame_steps c hc f (hfs f (hsub f hf)) pre gi g first cs false _ (Or.inr rfl)) []
  match el, hel with
  | none, _ => exact hrun fs hne (fun _ h => h)
  | some (cnt, pos), hel =>
    obtain ⟨hp1, hp2⟩ := hel cnt pos rfl
    have h1 := hrun (fs.take pos) (fun h => (List.take_eq_nil_iff.1 h).elim (by omega) hne) (fun f hf => List.mem_of_mem_take hf)
    have h2 := marker_step c cnt pre gi g first ([] ++ (fs.take pos).map (fun f => expCall f none true)) false
    have h3 := frames_steps c hc (fs.drop pos) (fun f hf => hfs f (List.mem_of_mem_drop hf)) pre gi g first
      ([] ++ (fs.take pos).map (fun f => expCall f none true)) true
    have hall := h1.append (h2.append h3)
    rw [List.nil_append, ← List.map_append, List.take_append_drop] at hall
    simpa only [stackLines, if_pos hp2, List.map_append, List.append_assoc, List.map_cons, List.map_nil,
      Option.isSome_some] using hall

theorem headerLine_last (g : GSpec) : (headerLine g).getLast? = some 58 := by
  unfold headerLine
  rw [getLast?_append_ne_nil _ _ (by decide)]
  rfl

theorem headerLine_ne_nil (g : GSpec) : headerLine g ≠ [] :=
  List.append_ne_nil_of_right_ne_nil _ (by decide)

theorem mkGoroutine_eq (indent : Bytes) (g : GSpec) (first : Bool) :
    mkGoroutine { indent := indent, id := g.id, state := expState g, sleep := g.waitMin, locked := g.locked } first =
      buildG g first [] false [] := rfl

theorem unavail_step (c : PrintCfg) (hc : CfgOK c) (pre : List Goroutine) (gi : Nat) (g : GSpec) (first : Bool) :
    Steps ⟨.gotRoutineHeader, pre ++ [buildG g first [] false []], gi, c.indent⟩ [rawLine c (unavailLine c)]
      ⟨.gotUnavail, pre ++ [buildG g first [{ remoteSrcPath := b!"<unavailable>" }] false []], gi, c.indent⟩ := by
  refine dump_step c _ _ _ rfl (by simp) (by simp [unavailLine, unavailText]) ?_
    (scan_unavail pre gi c.indent g first _ (matchUnavail_print c.fileIndent hc.fileIndent))
  unfold unavailLine
  rw [getLast?_append_ne_nil _ _ (by decide)]
  decide

theorem blank_step (crlf : Bool) (s : S)
    (hs : s.st = .gotFileFunc ∨ s.st = .gotFileCreated ∨ s.st = .gotUnavail) :
    Steps s [eolOf crlf] { s with st := .betweenRoutine } := by
  refine Steps.one ?_ (by cases crlf <;> simp [eolOf]) ?_
  · rcases hs with h | h | h <;> rw [h] <;> simp
  · unfold scanBytes
    rw [classify_blank]
    exact scan_blank s hs

/-- `Call.init` on a creator call gives the described call, whether or not `init("", 0)` came first -/
theorem createdCall_init (f : FrameSpec) (parent : Option Nat) (hf : f.file ≠ []) (doInit : Bool) :
    (if doInit then ({ fn := expFunc f.pkg f.name parent } : Call).init [] 0
      else { fn := expFunc f.pkg f.name parent }).init f.file f.line = expCall f parent false := by
  cases doInit <;> exact (init_fresh _ _ {} _ _ hf).trans (by simp [expCall, expFunc])

theorem symbol_last (f : FrameSpec) (hp : Bool) (hs : SymOK f hp) : f.symbol.getLast? ≠ some 13 := by
  unfold FrameSpec.symbol
  by_cases hpk : f.pkg = []
  · simp only [hpk, if_true]; exact hs.cr
  · simp only [hpk, if_false]
    by_cases hn : f.name = []
    · rw [hn, List.append_nil, getLast?_append_ne_nil _ _ (by decide)]; decide
    · rw [getLast?_append_ne_nil _ _ hn]; exact hs.cr

theorem parentText_last (p : Nat) : (parentText (some p)).getLast? ≠ some 13 := by
  unfold parentText
  simp only
  rw [getLast?_append_ne_nil _ _ (natToDec_ne_nil p)]
  intro h
  exact not_mem_natToDec p 13 (by decide) (List.mem_of_getLast? h)

theorem createdLine_last (f : FrameSpec) (parent : Option Nat) (hs : SymOK f parent.isSome) :
    (b!"created by " ++ f.symbol ++ parentText parent).getLast? ≠ some 13 := by
  obtain ⟨c, t, hsym, _⟩ := hs.head
  have hne : f.symbol ≠ [] := by rw [hsym]; simp
  cases parent with
  | none =>
    simp only [parentText, List.append_nil]
    rw [getLast?_append_ne_nil _ _ hne]
    exact symbol_last f _ hs
  | some p =>
    rw [getLast?_append_ne_nil _ _ (by simp [parentText])]
    exact parentText_last p

theorem created_steps (c : PrintCfg) (hc : CfgOK c) (f : FrameSpec) (parent : Option Nat)
    (hf : FrameOK c f true parent.isSome)
    (pre : List Goroutine) (gi : Nat) (g : GSpec) (first : Bool) (cs : List Call) (e : Bool) (st : St)
    (hst : st = .gotFileFunc ∨ st = .gotUnavail) :
    Steps ⟨st, pre ++ [buildG g first cs e []], gi, c.indent⟩
      ((createdLines c (some (f, parent))).map (rawLine c))
      ⟨.gotFileCreated, pre ++ [buildG g first cs e [expCall f parent false]], gi, c.indent⟩ := by
  obtain ⟨c0, t0, hsym, _⟩ := hf.sym.head
  refine Steps.append (s1 := ⟨.gotCreated, pre ++ [buildG g first cs e
      [if st = .gotFileFunc then ({ fn := expFunc f.pkg f.name parent } : Call).init [] 0
        else { fn := expFunc f.pkg f.name parent }]], gi, c.indent⟩)
    (dump_step c _ _ _ rfl ?_ (by simp) (createdLine_last f parent hf.sym) ?_)
    (dump_step c _ _ _ rfl (by simp) ?_ ?_ ?_)
  · rcases hst with h | h <;> rw [h] <;> simp
  · refine scan_created pre gi c.indent g first _ cs e (f.symbol ++ parentText parent) _ st hst (by simp) ?_
      (funcInit_symbol f parent ⟨hf.sym.slash, hf.sym.pct⟩ (fun h => (hf.sym.csym h).2)
        (fun h => hf.sym.form (by rw [h]; rfl)))
    rw [List.append_assoc, matchCreated_print _ (by rw [hsym]; simp)]
  · simp [createdFile_eq, tailText_ne_nil]
  · rw [createdFile_eq]; exact fileLine_last _ _ _ _ _
  · rw [createdFile_eq, scan_file_created pre gi c.indent g first _ cs e _ (f.file, f.line)
      (parseFile_frame c hc f true parent.isSome hf none)]
    have := createdCall_init f parent (pathOK_ne_nil hf.file.path) (decide (st = .gotFileFunc))
    simp only [decide_eq_true_eq] at this
    rw [this]

theorem expectedG_eq (g : GSpec) (first : Bool) :
    expectedG g first =
      buildG g first
        (if g.unavail then [{ remoteSrcPath := b!"<unavailable>" }] else g.frames.map (fun f => expCall f none true))
        (if g.unavail then false else g.elided.isSome)
        (match g.created with | none => [] | some (f, parent) => [expCall f parent false]) := by
  unfold expectedG buildG
  cases hu : g.unavail <;> cases hc : g.created <;> simp

/-- the states a goroutine's lines can end in: all of them accept a blank line or the end of input -/
def EndSt (st : St) : Prop := st = .gotFileFunc ∨ st = .gotFileCreated ∨ st = .gotUnavail

theorem body_steps (c : PrintCfg) (hc : CfgOK c) (g : GSpec) (hg : GOK c g)
    (pre : List Goroutine) (gi : Nat) (first : Bool) :
    ∃ st, EndSt st ∧
      Steps ⟨.gotRoutineHeader, pre ++ [buildG g first [] false []], gi, c.indent⟩
        (((if g.unavail then [unavailLine c] else stackLines c g.frames g.elided) ++
            createdLines c g.created).map (rawLine c))
        ⟨st, pre ++ [expectedG g first], gi, c.indent⟩ := by
  rw [expectedG_eq, List.map_append]
  -- the stack, or the line that stands for it
  obtain ⟨st1, hst1, h1⟩ : ∃ st1, (st1 = .gotFileFunc ∨ st1 = .gotUnavail) ∧
      Steps ⟨.gotRoutineHeader, pre ++ [buildG g first [] false []], gi, c.indent⟩
        ((if g.unavail then [unavailLine c] else stackLines c g.frames g.elided).map (rawLine c))
        ⟨st1, pre ++ [buildG g first
          (if g.unavail then [{ remoteSrcPath := b!"<unavailable>" }] else g.frames.map (fun f => expCall f none true))
          (if g.unavail then false else g.elided.isSome) []], gi, c.indent⟩ := by
    cases hu : g.unavail with
    | true => exact ⟨_, Or.inr rfl, unavail_step c hc pre gi g first⟩
    | false =>
      obtain ⟨hne, hfs, hel⟩ := hg.frames hu
      exact ⟨_, Or.inl rfl, stack_steps c hc g.frames hne hfs g.elided hel pre gi g first⟩
  -- the creator
  cases hcr : g.created with
  | none => exact ⟨st1, hst1.elim Or.inl (Or.inr ∘ Or.inr), by simpa [createdLines] using h1⟩
  | some v =>
    obtain ⟨f, parent⟩ := v
    exact ⟨.gotFileCreated, Or.inr (Or.inl rfl),
      h1.append (created_steps c hc f parent (hg.created f parent hcr) pre gi g first _ _ st1 hst1)⟩

/-- the lines of one goroutine, read from the start or between two goroutines -/
theorem goroutine_steps (c : PrintCfg) (hc : CfgOK c) (g : GSpec) (hg : GOK c g)
    (pre : List Goroutine) (gi : Nat) (st0 : St) (pfx0 : Bytes)
    (h0 : (st0 = .looking ∧ pfx0 = [] ∧ pre = []) ∨ (st0 = .betweenRoutine ∧ pfx0 = c.indent ∧ pre ≠ [])) :
    ∃ st, EndSt st ∧
      Steps ⟨st0, pre, gi, pfx0⟩ (goroutineRaw c g) ⟨st, pre ++ [expectedG g pre.isEmpty], gi, c.indent⟩ := by
  have hh := fun ind hind => parseHeader_print ind g hind hg.id hg.wait hg.status hg.gpm
  have hhdr : Steps ⟨st0, pre, gi, pfx0⟩ [rawLine c (headerLine g)]
      ⟨.gotRoutineHeader, pre ++ [buildG g pre.isEmpty [] false []], gi, c.indent⟩ := by
    rcases h0 with ⟨rfl, rfl, rfl⟩ | ⟨rfl, rfl, h3⟩
    · -- no prefix is set yet: the indentation is part of the text, and becomes the prefix
      refine line_step c.crlf [] (c.indent ++ headerLine g) _ _ rfl (by simp) (Or.inr rfl) ?_ ?_
      · rw [getLast?_append_ne_nil _ _ (headerLine_ne_nil g), headerLine_last]; simp
      · rw [scan_header _ _ _ (Or.inl rfl) (hh c.indent hc.indent)]
        rfl
    · refine dump_step c _ _ _ rfl (by simp) (headerLine_ne_nil g) (by rw [headerLine_last]; simp) ?_
      rw [scan_header (headerLine g) _ _ (Or.inr rfl) (hh [] rfl), List.isEmpty_eq_false_iff.2 h3]
      rfl
  obtain ⟨st1, hst1, hbody⟩ := body_steps c hc g hg pre gi pre.isEmpty
  exact ⟨st1, hst1, by simpa [goroutineRaw, goroutineLines] using hhdr.append hbody⟩

theorem dumpRaw_cons (c : PrintCfg) (g : GSpec) (gs : List GSpec) :
    dumpRaw c (g :: gs) = goroutineRaw c g ++ gs.flatMap (fun g => eolOf c.crlf :: goroutineRaw c g) := by
  induction gs generalizing g with
  | nil => simp [dumpRaw]
  | cons g' gs ih => rw [dumpRaw, ih] <;> simp

/-- the goroutines after the first, each behind its blank line -/
theorem rest_steps (c : PrintCfg) (hc : CfgOK c) (gs : List GSpec) (hgs : ∀ g ∈ gs, GOK c g)
    (pre : List Goroutine) (hpre : pre ≠ []) (gi : Nat) (st : St) (hst : EndSt st) :
    ∃ st', EndSt st' ∧
      Steps ⟨st, pre, gi, c.indent⟩ (gs.flatMap (fun g => eolOf c.crlf :: goroutineRaw c g))
        ⟨st', pre ++ gs.map (fun g => expectedG g false), gi, c.indent⟩ := by
  induction gs generalizing pre st with
  | nil => exact ⟨st, hst, by simpa using Steps.nil _⟩
  | cons g gs ih =>
    obtain ⟨st1, hst1, h1⟩ := goroutine_steps c hc g (hgs g (by simp)) pre gi .betweenRoutine c.indent
      (Or.inr ⟨rfl, rfl, hpre⟩)
    rw [List.isEmpty_eq_false_iff.2 hpre] at h1
    obtain ⟨st2, hst2, h2⟩ := ih (fun x hx => hgs x (by simp [hx])) (pre ++ [expectedG g false]) (by simp) st1 hst1
    exact ⟨st2, hst2, by simpa using (blank_step c.crlf ⟨st, pre, gi, c.indent⟩ hst).append (h1.append h2)⟩

theorem roundtrip_aux (c : PrintCfg) (d : List GSpec) (hne : d ≠ []) (hwf : WF c d = true) :
    ∃ st, EndSt st ∧
      scanL {} [] [] (specLines (printDump c d) .eof) =
        { s := ⟨st, expected d, 0, c.indent⟩, fwd := [], consumed := dumpRaw c d,
          err := some (.reader .eof), rest := [], broke := false } := by
  obtain ⟨hc, hd⟩ : cfgWF c = true ∧ ∀ g ∈ d, gWF c g = true := by
    simpa only [WF, Bool.and_eq_true, List.all_eq_true] using hwf
  obtain ⟨g, gs, rfl⟩ := List.exists_cons_of_ne_nil hne
  have hok : ∀ x ∈ g :: gs, GOK c x := fun x hx => gWF_ok c x (hd x hx)
  obtain ⟨st1, hst1, h1⟩ := goroutine_steps c (cfgWF_ok c hc) g (hok g (by simp)) [] 0 .looking []
    (Or.inl ⟨rfl, rfl, rfl⟩)
  obtain ⟨st, hst, h2⟩ := rest_steps c (cfgWF_ok c hc) gs (fun x hx => hok x (by simp [hx])) _
    (List.append_ne_nil_of_right_ne_nil _ (List.cons_ne_nil _ _)) 0 st1 hst1
  refine ⟨st, hst, ?_⟩
  have hsteps := h1.append h2
  rw [← dumpRaw_cons] at hsteps
  rw [specLines_dump c _ (cfgWF_ok c hc) hok]
  have h0 : ({} : S) = ⟨.looking, [], 0, []⟩ := rfl
  rw [h0, scanL_steps hsteps, scanL_cons]
  have hnd : ¬ (st == St.done) = true := by
    rcases hst with h | h | h <;> rw [h] <;> simp
  rw [if_neg hnd]
  simp [expected]

end PP.Spec
