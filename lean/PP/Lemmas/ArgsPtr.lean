import PP.Model.Args
/-
"Pointer-likeness of a parsed value depends only on the value":
every scalar produced by `parseArgs` has `isPtr = isPtrValue value`.
-/
namespace PP
open Bytes

mutual
/-- every scalar inside the argument satisfies isPtr = isPtrValue value -/
def Arg.PtrOK : Arg → Prop
  | .scalar _ v p _ _ => p = isPtrValue v
  | .agg fs _ => ArgsPtrOK fs
def ArgsPtrOK : List Arg → Prop
  | [] => True
  | a :: as => Arg.PtrOK a ∧ ArgsPtrOK as
end

@[simp] theorem ArgsPtrOK_nil : ArgsPtrOK [] = True := by
  simp [ArgsPtrOK]

@[simp] theorem ArgsPtrOK_cons (a : Arg) (as : List Arg) :
    ArgsPtrOK (a :: as) = (Arg.PtrOK a ∧ ArgsPtrOK as) := by
  simp [ArgsPtrOK]

@[simp] theorem Arg.PtrOK_scalar (n : Bytes) (v : Nat) (p o i : Bool) :
    Arg.PtrOK (.scalar n v p o i) = (p = isPtrValue v) := by
  simp [Arg.PtrOK]

@[simp] theorem Arg.PtrOK_agg (fs : List Arg) (e : Bool) :
    Arg.PtrOK (.agg fs e) = ArgsPtrOK fs := by
  simp [Arg.PtrOK]

@[simp] theorem ArgsPtrOK_append (as bs : List Arg) :
    ArgsPtrOK (as ++ bs) = (ArgsPtrOK as ∧ ArgsPtrOK bs) := by
  induction as with
  | nil => simp
  | cons a as ih => simp [ih, and_assoc]

theorem ArgsPtrOK_iff_forall (as : List Arg) : ArgsPtrOK as ↔ ∀ a ∈ as, Arg.PtrOK a := by
  induction as with
  | nil => simp
  | cons a as ih => simp [ih]

theorem isPtrValue_zero : isPtrValue 0 = false := by
  simp [isPtrValue, Extracted.pointerFloor]

/-- the stack invariant: every frame holds `ArgsPtrOK` values -/
def StackPtrOK : List Frame → Prop
  | [] => True
  | (vs, _) :: t => ArgsPtrOK vs ∧ StackPtrOK t

@[simp] theorem StackPtrOK_nil : StackPtrOK [] = True := rfl
@[simp] theorem StackPtrOK_cons (vs : List Arg) (e : Bool) (t : List Frame) :
    StackPtrOK ((vs, e) :: t) = (ArgsPtrOK vs ∧ StackPtrOK t) := rfl

theorem pushVal_ptrOK (a : Arg) (st : List Frame) (ha : Arg.PtrOK a) (h : StackPtrOK st) :
    StackPtrOK (pushVal a st) := by
  cases st with
  | nil => simp [pushVal]
  | cons f t =>
    obtain ⟨vs, e⟩ := f
    simp only [StackPtrOK_cons] at h
    simp [pushVal, h.1, h.2, ha]

theorem openN_ptrOK (n : Nat) (st st' : List Frame) (h : StackPtrOK st)
    (ho : argItem.openN n st = .ok st') : StackPtrOK st' := by
  induction n generalizing st with
  | zero =>
    simp only [argItem.openN, Except.ok.injEq] at ho
    subst ho; exact h
  | succ n ih =>
    simp only [argItem.openN] at ho
    split at ho
    · cases ho
    · exact ih _ (by simp [h]) ho

theorem closeN_ptrOK (n : Nat) (st st' : List Frame) (h : StackPtrOK st)
    (hc : argItem.closeN n st = .ok st') : StackPtrOK st' := by
  induction n generalizing st with
  | zero =>
    simp only [argItem.closeN, Except.ok.injEq] at hc
    subst hc; exact h
  | succ n ih =>
    simp only [argItem.closeN] at hc
    split at hc
    · rename_i vs e pvs pe t
      simp only [StackPtrOK_cons] at h
      exact ih _ (by simp [h.1, h.2.1, h.2.2]) hc
    · cases hc

theorem argItem_ptrOK (st st' : List Frame) (item : Bytes) (h : StackPtrOK st)
    (hi : argItem st item = .ok st') : StackPtrOK st' := by
  unfold argItem at hi
  simp only at hi
  split at hi
  · cases hi
  · rename_i st1 ho
    have h1 := openN_ptrOK _ _ _ h ho
    split at hi
    · cases hi
    · rename_i st2 hv
      refine closeN_ptrOK _ _ _ ?_ hi
      split at hv
      · split at hv
        · split at hv
          · rename_i vs e t
            simp only [Except.ok.injEq] at hv
            subst hv
            simp only [StackPtrOK_cons] at h1 ⊢
            exact h1
          · simp only [Except.ok.injEq] at hv
            subst hv; exact h1
        · split at hv
          · simp only [Except.ok.injEq] at hv
            subst hv
            exact pushVal_ptrOK _ _ (by simp [isPtrValue_zero]) h1
          · split at hv
            · cases hv
            · simp only [Except.ok.injEq] at hv
              subst hv
              exact pushVal_ptrOK _ _ (by simp) h1
      · simp only [Except.ok.injEq] at hv
        subst hv; exact h1

theorem parseArgs_go_ptrOK (items : List Bytes) (st st' : List Frame) (h : StackPtrOK st)
    (hg : parseArgs.go items st = .ok st') : StackPtrOK st' := by
  induction items generalizing st with
  | nil =>
    simp only [parseArgs.go, Except.ok.injEq] at hg
    subst hg; exact h
  | cons it rest ih =>
    simp only [parseArgs.go] at hg
    split at hg
    · cases hg
    · rename_i st1 hi
      exact ih _ (argItem_ptrOK _ _ _ h hi) hg

theorem parseArgs_isPtr (line : Bytes) (a : Args) (h : parseArgs line = .ok a) :
    ArgsPtrOK a.values := by
  unfold parseArgs at h
  simp only at h
  split at h
  · cases h
  · rename_i vs e hg
    simp only [Except.ok.injEq] at h
    subst h
    have := parseArgs_go_ptrOK _ _ _ (by simp) hg
    simpa using this
  · cases h

#print axioms ArgsPtrOK_append
#print axioms parseArgs_isPtr

end PP
