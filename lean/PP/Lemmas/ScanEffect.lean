import PP.Lemmas.ScanStep
/-
How a step of `scan` can end, whatever the line is (`scan_effect`).  What it does to the
goroutine list is `scan_gsEffect` (`PP.Lemmas.ScanGs`).
-/
namespace PP

/-- How a step from `s` can end.  A line that is not withheld and raises no error leaves the
scanner as it was, ends the dump (`done`), or — after a lone race separator — sends it back to
`looking`.  An error comes with a line that is not withheld, and never on the way to `looking`.
A withheld line raises no error. -/
inductive Effect (s : S) : S → Bool → Option Err → Prop
  | skip : Effect s s false none
  | done : Effect s { s with st := .done } false none
  | reset : Effect s { s with st := .looking, pfx := [] } false none
  | err {s' : S} {e : Err} : s'.st ≠ .looking → Effect s s' false (some e)
  | take {s' : S} : Effect s s' true none

/-- a function line that parsed is withheld; one that did not is an error in the next state -/
theorem Effect.func {s s' : S} (h : s'.st ≠ .looking) : (e : Option Err) → Effect s s' e.isNone e
  | none => .take
  | some _ => .err h

theorem scan_effect {s s' : S} {l : Line} {b : Bool} {e : Option Err} (h : scan s l = .ok (s', b, e)) :
    Effect s s' b e := by
  refine (?_ : WhenOk (scan s l) (Effect s)) s' b e h
  rcases scan_early s l with h0 | h0 | ⟨hi, he⟩
  · rw [h0]; exact whenOk_ok .skip
  · rw [h0]; exact whenOk_ok (.err (by simp))
  have hne {st : St} (hs : s.st = st) (h : st ≠ .looking := by decide) : s.st ≠ .looking := hs ▸ h
  have hlast {f : Goroutine → Goroutine} {st' : St} :
      WhenOk (match modifyLast s.gs f with
        | none => .error .nilCur
        | some gs => .ok ({ s with st := st', gs := gs }, true, none)) (Effect s) :=
    modifyLast_whenOk (k := fun gs => ({ s with st := st', gs := gs }, true, none)) fun _ _ _ => .take
  have hfunc {r : Option (Call × Option Err)} {next : St} {orElse : R} (hn : next ≠ .looking)
      (hor : WhenOk orElse (Effect s)) : WhenOk (funcStep s r next orElse) (Effect s) :=
    funcStep_whenOk hor fun _ _ _ e _ _ => .func hn e
  have hcreated {r : Except Err Func} {doInit : Bool} (hs : s.st ≠ .looking) :
      WhenOk (createdStep s r doInit) (Effect s) :=
    createdStep_whenOk (fun _ _ _ _ => .take) (fun _ _ _ _ => .err hs)
  cases hs : s.st
  case looking =>
    rw [scan_looking hs (he.resolve_right fun h => h.1 hs) hi]
    split
    · exact whenOk_ok .take
    · split
      · exact whenOk_ok .take
      · exact whenOk_ok .skip
  case done => rw [scan_done hs hi]; exact whenOk_ok .skip
  case betweenRoutine =>
    rw [scan_betweenRoutine hs hi]
    split
    · exact whenOk_ok .take
    · exact whenOk_ok .done
  case gotRoutineHeader =>
    rw [scan_gotRoutineHeader hs hi]
    split
    · exact hlast
    · split
      · split
        · exact whenOk_error
        · exact whenOk_ok (.err (hne hs))
      · exact hfunc (by decide) (whenOk_ok (.err (hne hs)))
  case gotFunc =>
    rw [scan_gotFunc hs hi]
    exact fileStep_whenOk (fun _ _ _ _ _ => .take) fun _ => .err (hne hs)
  case gotCreated =>
    rw [scan_gotCreated hs hi]
    split
    · exact whenOk_error
    · split
      · exact hlast
      · exact whenOk_ok (.err (hne hs))
      · exact whenOk_ok (.err (hne hs))
  case gotFileFunc =>
    rw [scan_gotFileFunc hs hi]
    split
    · exact hcreated (hne hs)
    · split
      · exact hlast
      · refine hfunc (by decide) ?_
        split
        · exact whenOk_ok .take
        · exact whenOk_ok .done
  case gotFileCreated =>
    rw [scan_gotFileCreated hs hi]
    split
    · exact whenOk_ok .take
    · exact whenOk_ok .done
  case gotUnavail =>
    rw [scan_gotUnavail hs hi]
    split
    · exact whenOk_ok .take
    · split
      · exact hcreated (hne hs)
      · exact whenOk_ok (.err (hne hs))
  case gotRaceHeader1 =>
    rw [scan_gotRaceHeader1 hs hi]
    split
    · exact whenOk_ok .take
    · exact whenOk_ok .reset
  case gotRaceHeader2 =>
    rw [scan_gotRaceHeader2 hs hi]
    split
    · split
      · exact whenOk_error
      · exact whenOk_ok .take
    · exact whenOk_ok (.err (hne hs))
    · exact whenOk_ok (.err (hne hs))
  case gotRaceOperationHeader =>
    rw [scan_gotRaceOperationHeader hs hi]
    exact hfunc (by decide) (whenOk_ok (.err (hne hs)))
  case gotRaceOperationFunc =>
    rw [scan_gotRaceOperationFunc hs hi]
    exact fileStep_whenOk (fun _ _ _ _ _ => .take) fun _ => .err (hne hs)
  case gotRaceOperationFile =>
    rw [scan_gotRaceOperationFile hs hi]
    split
    · exact whenOk_ok .take
    · exact hfunc (by decide) (whenOk_ok (.err (hne hs)))
  case betweenRaceOperations =>
    rw [scan_betweenRaceOperations hs hi]
    split
    · exact whenOk_ok .take
    · exact whenOk_ok (.err (hne hs))
    · exact raceGorStep_whenOk (fun _ _ _ _ _ _ => .take) fun _ => .err (hne hs)
  case betweenRaceGoroutines =>
    rw [scan_betweenRaceGoroutines hs hi]
    exact raceGorStep_whenOk (fun _ _ _ _ _ _ => .take) fun _ => .err (hne hs)
  case gotRaceGoroutineFunc =>
    rw [scan_gotRaceGoroutineFunc hs hi]
    split
    · split
      · exact whenOk_error
      · split
        · exact whenOk_ok .take
        · exact whenOk_ok (.err (hne hs))
        · exact whenOk_ok (.err (hne hs))
    · exact whenOk_error
  case gotRaceGoroutineFile =>
    rw [scan_gotRaceGoroutineFile hs hi]
    split
    · exact whenOk_ok .take
    · split
      · exact whenOk_ok .take
      · exact raceFuncStep_whenOk (fun _ e _ _ => .func (by simp) e) fun _ => .err (hne hs)
  case gotRaceGoroutineHeader =>
    rw [scan_gotRaceGoroutineHeader hs hi]
    exact raceFuncStep_whenOk (fun _ e _ _ => .func (by simp) e) fun _ => .err (hne hs)

end PP
