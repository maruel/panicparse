import PP.Lemmas.RootsFind
/-
The shape of the output of `splitPath`: no element but the first contains a
`/`; the first one is a run of `/` followed by bytes without `/`.  On the way,
the case analysis of `decodeRune` (`DecodesTo`), which the UTF-8 round trip of
Tie/TranslatedMisc uses as well.
-/
namespace PP
open Bytes

/-! ### the head of a UTF-8 string -/

/-- a UTF-8 continuation byte -/
def IsCont (b : UInt8) : Prop := 0x80 ≤ b.toNat ∧ b.toNat ≤ 0xBF

/-- The ways `utf8.DecodeRune` reads a (code point, width) off the head of a non-empty string: an
invalid byte, or one of the four well-formed lengths (no overlong form, no surrogate half,
nothing above U+10FFFF: the second byte of a three- or four-byte form has a narrower range
after E0, ED, F0, F4). -/
inductive DecodesTo : Bytes → Nat × Nat → Prop
  | invalid (p : Bytes) : DecodesTo p (runeError, 1)
  | one (b0 : UInt8) (t : Bytes) (h : b0.toNat < 0x80) : DecodesTo (b0 :: t) (b0.toNat, 1)
  | two (b0 b1 : UInt8) (t : Bytes) (h0 : 0xC2 ≤ b0.toNat) (h1 : b0.toNat ≤ 0xDF) (c1 : IsCont b1) :
      DecodesTo (b0 :: b1 :: t) ((b0.toNat &&& 0x1F) <<< 6 ||| (b1.toNat &&& 0x3F), 2)
  | three (b0 b1 b2 : UInt8) (t : Bytes) (h0 : 0xE0 ≤ b0.toNat) (h1 : b0.toNat ≤ 0xEF) (c1 : IsCont b1)
      (c2 : IsCont b2) (lo : b0.toNat = 0xE0 → 0xA0 ≤ b1.toNat) (hi : b0.toNat = 0xED → b1.toNat ≤ 0x9F) :
      DecodesTo (b0 :: b1 :: b2 :: t)
        ((b0.toNat &&& 0x0F) <<< 12 ||| (b1.toNat &&& 0x3F) <<< 6 ||| (b2.toNat &&& 0x3F), 3)
  | four (b0 b1 b2 b3 : UInt8) (t : Bytes) (h0 : 0xF0 ≤ b0.toNat) (h1 : b0.toNat ≤ 0xF4) (c1 : IsCont b1)
      (c2 : IsCont b2) (c3 : IsCont b3) (lo : b0.toNat = 0xF0 → 0x90 ≤ b1.toNat)
      (hi : b0.toNat = 0xF4 → b1.toNat ≤ 0x8F) :
      DecodesTo (b0 :: b1 :: b2 :: b3 :: t)
        ((b0.toNat &&& 0x07) <<< 18 ||| (b1.toNat &&& 0x3F) <<< 12 ||| (b2.toNat &&& 0x3F) <<< 6 |||
          (b3.toNat &&& 0x3F), 4)

theorem DecodesTo.ite {p : Bytes} {c : Prop} [Decidable c] {r : Nat × Nat} (h : c → DecodesTo p r) :
    DecodesTo p (if c then r else (runeError, 1)) := by
  by_cases hc : c
  · rw [if_pos hc]; exact h hc
  · rw [if_neg hc]; exact .invalid p

theorem of_band {p q : Prop} [Decidable p] [Decidable q] (h : (decide p && decide q) = true) : p ∧ q := by
  simpa using h

/-- the range test on the second byte of a three- or four-byte form -/
theorem second_byte {c d : Prop} [Decidable c] [Decidable d] {b lo hi : Nat}
    (h : (decide ((if c then lo else 0x80) ≤ b) && decide (b ≤ if d then hi else 0xBF)) = true)
    (hlo : 0x80 ≤ lo) (hhi : hi ≤ 0xBF) : (0x80 ≤ b ∧ b ≤ 0xBF) ∧ (c → lo ≤ b) ∧ (d → b ≤ hi) := by
  have h := of_band h
  refine ⟨⟨?_, ?_⟩, fun hc => by simpa [hc] using h.1, fun hd => by simpa [hd] using h.2⟩
  · have := h.1; split at this <;> omega
  · have := h.2; split at this <;> omega

/-- `decodeRune` walked once.  (`rw [if_pos/if_neg]` on purpose: `split` simplifies the whole
term, bit operations included, at every step.) -/
theorem decodeRune_decodesTo (b0 : UInt8) (t : Bytes) : DecodesTo (b0 :: t) (decodeRune (b0 :: t)) := by
  unfold decodeRune
  dsimp only
  by_cases h0 : b0.toNat < 0x80
  · rw [if_pos h0]; exact .one b0 t h0
  rw [if_neg h0]
  by_cases h1 : (decide (0xC2 ≤ b0.toNat) && decide (b0.toNat ≤ 0xDF)) = true
  · rw [if_pos h1]
    cases t with
    | nil => exact .invalid _
    | cons b1 t1 => exact .ite fun hc => .two b0 b1 t1 (of_band h1).1 (of_band h1).2 (of_band hc)
  rw [if_neg h1]
  by_cases h2 : (decide (0xE0 ≤ b0.toNat) && decide (b0.toNat ≤ 0xEF)) = true
  · rw [if_pos h2]
    match t with
    | [] | [_] => exact .invalid _
    | b1 :: b2 :: t2 =>
      refine .ite fun hc => ?_
      rw [Bool.and_eq_true] at hc
      obtain ⟨c1, lo, hi⟩ := second_byte hc.1 (by decide) (by decide)
      exact .three b0 b1 b2 t2 (of_band h2).1 (of_band h2).2 c1 (of_band hc.2)
        (fun e => lo (by simpa using e)) (fun e => hi (by simpa using e))
  rw [if_neg h2]
  by_cases h3 : (decide (0xF0 ≤ b0.toNat) && decide (b0.toNat ≤ 0xF4)) = true
  · rw [if_pos h3]
    match t with
    | [] | [_] | [_, _] => exact .invalid _
    | b1 :: b2 :: b3 :: t3 =>
      refine .ite fun hc => ?_
      rw [Bool.and_eq_true, Bool.and_eq_true] at hc
      obtain ⟨c1, lo, hi⟩ := second_byte hc.1.1 (by decide) (by decide)
      exact .four b0 b1 b2 b3 t3 (of_band h3).1 (of_band h3).2 c1 (of_band hc.1.2) (of_band hc.2)
        (fun e => lo (by simpa using e)) (fun e => hi (by simpa using e))
  rw [if_neg h3]
  exact .invalid _

theorem ne47_of_ge {b : UInt8} (h : 0x80 ≤ b.toNat) : (47 : UInt8) ≠ b := by
  intro e; subst e; exact absurd h (by decide)

theorem decodeRune_take (p : Bytes) :
    ((decodeRune p).1 = runeError ∧ (decodeRune p).2 ≤ 1) ∨
      p.take (decodeRune p).2 = [47] ∨ (47 : UInt8) ∉ p.take (decodeRune p).2 := by
  cases p with
  | nil => exact Or.inl ⟨rfl, by decide⟩
  | cons b0 t =>
    have h := decodeRune_decodesTo b0 t
    generalize decodeRune (b0 :: t) = r at h ⊢
    have lead : ∀ {n : Nat}, n ≤ b0.toNat → 0x80 ≤ n → (47 : UInt8) ≠ b0 :=
      fun h1 h2 => ne47_of_ge (Nat.le_trans h2 h1)
    cases h with
    | invalid => exact Or.inl ⟨rfl, Nat.le_refl 1⟩
    | one _ _ h0 =>
      by_cases e : b0 = 47
      · exact Or.inr (Or.inl (by rw [e]; rfl))
      · exact Or.inr (Or.inr (by simpa using Ne.symm e))
    | two _ _ _ h0 _ c1 => exact Or.inr (Or.inr (by simp [lead h0 (by decide), ne47_of_ge c1.1]))
    | three _ _ _ _ h0 _ c1 c2 =>
      exact Or.inr (Or.inr (by simp [lead h0 (by decide), ne47_of_ge c1.1, ne47_of_ge c2.1]))
    | four _ _ _ _ _ h0 _ c1 c2 c3 =>
      exact Or.inr (Or.inr (by simp [lead h0 (by decide), ne47_of_ge c1.1, ne47_of_ge c2.1, ne47_of_ge c3.1]))

/-- what `for _, c := range p` hands to `string(c)`: a `/`, or bytes without `/` -/
theorem nextRune_slash (p : Bytes) : (nextRune p).1 = [47] ∨ (47 : UInt8) ∉ (nextRune p).1 := by
  unfold nextRune
  simp only
  split
  · right
    show (47 : UInt8) ∉ runeErrorUTF8
    decide
  · rename_i h
    rcases decodeRune_take p with h1 | h1 | h1
    · exfalso
      apply h
      simp [h1.1, h1.2]
    · exact Or.inl h1
    · exact Or.inr h1

/-! ### the shape of the parts -/

/-- a run of `/` followed by bytes without `/` (the first element of
`splitPath`, which keeps the leading slashes) -/
def FirstShape (s : Bytes) : Prop :=
  ∃ sl rest, s = sl ++ rest ∧ (∀ c ∈ sl, c = 47) ∧ (47 : UInt8) ∉ rest

structure SplitOut (parts : List Bytes) : Prop where
  tail : ∀ x ∈ parts.tail, (47 : UInt8) ∉ x
  head : ∀ x ∈ parts.head?, FirstShape x
  /-- with two parts or more the first one is not a run of slashes (`//` alone stays `//`) -/
  head_ne : 2 ≤ parts.length → ∀ x ∈ parts.head?, allSlash x = false
  nonempty : ∀ x ∈ parts, x ≠ []

/-- The invariant of the loop of `splitPath`, for the parts pushed so far and the part being
read.  A first part is only pushed once it has a byte other than `/`. -/
structure SplitInv (out : List Bytes) (s : Bytes) : Prop where
  tail : ∀ x ∈ out.tail, (47 : UInt8) ∉ x
  head : ∀ x ∈ out.head?, FirstShape x ∧ allSlash x = false
  nonempty : ∀ x ∈ out, x ≠ []
  cur0 : out = [] → FirstShape s
  cur1 : out ≠ [] → (47 : UInt8) ∉ s

theorem SplitInv.nil : SplitInv [] [] :=
  ⟨by simp, by simp, by simp, fun _ => ⟨[], [], rfl, by simp, by simp⟩, fun h => absurd rfl h⟩

theorem SplitInv.out {out : List Bytes} {s : Bytes} (h : SplitInv out s) : SplitOut out :=
  ⟨h.tail, fun x hx => (h.head x hx).1, fun _ x hx => (h.head x hx).2, h.nonempty⟩

theorem SplitInv.push {out : List Bytes} {s : Bytes} (h : SplitInv out s) (hs : s ≠ [])
    (hh : out = [] → allSlash s = false) : SplitInv (out ++ [s]) [] := by
  have hne : ∀ x ∈ out ++ [s], x ≠ [] := by
    intro x hx
    rcases List.mem_append.mp hx with hx | hx
    · exact h.nonempty x hx
    · rw [List.mem_singleton.mp hx]; exact hs
  cases out with
  | nil =>
    refine ⟨by simp, ?_, hne, by simp, fun _ => by simp⟩
    intro x hx
    simp only [List.nil_append, List.head?_cons, Option.mem_def, Option.some.injEq] at hx
    exact hx ▸ ⟨h.cur0 rfl, hh rfl⟩
  | cons a t =>
    refine ⟨?_, fun x hx => h.head x hx, hne, by simp, fun _ => by simp⟩
    intro x hx
    simp only [List.cons_append, List.tail_cons, List.mem_append, List.mem_singleton] at hx
    rcases hx with hx | rfl
    · exact h.tail x hx
    · exact h.cur1 (by simp)

theorem SplitInv.last {out : List Bytes} {s : Bytes} (h : SplitInv out s) (hs : s ≠ []) : SplitOut (out ++ [s]) := by
  cases out with
  | nil =>
    refine ⟨by simp, ?_, fun hl => absurd hl (by simp), by simpa using hs⟩
    intro x hx
    simp only [List.nil_append, List.head?_cons, Option.mem_def, Option.some.injEq] at hx
    exact hx ▸ h.cur0 rfl
  | cons a t => exact (h.push hs (fun e => by simp at e)).out

theorem SplitInv.add {out : List Bytes} {s c : Bytes} (h : SplitInv out s) (hc : (47 : UInt8) ∉ c) :
    SplitInv out (s ++ c) := by
  refine ⟨h.tail, h.head, h.nonempty, ?_, ?_⟩
  · intro e
    obtain ⟨sl, rest, e1, h1, h2⟩ := h.cur0 e
    exact ⟨sl, rest ++ c, by rw [e1, List.append_assoc], h1, by simp [h2, hc]⟩
  · intro e
    have := h.cur1 e
    simp [this, hc]

theorem SplitInv.addSlash {s : Bytes} (hs : allSlash s = true) : SplitInv [] (s ++ [47]) := by
  refine ⟨by simp, by simp, by simp, fun _ => ⟨s ++ [47], [], by simp, ?_, by simp⟩, fun h => absurd rfl h⟩
  intro c hc
  simp only [List.mem_append, List.mem_singleton] at hc
  rcases hc with hc | hc
  · simp only [allSlash, List.all_eq_true, beq_iff_eq] at hs
    exact hs c hc
  · exact hc

theorem splitPathGo_shape (fuel : Nat) (p : Bytes) (out : List Bytes) (s : Bytes) (h : SplitInv out s) :
    SplitOut (splitPathGo fuel p out s) := by
  induction fuel generalizing p out s with
  | zero => exact h.out
  | succ n ih =>
    cases p with
    | nil =>
      simp only [splitPathGo]
      split
      · rename_i hs; exact h.last (by simpa using hs)
      · exact h.out
    | cons b t =>
      simp only [splitPathGo]
      split
      · rename_i hc
        simp only [Bool.or_eq_true, bne_iff_ne, ne_eq, Bool.and_eq_true] at hc
        rcases nextRune_slash (b :: t) with h47 | h47
        · rcases hc with hc | hc
          · exact absurd h47 hc
          · have he : out = [] := by simpa using hc.1
            subst he
            rw [h47]
            exact ih _ _ _ (SplitInv.addSlash hc.2)
        · exact ih _ _ _ (h.add h47)
      · rename_i hc
        split
        · rename_i hs
          refine ih _ _ _ (h.push (by simpa using hs) ?_)
          intro e
          subst e
          have hc : (nextRune (b :: t)).1 = [47] ∧ allSlash s = false := by simpa using hc
          exact hc.2
        · exact ih _ _ _ h

theorem splitPath_shape (p : Bytes) : SplitOut (splitPath p) := by
  unfold splitPath
  split
  · exact SplitInv.nil.out
  · exact splitPathGo_shape _ _ _ _ SplitInv.nil

/-! ### cutting the last part off a joined prefix -/

theorem append_sep_inj {c : UInt8} {a b x y : Bytes} (hx : c ∉ x) (hy : c ∉ y)
    (h : a ++ c :: x = b ++ c :: y) : a = b ∧ x = y := by
  induction a generalizing b with
  | nil =>
    cases b with
    | nil => simpa using h
    | cons d b' =>
      simp only [List.nil_append, List.cons_append, List.cons.injEq] at h
      exact absurd (h.2 ▸ by simp) hx
  | cons e a' ih =>
    cases b with
    | nil =>
      simp only [List.nil_append, List.cons_append, List.cons.injEq] at h
      exact absurd (h.2 ▸ by simp) hy
    | cons d b' =>
      simp only [List.cons_append, List.cons.injEq] at h
      obtain ⟨rfl, h2⟩ := ih h.2
      exact ⟨by rw [h.1], h2⟩

theorem pathJoin_single (y : Bytes) : pathJoin [y] = y := rfl

theorem cut_last_part {parts : List Bytes} (hs : SplitOut parts) {i : Nat} (h2 : 2 ≤ i) (hi : i ≤ parts.length)
    {k x : Bytes} (hx : (47 : UInt8) ∉ x) (h : k ++ 47 :: x = pathJoin (parts.take i)) :
    parts[i - 1]? = some x ∧ k = pathJoin (parts.take (i - 1)) := by
  obtain ⟨j, rfl⟩ : ∃ j, i = j + 2 := ⟨i - 2, by omega⟩
  have hlt : j + 1 < parts.length := by omega
  obtain ⟨e1, e2⟩ := append_sep_inj hx (hs.tail _ (mem_tail_getElem (Nat.succ_pos j) hlt))
    (h.trans (pfx_succ (Nat.succ_pos j) hlt))
  exact ⟨by rw [e2]; exact List.getElem?_eq_getElem hlt, e1⟩

theorem firstShape_cut {k x : Bytes} (h : FirstShape (k ++ 47 :: x)) : ∀ c ∈ k, c = 47 := by
  obtain ⟨sl, rest, e, h1, h2⟩ := h
  -- the `/` after `k` is not in `rest`, so `k` lies within the run of slashes
  rcases List.append_eq_append_iff.mp e with ⟨a, ha, _⟩ | ⟨a, _, hb⟩
  · exact fun c hc => h1 c (by rw [ha]; exact List.mem_append_left _ hc)
  · exact absurd (by rw [hb]; simp) h2

end PP
