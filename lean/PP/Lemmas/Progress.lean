import PP.Lemmas.LoopLemmas
/-
Helper definitions and lemmas for C11 (streaming progress): a ghost-instrumented copy of the
reader and of the ScanSnapshot loop that logs every `Read` on the source, every line handed
to `scan` and every line written to the pass-through writer, in program order.
-/
namespace PP
namespace Live

/-- observable events of `ScanSnapshot` used as a live filter.
* `read acc buf got err`: one `Read` call on the source (the only place where the library can
  block), logged with what the reader holds when it calls: `buf` = the unread bytes of the
  buffer, `acc` = the glued beginning of a line longer than the buffer (`readLine`'s
  accumulator); `got`/`err` = what the call returns.
* `scanned d processed`: the line `d` was handed to `scan`, which returned `processed`.
* `write d`: `d` was written to the pass-through writer. -/
inductive Ev
  | read (acc buf got : Bytes) (err : Option RErr)
  | scanned (d : Bytes) (processed : Bool)
  | write (d : Bytes)
  deriving DecidableEq, Repr

abbrev Log := List Ev

/-! ### the instrumented model -/

def fillLoopT (N : Nat) (acc : Bytes) : Nat → Rd → Rd × Log
  | 0, r => ({ r with err := some .noProgress }, [])
  | k + 1, r =>
    let (c, e, s') := r.src.read (N - r.buf.length)
    let r' : Rd := { r with buf := r.buf ++ c, src := s' }
    match e with
    | some e => ({ r' with err := some e }, [.read acc r.buf c (some e)])
    | none =>
      if c.length > 0 then (r', [.read acc r.buf c none])
      else
        let (r'', evs) := fillLoopT N acc k r'
        (r'', .read acc r.buf c none :: evs)

def fillT (N retry : Nat) (acc : Bytes) (r : Rd) : Except RPanic Rd × Log :=
  if r.buf.length ≥ N then (.error .fillFull, [])
  else
    let (r', evs) := fillLoopT N acc retry r
    (.ok r', evs)

def readSliceT (N retry : Nat) (acc : Bytes) :
    Nat → Rd → Option (Except RPanic (Bytes × Option SliceErr × Rd)) × Log
  | 0, _ => (none, [])
  | fuel + 1, r =>
    match cutNL r.buf with
    | some (l, rest) => (some (.ok (l, none, { r with buf := rest })), [])
    | none =>
      match r.err with
      | some e => (some (.ok (r.buf, some (.rerr e), { r with buf := [], err := none })), [])
      | none =>
        if r.buf.length = N then (some (.ok (r.buf, some .bufferFull, { r with buf := [] })), [])
        else match fillT N retry acc r with
          | (.error p, evs) => (some (.error p), evs)
          | (.ok r', evs) =>
            let (res, evs') := readSliceT N retry acc fuel r'
            (res, evs ++ evs')

def readLineT (N retry : Nat) :
    Nat → Bytes → Rd → Option (Except RPanic (Bytes × Option RErr × Rd)) × Log
  | 0, _, _ => (none, [])
  | fuel + 1, acc, r =>
    match readSliceT N retry acc (N + 2) r with
    | (none, evs) => (none, evs)
    | (some (.error p), evs) => (some (.error p), evs)
    | (some (.ok (f, some .bufferFull, r')), evs) =>
      let (res, evs') := readLineT N retry fuel (acc ++ f) r'
      (res, evs ++ evs')
    | (some (.ok (f, some (.rerr e), r')), evs) => (some (.ok (acc ++ f, some e, r')), evs)
    | (some (.ok (f, none, r')), evs) => (some (.ok (acc ++ f, none, r')), evs)

def scanBT (N retry : Nat) : Nat → S → Bytes → List Bytes → Rd → Option OutB × Log
  | 0, _, _, _, _ => (none, [])
  | fuel + 1, s, fwd, cons, rd =>
    if s.st == .done then (some { s := s, fwd := fwd, consumed := cons, err := none, suffix := none, rd := rd }, [])
    else
      match readLineT N retry (lineFuel rd) [] rd with
      | (none, evs) => (none, evs)
      | (some (.error _), evs) =>
        (some { s := s, fwd := fwd, consumed := cons, err := none, suffix := none, rd := rd, panicked := true }, evs)
      | (some (.ok (d, e, rd')), evs) =>
        if d.length != 0 then
          match scanBytes s d with
          | .error _ =>
            (some { s := s, fwd := fwd, consumed := cons, err := none, suffix := none, rd := rd', panicked := true }, evs)
          | .ok (s', l, e1) =>
            let err := combineErr e e1
            if !l then
              if s'.st != .looking then
                (some { s := s', fwd := fwd, consumed := cons, err := err, suffix := some (d ++ rd'.buf), rd := { rd' with buf := [] } },
                  evs ++ [.scanned d false])
              else if err.isSome then
                (some { s := s', fwd := fwd ++ d, consumed := cons, err := err, suffix := none, rd := rd' },
                  evs ++ [.scanned d false, .write d])
              else
                let (res, evs') := scanBT N retry fuel s' (fwd ++ d) cons rd'
                (res, evs ++ .scanned d false :: .write d :: evs')
            else if err.isSome then
              (some { s := s', fwd := fwd, consumed := cons ++ [d], err := err, suffix := none, rd := rd' },
                evs ++ [.scanned d true])
            else
              let (res, evs') := scanBT N retry fuel s' fwd (cons ++ [d]) rd'
              (res, evs ++ .scanned d true :: evs')
        else
          match e with
          | some r => (some { s := s, fwd := fwd, consumed := cons, err := some (.reader r), suffix := none, rd := rd' }, evs)
          | none =>
            let (res, evs') := scanBT N retry fuel s fwd cons rd'
            (res, evs ++ evs')

/-- the bytes the source has delivered -/
def delivered : Log → Bytes
  | [] => []
  | .read _ _ got _ :: t => got ++ delivered t
  | _ :: t => delivered t

/-- the bytes of the lines handed to `scan` -/
def scannedBytes : Log → Bytes
  | [] => []
  | .scanned d _ :: t => d ++ scannedBytes t
  | _ :: t => scannedBytes t

/-- the lines written to the pass-through writer -/
def writesOf : Log → List Bytes
  | [] => []
  | .write d :: t => d :: writesOf t
  | _ :: t => writesOf t

/-- the lines `scan` did not process -/
def unprocOf : Log → List Bytes
  | [] => []
  | .scanned d false :: t => d :: unprocOf t
  | _ :: t => unprocOf t

/-- a `Read` that returned data or an error -/
def Ev.isProductiveRead : Ev → Bool
  | .read _ _ got err => !got.isEmpty || err.isSome
  | _ => false

def Ev.isRead : Ev → Bool
  | .read .. => true
  | _ => false

theorem delivered_append (a b : Log) : delivered (a ++ b) = delivered a ++ delivered b := by
  induction a with
  | nil => rfl
  | cons x t ih => cases x <;> simp [delivered, ih]

theorem scannedBytes_append (a b : Log) : scannedBytes (a ++ b) = scannedBytes a ++ scannedBytes b := by
  induction a with
  | nil => rfl
  | cons x t ih => cases x <;> simp [scannedBytes, ih]

theorem writesOf_append (a b : Log) : writesOf (a ++ b) = writesOf a ++ writesOf b := by
  induction a with
  | nil => rfl
  | cons x t ih => cases x <;> simp [writesOf, ih]

theorem unprocOf_append (a b : Log) : unprocOf (a ++ b) = unprocOf a ++ unprocOf b := by
  induction a with
  | nil => rfl
  | cons x t ih =>
    cases x with
    | scanned d b => cases b <;> simp [unprocOf, ih]
    | _ => simp [unprocOf, ih]

/-- a log made of `Read`s only -/
def OnlyReads (evs : Log) : Prop := ∀ ev ∈ evs, ev.isRead = true

theorem OnlyReads.nil : OnlyReads [] := by intro ev h; simp at h

theorem OnlyReads.append {a b : Log} (ha : OnlyReads a) (hb : OnlyReads b) : OnlyReads (a ++ b) := by
  intro ev h
  rcases List.mem_append.mp h with h | h
  · exact ha ev h
  · exact hb ev h

theorem OnlyReads.proj {evs : Log} (h : OnlyReads evs) :
    scannedBytes evs = [] ∧ writesOf evs = [] ∧ unprocOf evs = [] := by
  induction evs with
  | nil => exact ⟨rfl, rfl, rfl⟩
  | cons x t ih =>
    have hx := h x (by simp)
    have ht := ih (fun ev hev => h ev (by simp [hev]))
    cases x with
    | read a b g e => simpa [scannedBytes, writesOf, unprocOf] using ht
    | scanned d b => simp [Ev.isRead] at hx
    | write d => simp [Ev.isRead] at hx

theorem OnlyReads.pre {evs pre post : Log} {ev : Ev} (h : OnlyReads evs) (heq : evs = pre ++ ev :: post) :
    OnlyReads pre := by
  intro x hx
  exact h x (by rw [heq]; simp [hx])

/-! ### properties indexed by the history before an event -/

/-- `P pre ev` holds for every event `ev` of the log, `pre` being the events before it -/
def AllPre (P : Log → Ev → Prop) (evs : Log) : Prop :=
  ∀ pre ev post, evs = pre ++ ev :: post → P pre ev

theorem AllPre.nil (P : Log → Ev → Prop) : AllPre P [] := by
  intro pre ev post h; simp at h

theorem AllPre.cons {P : Log → Ev → Prop} {x : Ev} {xs : Log} (h0 : P [] x)
    (h : AllPre (fun pre ev => P (x :: pre) ev) xs) : AllPre P (x :: xs) := by
  intro pre ev post heq
  cases pre with
  | nil =>
    simp at heq
    rw [← heq.1]; exact h0
  | cons y pre' =>
    simp at heq
    obtain ⟨rfl, heq⟩ := heq
    exact h pre' ev post heq

theorem AllPre.append {P : Log → Ev → Prop} {a b : Log} (ha : AllPre P a)
    (hb : AllPre (fun pre ev => P (a ++ pre) ev) b) : AllPre P (a ++ b) := by
  induction a generalizing P with
  | nil => simpa using hb
  | cons x t ih =>
    refine AllPre.cons (ha [] x t rfl) (ih (P := fun pre ev => P (x :: pre) ev) ?_ ?_)
    · intro pre ev post heq
      exact ha (x :: pre) ev post (by simp [heq])
    · exact hb

theorem AllPre.mono {P Q : Log → Ev → Prop} {evs : Log} (h : AllPre P evs)
    (hpq : ∀ pre ev, P pre ev → Q pre ev) : AllPre Q evs :=
  fun pre ev post heq => hpq pre ev (h pre ev post heq)

theorem AllPre.single {P : Log → Ev → Prop} {x : Ev} (h : P [] x) : AllPre P [x] :=
  AllPre.cons h (AllPre.nil _)

/-! ### the reader: every `Read` is issued without a complete line in hand -/

/-- at a `Read` issued by a reader that held `base` when the log started: what it holds now
(`acc ++ buf`) is `base` plus what was delivered since, and contains no newline -/
def RdOK (base : Bytes) (pre : Log) (ev : Ev) : Prop :=
  ∀ a b g e, ev = .read a b g e →
    a ++ b = base ++ delivered pre ∧ (10 : UInt8) ∉ b ∧ (10 : UInt8) ∉ a

theorem fillLoopT_spec (N : Nat) (acc : Bytes) (k : Nat) (r : Rd)
    (ha : (10 : UInt8) ∉ acc) (hb : (10 : UInt8) ∉ r.buf) :
    OnlyReads (fillLoopT N acc k r).2 ∧ AllPre (RdOK (acc ++ r.buf)) (fillLoopT N acc k r).2 ∧
    (fillLoopT N acc k r).1.buf = r.buf ++ delivered (fillLoopT N acc k r).2 := by
  induction k generalizing r with
  | zero =>
    simp only [fillLoopT]
    exact ⟨OnlyReads.nil, AllPre.nil _, by simp [delivered]⟩
  | succ k ih =>
    rcases hrd : r.src.read (N - r.buf.length) with ⟨c, e, s'⟩
    have h0 : ∀ e', RdOK (acc ++ r.buf) [] (.read acc r.buf c e') := by
      intro e' a b g e h
      simp only [Ev.read.injEq] at h
      obtain ⟨rfl, rfl, rfl, rfl⟩ := h
      exact ⟨by simp [delivered], hb, ha⟩
    simp only [fillLoopT, hrd]
    cases e with
    | some x =>
      refine ⟨?_, AllPre.single (h0 _), by simp [delivered]⟩
      intro ev hev; simp at hev; subst hev; rfl
    | none =>
      dsimp only
      split
      · refine ⟨?_, AllPre.single (h0 _), by simp [delivered]⟩
        intro ev hev; simp at hev; subst hev; rfl
      · rename_i hc
        obtain rfl : c = [] := List.eq_nil_of_length_eq_zero (Nat.eq_zero_of_not_pos hc)
        have ih' := ih { r with buf := r.buf ++ [], src := s' } (by simpa using hb)
        simp only [List.append_nil] at ih' ⊢
        obtain ⟨i1, i2, i3⟩ := ih'
        refine ⟨?_, AllPre.cons (h0 _) (i2.mono ?_), ?_⟩
        · intro ev hev
          simp at hev
          rcases hev with rfl | hev
          · rfl
          · exact i1 ev hev
        · intro pre ev hp a b g e hev
          have := hp a b g e hev
          simpa [delivered] using this
        · rw [i3]; simp [delivered]

theorem fillT_spec (N retry : Nat) (acc : Bytes) (r : Rd)
    (ha : (10 : UInt8) ∉ acc) (hb : (10 : UInt8) ∉ r.buf) :
    OnlyReads (fillT N retry acc r).2 ∧ AllPre (RdOK (acc ++ r.buf)) (fillT N retry acc r).2 ∧
    ∀ r', (fillT N retry acc r).1 = .ok r' → r'.buf = r.buf ++ delivered (fillT N retry acc r).2 := by
  simp only [fillT]
  split
  · exact ⟨OnlyReads.nil, AllPre.nil _, by simp⟩
  · obtain ⟨i1, i2, i3⟩ := fillLoopT_spec N acc retry r ha hb
    refine ⟨i1, i2, ?_⟩
    intro r' h
    simp only [Except.ok.injEq] at h
    rw [← h]; exact i3

theorem RdOK.shift {base base' : Bytes} {evs : Log} (h : base' = base ++ delivered evs)
    {pre : Log} {ev : Ev} (hp : RdOK base' pre ev) : RdOK base (evs ++ pre) ev := by
  intro a b g e hev
  obtain ⟨h1, h2, h3⟩ := hp a b g e hev
  refine ⟨?_, h2, h3⟩
  rw [h1, h, delivered_append]
  simp

theorem readSliceT_spec (N retry : Nat) (acc : Bytes) (fuel : Nat) (r : Rd)
    (ha : (10 : UInt8) ∉ acc) :
    OnlyReads (readSliceT N retry acc fuel r).2 ∧
    AllPre (RdOK (acc ++ r.buf)) (readSliceT N retry acc fuel r).2 ∧
    ∀ f e r', (readSliceT N retry acc fuel r).1 = some (.ok (f, e, r')) →
      f ++ r'.buf = r.buf ++ delivered (readSliceT N retry acc fuel r).2 ∧
      (e = some .bufferFull → (10 : UInt8) ∉ f ∧ r'.buf = []) := by
  induction fuel generalizing r with
  | zero =>
    simp only [readSliceT]
    exact ⟨OnlyReads.nil, AllPre.nil _, by simp⟩
  | succ fuel ih =>
    rw [readSliceT]
    cases hc : cutNL r.buf with
    | some v =>
      obtain ⟨l, rest⟩ := v
      refine ⟨OnlyReads.nil, AllPre.nil _, ?_⟩
      intro f e r' h
      simp only [Option.some.injEq, Except.ok.injEq, Prod.mk.injEq] at h
      obtain ⟨rfl, rfl, rfl⟩ := h
      obtain ⟨p, _, _, hbuf⟩ := cutNL_some_spec hc
      exact ⟨by simp [delivered, hbuf], by simp⟩
    | none =>
      have hb := (cutNL_none_iff r.buf).mp hc
      dsimp only
      cases he : r.err with
      | some x =>
        refine ⟨OnlyReads.nil, AllPre.nil _, ?_⟩
        intro f e r' h
        simp only [Option.some.injEq, Except.ok.injEq, Prod.mk.injEq] at h
        obtain ⟨rfl, rfl, rfl⟩ := h
        exact ⟨by simp [delivered], by simp⟩
      | none =>
        dsimp only
        by_cases hN : r.buf.length = N
        · rw [if_pos hN]
          refine ⟨OnlyReads.nil, AllPre.nil _, ?_⟩
          intro f e r' h
          simp only [Option.some.injEq, Except.ok.injEq, Prod.mk.injEq] at h
          obtain ⟨rfl, rfl, rfl⟩ := h
          exact ⟨by simp [delivered], fun _ => ⟨hb, rfl⟩⟩
        · rw [if_neg hN]
          obtain ⟨f1, f2, f3⟩ := fillT_spec N retry acc r ha hb
          rcases hft : fillT N retry acc r with ⟨res, evs⟩
          rw [hft] at f1 f2 f3
          simp only at f1 f2 f3
          cases res with
          | error p => exact ⟨f1, f2, by simp⟩
          | ok r1 =>
            dsimp only
            have hr1 := f3 r1 rfl
            obtain ⟨i1, i2, i3⟩ := ih r1
            refine ⟨f1.append i1, AllPre.append f2 (i2.mono fun pre ev hp => RdOK.shift (by rw [hr1, List.append_assoc]) hp), ?_⟩
            intro f e r' h
            obtain ⟨j1, j2⟩ := i3 f e r' h
            refine ⟨?_, j2⟩
            rw [j1, hr1, delivered_append]
            simp

theorem readLineT_spec (N retry : Nat) (fuel : Nat) (acc : Bytes) (r : Rd)
    (ha : (10 : UInt8) ∉ acc) :
    OnlyReads (readLineT N retry fuel acc r).2 ∧
    AllPre (RdOK (acc ++ r.buf)) (readLineT N retry fuel acc r).2 ∧
    ∀ d e r', (readLineT N retry fuel acc r).1 = some (.ok (d, e, r')) →
      d ++ r'.buf = acc ++ r.buf ++ delivered (readLineT N retry fuel acc r).2 := by
  induction fuel generalizing acc r with
  | zero =>
    simp only [readLineT]
    exact ⟨OnlyReads.nil, AllPre.nil _, by simp⟩
  | succ fuel ih =>
    rw [readLineT]
    obtain ⟨f1, f2, f3⟩ := readSliceT_spec N retry acc (N + 2) r ha
    rcases hst : readSliceT N retry acc (N + 2) r with ⟨res, evs⟩
    rw [hst] at f1 f2 f3
    simp only at f1 f2 f3
    cases res with
    | none => exact ⟨f1, f2, by simp⟩
    | some x =>
      cases x with
      | error p => exact ⟨f1, f2, by simp⟩
      | ok v =>
        obtain ⟨f, e, r1⟩ := v
        obtain ⟨g1, g2⟩ := f3 f e r1 rfl
        cases e with
        | none =>
          refine ⟨f1, f2, ?_⟩
          intro d e r' h
          simp only [Option.some.injEq, Except.ok.injEq, Prod.mk.injEq] at h
          obtain ⟨rfl, rfl, rfl⟩ := h
          rw [List.append_assoc, g1, List.append_assoc]
        | some se =>
          cases se with
          | rerr x =>
            refine ⟨f1, f2, ?_⟩
            intro d e r' h
            simp only [Option.some.injEq, Except.ok.injEq, Prod.mk.injEq] at h
            obtain ⟨rfl, rfl, rfl⟩ := h
            rw [List.append_assoc, g1, List.append_assoc]
          | bufferFull =>
            dsimp only
            obtain ⟨k1, k2⟩ := g2 rfl
            have ha' : (10 : UInt8) ∉ acc ++ f := by simp [ha, k1]
            obtain ⟨i1, i2, i3⟩ := ih (acc ++ f) r1 ha'
            have hbase : acc ++ f ++ r1.buf = acc ++ r.buf ++ delivered evs := by
              rw [List.append_assoc, g1, List.append_assoc]
            refine ⟨f1.append i1, AllPre.append f2 (i2.mono fun pre ev hp => RdOK.shift hbase hp), ?_⟩
            intro d e r' h
            rw [i3 d e r' h, hbase, delivered_append]
            simp

/-- the invariant at a `Read` of the loop; `pre` = the events since the loop started with a
reader holding `base`: everything delivered so far has been handed to `scan`, except
`acc ++ buf`, which contains no newline; and every line `scan` did not process has been
written -/
def LoopOK (base : Bytes) (pre : Log) (ev : Ev) : Prop :=
  ∀ a b g e, ev = .read a b g e →
    scannedBytes pre ++ a ++ b = base ++ delivered pre ∧ (10 : UInt8) ∉ b ∧ (10 : UInt8) ∉ a ∧
    writesOf pre = unprocOf pre

theorem LoopOK.of_reads {base : Bytes} {evs : Log} (h1 : OnlyReads evs) (h2 : AllPre (RdOK base) evs) :
    AllPre (LoopOK base) evs := by
  intro pre ev post heq a b g e hev
  obtain ⟨k1, k2, k3⟩ := h2 pre ev post heq a b g e hev
  obtain ⟨p1, p2, p3⟩ := (h1.pre heq).proj
  exact ⟨by rw [p1, List.nil_append, k1], k2, k3, by rw [p2, p3]⟩

theorem LoopOK.shift {base base' : Bytes} {mid : Log}
    (h1 : scannedBytes mid ++ base' = base ++ delivered mid) (h2 : writesOf mid = unprocOf mid)
    {pre : Log} {ev : Ev} (hp : LoopOK base' pre ev) : LoopOK base (mid ++ pre) ev := by
  intro a b g e hev
  obtain ⟨k1, k2, k3, k4⟩ := hp a b g e hev
  refine ⟨?_, k2, k3, by rw [writesOf_append, unprocOf_append, h2, k4]⟩
  rw [scannedBytes_append, delivered_append, ← List.append_assoc, ← h1]
  simp only [List.append_assoc] at k1 ⊢
  rw [k1]

theorem LoopOK.scanned (base : Bytes) (pre : Log) (d : Bytes) (b : Bool) :
    LoopOK base pre (.scanned d b) := by
  intro _ _ _ _ h; cases h

theorem LoopOK.write (base : Bytes) (pre : Log) (d : Bytes) : LoopOK base pre (.write d) := by
  intro _ _ _ _ h; cases h

theorem scanBT_spec (N retry : Nat) (fuel : Nat) (s : S) (fwd : Bytes) (cons : List Bytes) (rd : Rd) :
    AllPre (LoopOK rd.buf) (scanBT N retry fuel s fwd cons rd).2 := by
  induction fuel generalizing s fwd cons rd with
  | zero => exact AllPre.nil _
  | succ fuel ih =>
    rw [scanBT]
    by_cases hd : (s.st == .done) = true
    · rw [if_pos hd]; exact AllPre.nil _
    · rw [if_neg hd]
      obtain ⟨r1, r2, r3⟩ := readLineT_spec N retry (lineFuel rd) [] rd (by simp)
      rcases hst : readLineT N retry (lineFuel rd) [] rd with ⟨res, evs⟩
      rw [hst] at r1 r2 r3
      simp only [List.nil_append] at r1 r2 r3
      have hreads : AllPre (LoopOK rd.buf) evs := LoopOK.of_reads r1 r2
      obtain ⟨p1, p2, p3⟩ := r1.proj
      cases res with
      | none => exact hreads
      | some x =>
        cases x with
        | error p => exact hreads
        | ok v =>
          obtain ⟨d, e, rd'⟩ := v
          have hd' := r3 d e rd' rfl
          dsimp only
          by_cases hlen : (d.length != 0) = true
          · rw [if_pos hlen]
            cases hsc : scanBytes s d with
            | error p => exact hreads
            | ok v =>
              obtain ⟨s', l, e1⟩ := v
              dsimp only
              by_cases hl : (!l) = true
              · rw [if_pos hl]
                by_cases hlk : (s'.st != .looking) = true
                · rw [if_pos hlk]
                  exact AllPre.append hreads (AllPre.single (LoopOK.scanned _ _ _ _))
                · rw [if_neg hlk]
                  by_cases herr : (combineErr e e1).isSome = true
                  · rw [if_pos herr]
                    exact AllPre.append hreads
                      (AllPre.cons (LoopOK.scanned _ _ _ _) (AllPre.single (LoopOK.write _ _ _)))
                  · rw [if_neg herr]
                    dsimp only
                    have hmid : evs ++ .scanned d false :: .write d :: (scanBT N retry fuel s' (fwd ++ d) cons rd').2
                        = (evs ++ [.scanned d false, .write d]) ++ (scanBT N retry fuel s' (fwd ++ d) cons rd').2 := by
                      simp
                    rw [hmid]
                    refine AllPre.append
                      (AllPre.append hreads
                        (AllPre.cons (LoopOK.scanned _ _ _ _) (AllPre.single (LoopOK.write _ _ _))))
                      ((ih s' (fwd ++ d) cons rd').mono fun pre ev hp => LoopOK.shift ?_ ?_ hp)
                    · rw [scannedBytes_append, delivered_append, p1]
                      simp [scannedBytes, delivered, hd']
                    · rw [writesOf_append, unprocOf_append, p2, p3]
                      simp [writesOf, unprocOf]
              · rw [if_neg hl]
                have hl' : l = true := by simpa using hl
                subst hl'
                by_cases herr : (combineErr e e1).isSome = true
                · rw [if_pos herr]
                  exact AllPre.append hreads (AllPre.single (LoopOK.scanned _ _ _ _))
                · rw [if_neg herr]
                  dsimp only
                  have hmid : evs ++ .scanned d true :: (scanBT N retry fuel s' fwd (cons ++ [d]) rd').2
                      = (evs ++ [.scanned d true]) ++ (scanBT N retry fuel s' fwd (cons ++ [d]) rd').2 := by
                    simp
                  rw [hmid]
                  refine AllPre.append
                    (AllPre.append hreads (AllPre.single (LoopOK.scanned _ _ _ _)))
                    ((ih s' fwd (cons ++ [d]) rd').mono fun pre ev hp => LoopOK.shift ?_ ?_ hp)
                  · rw [scannedBytes_append, delivered_append, p1]
                    simp [scannedBytes, delivered, hd']
                  · rw [writesOf_append, unprocOf_append, p2, p3]
                    simp [writesOf, unprocOf]
          · rw [if_neg hlen]
            have h0 := length_eq_nil hlen
            subst h0
            cases e with
            | some r => exact hreads
            | none =>
              dsimp only
              refine AllPre.append hreads
                ((ih s fwd cons rd').mono fun pre ev hp => LoopOK.shift ?_ ?_ hp)
              · rw [p1]; simpa using hd'
              · rw [p2, p3]

/-! ### one `fill` = empty reads, then at most one productive read -/

theorem fillLoopT_shape (N : Nat) (acc : Bytes) (k : Nat) (r : Rd) :
    ∃ n last, (fillLoopT N acc k r).2 = List.replicate n (.read acc r.buf [] none) ++ last ∧
      ((last = [] ∧ n = k ∧ (fillLoopT N acc k r).1.err = some .noProgress) ∨
       (n < k ∧ ∃ c e, last = [.read acc r.buf c e] ∧ (c ≠ [] ∨ e ≠ none))) := by
  induction k generalizing r with
  | zero => exact ⟨0, [], rfl, Or.inl ⟨rfl, rfl, rfl⟩⟩
  | succ k ih =>
    rcases hrd : r.src.read (N - r.buf.length) with ⟨c, e, s'⟩
    simp only [fillLoopT, hrd]
    cases e with
    | some x =>
      exact ⟨0, [.read acc r.buf c (some x)], rfl, Or.inr ⟨by omega, c, some x, rfl, Or.inr (by simp)⟩⟩
    | none =>
      dsimp only
      split
      · rename_i hc
        refine ⟨0, [.read acc r.buf c none], rfl, Or.inr ⟨by omega, c, none, rfl, Or.inl ?_⟩⟩
        intro h0; subst h0; simp at hc
      · rename_i hc
        obtain rfl : c = [] := List.eq_nil_of_length_eq_zero (Nat.eq_zero_of_not_pos hc)
        have ih' := ih { r with buf := r.buf ++ [], src := s' }
        simp only [List.append_nil] at ih' ⊢
        obtain ⟨n, last, i1, i2⟩ := ih'
        refine ⟨n + 1, last, by rw [i1, List.replicate_succ]; rfl, ?_⟩
        rcases i2 with ⟨j1, j2, j3⟩ | ⟨j1, j2⟩
        · exact Or.inl ⟨j1, by omega, j3⟩
        · exact Or.inr ⟨by omega, j2⟩

theorem filter_productive_replicate (n : Nat) (a b : Bytes) :
    (List.replicate n (Ev.read a b [] none)).filter Ev.isProductiveRead = [] := by
  induction n with
  | zero => rfl
  | succ n ih => rw [List.replicate_succ, List.filter_cons]; simp [Ev.isProductiveRead, ih]

/-! ### where the log ends -/

theorem scanBT_ends (N retry : Nat) (fuel : Nat) (s : S) (fwd : Bytes) (cons : List Bytes) (rd : Rd)
    (o : OutB) (h : (scanBT N retry fuel s fwd cons rd).1 = some o)
    (hterm : o.suffix.isSome = true ∨ o.s.st = .done) :
    (s.st = .done ∧ (scanBT N retry fuel s fwd cons rd).2 = []) ∨
    ∃ pre d b, (scanBT N retry fuel s fwd cons rd).2 = pre ++ [.scanned d b] := by
  fun_induction scanBT N retry fuel s fwd cons rd
  case case2 hd => exact Or.inl ⟨by simpa using hd, rfl⟩
  case case6 => exact Or.inr ⟨_, _, _, rfl⟩
  case case9 => exact Or.inr ⟨_, _, _, rfl⟩
  case case8 ih =>
    rw [‹scanBT _ _ _ _ _ _ _ = _›] at ih
    rcases ih h with ⟨h0, _⟩ | ⟨pre, d2, b2, h2⟩
    · simp_all
    · exact Or.inr ⟨_, d2, b2, by dsimp only at h2 ⊢; rw [h2]; exact (List.append_assoc _ (_ :: _ :: pre) _).symm⟩
  case case10 ih =>
    rw [‹scanBT _ _ _ _ _ _ _ = _›] at ih
    rcases ih h with ⟨_, h0⟩ | ⟨pre, d2, b2, h2⟩
    · exact Or.inr ⟨_, _, true, by dsimp only at h0 ⊢; rw [h0]⟩
    · exact Or.inr ⟨_, d2, b2, by dsimp only at h2 ⊢; rw [h2]; exact (List.append_assoc _ (_ :: pre) _).symm⟩
  case case12 ih =>
    rw [‹scanBT _ _ _ _ _ _ _ = _›] at ih
    rcases ih h with ⟨h0, _⟩ | ⟨pre, d2, b2, h2⟩
    · simp_all
    · exact Or.inr ⟨_, d2, b2, by dsimp only at h2 ⊢; rw [h2]; exact (List.append_assoc _ pre _).symm⟩
  -- the loop ended without a suffix in a state other than `done`
  all_goals (cases h <;> simp_all)

/-! ### the `write` events are the forwarded output -/

theorem readLineT_proj {N retry fuel : Nat} {r : Rd} {res} {evs : Log}
    (h : readLineT N retry fuel [] r = (res, evs)) :
    scannedBytes evs = [] ∧ writesOf evs = [] ∧ unprocOf evs = [] := by
  have := (readLineT_spec N retry fuel [] r (by simp)).1.proj
  rwa [h] at this

theorem scanBT_writes (N retry : Nat) (fuel : Nat) (s : S) (fwd : Bytes) (cons : List Bytes) (rd : Rd)
    (o : OutB) (h : (scanBT N retry fuel s fwd cons rd).1 = some o) :
    o.fwd = fwd ++ (writesOf (scanBT N retry fuel s fwd cons rd).2).flatten := by
  fun_induction scanBT N retry fuel s fwd cons rd
  case case1 => cases h
  case case2 => cases h; simp [writesOf]
  -- the reads of one `readLine` write nothing
  all_goals have hw := (readLineT_proj ‹_›).2.1
  case case8 ih | case10 ih | case12 ih =>
    rw [‹scanBT _ _ _ _ _ _ _ = _›] at ih
    rw [ih h]
    simp [writesOf_append, hw, writesOf]
  all_goals (cases h <;> simp [writesOf_append, hw, writesOf])

end Live
end PP
