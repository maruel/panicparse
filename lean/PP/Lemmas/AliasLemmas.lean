import PP.Model.Alias
/-
Frame lemmas for the explicit-heap model: every write of the `merge` family and
of `Aggregate` targets a cell allocated during the same call; and what a
well-formed value reads as does not depend on cells allocated later.
-/
namespace PP.Alias

/-- A counted loop (`k` iterations left, next index `i`) carries an indexed invariant
from `i` to `i + k`. -/
theorem countedLoop_inv {σ : Type} {loop : Nat → Nat → σ → σ} {step : Nat → σ → σ}
    (h0 : ∀ i s, loop 0 i s = s) (hS : ∀ k i s, loop (k + 1) i s = loop k (i + 1) (step i s))
    {Inv : Nat → σ → Prop} {n : Nat} (hstep : ∀ i s, i < n → Inv i s → Inv (i + 1) (step i s)) :
    ∀ k i s, i + k = n → Inv i s → Inv n (loop k i s)
  | 0, i, s, hik, inv => by rw [h0]; exact hik ▸ inv
  | k + 1, i, s, hik, inv => by
    rw [hS]
    exact countedLoop_inv h0 hS hstep k (i + 1) _ ((Nat.succ_add_eq_add_succ i k).trans hik)
      (hstep i s (hik ▸ Nat.lt_add_of_pos_right (Nat.succ_pos k)) inv)

/-! ### a store of cells: a list of lists, allocation appends, a write is `modify o (set i v)` -/

/-- `l'` extends `l`: every old index keeps its content -/
def LExt {α : Type} (l l' : List α) : Prop :=
  l.length ≤ l'.length ∧ ∀ a, a < l.length → l'[a]? = l[a]?

theorem LExt.refl {α : Type} (l : List α) : LExt l l := ⟨Nat.le_refl _, fun _ _ => rfl⟩

theorem LExt.trans {α : Type} {l₁ l₂ l₃ : List α} (h₁ : LExt l₁ l₂) (h₂ : LExt l₂ l₃) :
    LExt l₁ l₃ :=
  ⟨Nat.le_trans h₁.1 h₂.1, fun a ha => by
    rw [h₂.2 a (Nat.lt_of_lt_of_le ha h₁.1), h₁.2 a ha]⟩

theorem LExt.append {α : Type} (l x : List α) : LExt l (l ++ x) :=
  ⟨by simp, fun a ha => List.getElem?_append_left ha⟩

theorem LExt.modify_fresh {α : Type} {l₀ l : List α} (h : LExt l₀ l) {o : Nat}
    (ho : l₀.length ≤ o) (f : α → α) : LExt l₀ (l.modify o f) :=
  ⟨by rw [List.length_modify]; exact h.1, fun a ha => by
    rw [List.getElem?_modify_ne _ _ (Nat.ne_of_gt (Nat.lt_of_lt_of_le ha ho)), h.2 a ha]⟩

/-- cell `o` of the store exists, has `n` slots, and the first `i` of them hold `good` values:
the state of an output cell while a loop fills it -/
def Filled {α : Type} (cells : List (List α)) (o n i : Nat) (good : Nat → α → Prop) : Prop :=
  ∃ cur, cells[o]? = some cur ∧ cur.length = n ∧ ∀ j, j < i → ∃ v, cur[j]? = some v ∧ good j v

theorem Filled.lt {α : Type} {cells : List (List α)} {o n i : Nat} {good : Nat → α → Prop}
    (F : Filled cells o n i good) : o < cells.length := by
  obtain ⟨cur, hc, _⟩ := F
  exact (List.getElem?_eq_some_iff.1 hc).1

theorem Filled.init {α : Type} (cells : List (List α)) (n : Nat) (z : α) (good : Nat → α → Prop) :
    Filled (cells ++ [List.replicate n z]) cells.length n 0 good :=
  ⟨_, List.getElem?_concat_length, List.length_replicate, fun j hj => absurd hj (Nat.not_lt_zero j)⟩

/-- the store grows, then slot `i` is written: one more slot is done, provided the earlier
ones stay `good` (the notion may change with the store) -/
theorem Filled.commit {α : Type} {cells cells₁ : List (List α)} {o n i : Nat}
    {good good' : Nat → α → Prop} (F : Filled cells o n i good) (e : LExt cells cells₁) (hi : i < n)
    {v : α} (hv : good' i v) (hold : ∀ j x, j < i → good j x → good' j x) :
    Filled (cells₁.modify o fun c => c.set i v) o n (i + 1) good' := by
  obtain ⟨cur, hc, hlen, hdone⟩ := F
  refine ⟨cur.set i v, ?_, by rw [List.length_set, hlen], fun j hj => ?_⟩
  · rw [List.getElem?_modify_eq, e.2 o (List.getElem?_eq_some_iff.1 hc).1, hc]
    rfl
  · by_cases hji : i = j
    · subst hji
      exact ⟨v, List.getElem?_set_self (hlen.symm ▸ hi), hv⟩
    · have hlt := Nat.lt_of_le_of_ne (Nat.le_of_lt_succ hj) (Ne.symm hji)
      obtain ⟨x, hx, hg⟩ := hdone j hlt
      exact ⟨x, by rw [List.getElem?_set_ne hji, hx], hold j x hlt hg⟩

theorem Filled.final {α : Type} {cells : List (List α)} {o n : Nat} {good : Nat → α → Prop}
    (F : Filled cells o n n good) :
    ∃ cur, cells[o]? = some cur ∧ cur.length = n ∧ ∀ j x, cur[j]? = some x → good j x := by
  obtain ⟨cur, hc, hlen, hdone⟩ := F
  refine ⟨cur, hc, hlen, fun j x hx => ?_⟩
  obtain ⟨x', hx', hg⟩ := hdone j (hlen ▸ (List.getElem?_eq_some_iff.1 hx).1)
  rw [hx] at hx'
  cases hx'
  exact hg

/-- `h'` extends `h`: every cell of `h` exists in `h'` with the same contents -/
def Heap.Ext (h h' : Heap) : Prop :=
  LExt h.argCells h'.argCells ∧ LExt h.callCells h'.callCells

theorem Heap.Ext.refl (h : Heap) : h.Ext h := ⟨LExt.refl _, LExt.refl _⟩

theorem Heap.Ext.trans {h₁ h₂ h₃ : Heap} (a : h₁.Ext h₂) (b : h₂.Ext h₃) : h₁.Ext h₃ :=
  ⟨a.1.trans b.1, a.2.trans b.2⟩

theorem Heap.ext_allocArgs (h : Heap) (init : List HArg) : h.Ext (h.allocArgs init).1 :=
  ⟨LExt.append _ _, LExt.refl _⟩

theorem Heap.ext_allocCalls (h : Heap) (init : List HCall) : h.Ext (h.allocCalls init).1 :=
  ⟨LExt.refl _, LExt.append _ _⟩

theorem Heap.Ext.writeArg_fresh {h₀ h : Heap} (e : h₀.Ext h) {o : Addr}
    (ho : h₀.argCells.length ≤ o) (i : Nat) (v : HArg) : h₀.Ext (h.writeArg o i v) :=
  ⟨e.1.modify_fresh ho _, e.2⟩

theorem Heap.Ext.writeCall_fresh {h₀ h : Heap} (e : h₀.Ext h) {o : Addr}
    (ho : h₀.callCells.length ≤ o) (i : Nat) (v : HCall) : h₀.Ext (h.writeCall o i v) :=
  ⟨e.1, e.2.modify_fresh ho _⟩

theorem Heap.argCell_some {h : Heap} {a : Addr} {c : List HArg} (e : h.argCells[a]? = some c) :
    h.argCell (some a) = c := by
  rw [Heap.argCell, e]; rfl

theorem Heap.callCell_some {h : Heap} {a : Addr} {c : List HCall} (e : h.callCells[a]? = some c) :
    h.callCell (some a) = c := by
  rw [Heap.callCell, e]; rfl

theorem Heap.Ext.callCell {h h' : Heap} (e : h.Ext h') {s : Slice}
    (hs : ∀ a, s = some a → a < h.callCells.length) : h'.callCell s = h.callCell s := by
  cases s with
  | none => rfl
  | some a => simp only [Heap.callCell, e.2.2 a (hs a rfl)]

theorem mergeArgsStep_ext {rec : Heap → HArgs → HArgs → Heap × HArgs}
    (hrec : ∀ (h : Heap) (a r : HArgs), h.Ext (rec h a r).1) (a r : Slice) {o : Addr} (i : Nat) {h₀ h : Heap}
    (e : h₀.Ext h) (ho : h₀.argCells.length ≤ o) : h₀.Ext (mergeArgsStep rec a r o i h) := by
  unfold mergeArgsStep
  split
  · exact e
  · split
    · exact e.writeArg_fresh ho _ _
    · split
      · exact (e.trans (hrec _ _ _)).writeArg_fresh ho _ _
      · split
        · exact e.writeArg_fresh ho _ _
        · exact e.writeArg_fresh ho _ _

theorem mergeArgsH_ext : ∀ (fuel : Nat) (h : Heap) (a r : HArgs), h.Ext (mergeArgsH fuel h a r).1
  | 0, h, _, _ => Heap.Ext.refl h
  | f + 1, h, a, r =>
    countedLoop_inv (loop := mergeArgsLoop (mergeArgsH f) a.values r.values h.argCells.length)
      (Inv := fun _ h' => h.Ext h') (fun _ _ => rfl) (fun _ _ _ => rfl)
      (fun i _ _ e => mergeArgsStep_ext (mergeArgsH_ext f) _ _ i e (Nat.le_refl _)) _ 0 _ rfl
      (h.ext_allocArgs _)

theorem mergeCallH_ext (fuel : Nat) (h : Heap) (c r : HCall) : h.Ext (mergeCallH fuel h c r).1 :=
  mergeArgsH_ext fuel h c.args r.args

theorem mergeStackStep_ext (fuel : Nat) (s r : Slice) {o : Addr} (i : Nat) {h₀ h : Heap}
    (e : h₀.Ext h) (ho : h₀.callCells.length ≤ o) : h₀.Ext (mergeStackStep fuel s r o i h) := by
  unfold mergeStackStep
  split
  · exact e
  · split
    · exact e.writeCall_fresh ho _ _
    · exact (e.trans (mergeCallH_ext _ _ _ _)).writeCall_fresh ho _ _

theorem mergeStackH_ext (fuel : Nat) (h : Heap) (s r : HStack) :
    h.Ext (mergeStackH fuel h s r).1 :=
  countedLoop_inv (loop := mergeStackLoop fuel s.calls r.calls h.callCells.length)
    (Inv := fun _ h' => h.Ext h') (fun _ _ => rfl) (fun _ _ _ => rfl)
    (fun i _ _ e => mergeStackStep_ext fuel _ _ i e (Nat.le_refl _)) _ 0 _ rfl (h.ext_allocCalls _)

theorem mergeSigH_ext (fuel : Nat) (h : Heap) (s r : HSig) : h.Ext (mergeSigH fuel h s r).1 :=
  mergeStackH_ext fuel h s.stack r.stack

theorem insertGH_ext (fuel : Nat) (l : Lvl) (h : Heap) (i : Nat) (g : HGoroutine) :
    ∀ bs : List HBkt, h.Ext (insertGH fuel l h bs i g).1
  | [] => Heap.Ext.refl h
  | b :: rest => by
    rw [insertGH]
    split
    · split
      · exact Heap.Ext.refl h
      · exact mergeSigH_ext _ _ _ _
    · exact insertGH_ext fuel l h i g rest

theorem bucketLoopH_ext (π : HOracle) (fuel : Nat) (l : Lvl) :
    ∀ (gs : List HGoroutine) (i : Nat) (h : Heap) (bs : List HBkt),
      h.Ext (bucketLoopH π fuel l i h bs gs).1
  | [], _, h, _ => Heap.Ext.refl h
  | g :: gs, i, h, bs => by
    rw [bucketLoopH]
    exact (insertGH_ext fuel l h i g _).trans (bucketLoopH_ext π fuel l gs _ _ _)

theorem aggregateHWith_ext (π : HOracle) (fuel : Nat) (l : Lvl) (h : Heap)
    (gs : List HGoroutine) : h.Ext (aggregateHWith π fuel l h gs).1 :=
  bucketLoopH_ext π fuel l gs 0 h []

/-! ### reading through a heap that agrees on the addresses that matter -/

/-- `h'` has every arg cell of `h` whose address satisfies `P`, unchanged -/
def Heap.AgreeOn (P : Addr → Bool) (h h' : Heap) : Prop :=
  h.argCells.length ≤ h'.argCells.length ∧
    ∀ a, P a = true → a < h.argCells.length → h'.argCells[a]? = h.argCells[a]?

theorem Heap.AgreeOn.refl (P : Addr → Bool) (h : Heap) : h.AgreeOn P h :=
  ⟨Nat.le_refl _, fun _ _ _ => rfl⟩

theorem Heap.AgreeOn.trans {P : Addr → Bool} {h₁ h₂ h₃ : Heap} (a : h₁.AgreeOn P h₂)
    (b : h₂.AgreeOn P h₃) : h₁.AgreeOn P h₃ :=
  ⟨Nat.le_trans a.1 b.1, fun x hx hl => by
    rw [b.2 x hx (Nat.lt_of_lt_of_le hl a.1), a.2 x hx hl]⟩

theorem Heap.Ext.agreeOn {h h' : Heap} (e : h.Ext h') (P : Addr → Bool) : h.AgreeOn P h' :=
  ⟨e.1.1, fun a _ hl => e.1.2 a hl⟩

theorem Heap.agreeOn_writeArg (P : Addr → Bool) (h : Heap) {o : Addr} (ho : P o = false) (i : Nat)
    (v : HArg) : h.AgreeOn P (h.writeArg o i v) :=
  ⟨Nat.le_of_eq (List.length_modify ..).symm, fun _ ha _ =>
    List.getElem?_modify_ne _ _ fun e => Bool.noConfusion ((e ▸ ho).symm.trans ha)⟩

theorem Heap.agreeOn_writeCall (P : Addr → Bool) (h : Heap) (o : Addr) (i : Nat) (v : HCall) :
    h.AgreeOn P (h.writeCall o i v) :=
  ⟨Nat.le_refl _, fun _ _ _ => rfl⟩

theorem Heap.AgreeOn.argCell {P : Addr → Bool} {h h' : Heap} (ag : h.AgreeOn P h') {a : Addr}
    (hP : P a = true) (hl : a < h.argCells.length) : h'.argCell (some a) = h.argCell (some a) := by
  simp only [Heap.argCell, ag.2 a hP hl]

/-- the address predicate of the snapshot-level well-formedness: no restriction -/
abbrev anyAddr : Addr → Bool := fun _ => true

theorem wfArgs_succ_some_iff {P : Addr → Bool} {d : Nat} {h : Heap} {a : Addr} :
    wfArgs P (d + 1) h (some a) = true ↔
      (P a = true ∧ a < h.argCells.length) ∧ ∀ x ∈ h.argCell (some a), wfArg P d h x = true := by
  rw [wfArgs]
  simp only [Bool.and_eq_true, decide_eq_true_eq, List.all_eq_true]
  rfl

theorem wfArgs_none (P : Addr → Bool) (d : Nat) (h : Heap) : wfArgs P d h none = true := by
  cases d <;> rfl

theorem absArgsL_succ (f : Nat) (h : Heap) (s : Slice) :
    absArgsL (f + 1) h s = (h.argCell s).map (absArg f h) := by
  rw [absArgsL]
  congr 1

theorem absArgsL_none (f : Nat) (h : Heap) : absArgsL f h none = [] := by
  cases f <;> rfl

theorem wfArgs_weaken {P Q : Addr → Bool} {h h' : Heap} (ag : h.AgreeOn P h')
    (hPQ : ∀ a, P a = true → a < h.argCells.length → Q a = true) :
    ∀ (d : Nat) (s : Slice), wfArgs P d h s = true → ∀ d', d ≤ d' → wfArgs Q d' h' s = true
  | _, none, _, _, _ => wfArgs_none _ _ _
  | 0, some _, hw, _, _ => Bool.noConfusion hw
  | d + 1, some _, _, 0, hd => absurd hd (Nat.not_succ_le_zero d)
  | d + 1, some a, hw, d' + 1, hd => by
    obtain ⟨⟨hP, hl⟩, hall⟩ := wfArgs_succ_some_iff.1 hw
    refine wfArgs_succ_some_iff.2 ⟨⟨hPQ a hP hl, Nat.lt_of_lt_of_le hl ag.1⟩, fun x hx => ?_⟩
    rw [ag.argCell hP hl] at hx
    cases x with
    | scalar => rfl
    | agg fs e => exact wfArgs_weaken ag hPQ d fs (hall _ hx) d' (Nat.le_of_succ_le_succ hd)

/-- what is read below a well-formed slice depends only on the cells satisfying `P`, and
fuel beyond the depth bound is not used -/
theorem absArgsL_min {P : Addr → Bool} {h h' : Heap} (ag : h.AgreeOn P h') :
    ∀ (d : Nat) (s : Slice), wfArgs P d h s = true →
      ∀ f, absArgsL f h' s = absArgsL (min f d) h s
  | _, none, _, _ => by rw [absArgsL_none, absArgsL_none]
  | 0, some _, hw, _ => Bool.noConfusion hw
  | d + 1, some _, _, 0 => by rw [Nat.zero_min]; rfl
  | d + 1, some a, hw, f + 1 => by
    obtain ⟨⟨hP, hl⟩, hall⟩ := wfArgs_succ_some_iff.1 hw
    rw [Nat.add_min_add_right, absArgsL_succ, absArgsL_succ, ag.argCell hP hl]
    refine List.map_congr_left fun x hx => ?_
    cases x with
    | scalar => rfl
    | agg fs e => exact congrArg (Arg.agg · e) (absArgsL_min ag d fs (hall _ hx) f)

theorem absArgsL_congr {P : Addr → Bool} {h h' : Heap} (ag : h.AgreeOn P h') (d : Nat) (s : Slice)
    (hw : wfArgs P d h s = true) (f f' : Nat) (hm : min f d = min f' d) :
    absArgsL f h' s = absArgsL f' h s := by
  rw [absArgsL_min ag d s hw, hm, ← absArgsL_min (Heap.AgreeOn.refl P h) d s hw]

theorem wfArgs_agree {P : Addr → Bool} {h h' : Heap} (ag : h.AgreeOn P h') (d : Nat) (s : Slice)
    (hw : wfArgs P d h s = true) :
    wfArgs P d h' s = true ∧ ∀ f, absArgsL f h' s = absArgsL f h s :=
  ⟨wfArgs_weaken ag (fun _ hP _ => hP) d s hw d (Nat.le_refl _),
   fun f => absArgsL_congr ag d s hw f f rfl⟩

theorem wfArg_agree {P : Addr → Bool} {h h' : Heap} (ag : h.AgreeOn P h') (d : Nat) (x : HArg)
    (hw : wfArg P d h x = true) :
    wfArg P d h' x = true ∧ ∀ f, absArg f h' x = absArg f h x := by
  cases x with
  | scalar => exact ⟨rfl, fun _ => rfl⟩
  | agg fs e =>
    have := wfArgs_agree ag d fs hw
    exact ⟨this.1, fun f => congrArg (Arg.agg · e) (this.2 f)⟩

theorem wfArgs_mono {P Q : Addr → Bool} (h : Heap)
    (hPQ : ∀ a, P a = true → a < h.argCells.length → Q a = true) (d : Nat) (s : Slice)
    (hw : wfArgs P d h s = true) : wfArgs Q d h s = true :=
  wfArgs_weaken (Heap.AgreeOn.refl P h) hPQ d s hw d (Nat.le_refl _)

theorem wfArg_mono {P Q : Addr → Bool} (h : Heap)
    (hPQ : ∀ a, P a = true → a < h.argCells.length → Q a = true) (d : Nat) (x : HArg)
    (hw : wfArg P d h x = true) : wfArg Q d h x = true := by
  cases x with
  | scalar => rfl
  | agg fs e => exact wfArgs_mono h hPQ d fs hw

/-! ### the snapshot reads the same in an extended heap, and with any fuel above its depth -/

theorem absCall_congr {h h' : Heap} (ag : h.AgreeOn anyAddr h') {d : Nat} {c : HCall}
    (hw : wfArgs anyAddr d h c.args.values = true) {f f' : Nat} (hm : min f d = min f' d) :
    absCall f h' c = absCall f' h c := by
  simp only [absCall, absArgs, absArgsL_congr ag d _ hw f f' hm]

theorem wfStack_iff (d : Nat) (h : Heap) (s : HStack) :
    wfStack d h s = true ↔
      (∀ a, s.calls = some a → a < h.callCells.length) ∧
      ∀ c ∈ h.callCell s.calls, wfArgs anyAddr d h c.args.values = true := by
  unfold wfStack
  cases hs : s.calls with
  | none => simp [Heap.callCell]
  | some a =>
    simp only [Bool.and_eq_true, decide_eq_true_eq, List.all_eq_true, Option.some.injEq]
    constructor
    · rintro ⟨h1, h2⟩; exact ⟨fun _ e => e ▸ h1, h2⟩
    · rintro ⟨h1, h2⟩; exact ⟨h1 a rfl, h2⟩

theorem wfStack_read {h h' : Heap} (e : h.Ext h') {d d' : Nat} (hd : d ≤ d') (s : HStack)
    (hw : wfStack d h s = true) :
    wfStack d' h' s = true ∧ ∀ f f', min f d = min f' d → absStack f h' s = absStack f' h s := by
  obtain ⟨hr, hall⟩ := (wfStack_iff d h s).1 hw
  have hc := e.callCell hr
  refine ⟨(wfStack_iff d' h' s).2 ⟨fun a ha => Nat.lt_of_lt_of_le (hr a ha) e.2.1, fun c hcm => ?_⟩,
    fun f f' hm => ?_⟩
  · rw [hc] at hcm
    exact wfArgs_weaken (e.agreeOn _) (fun _ hP _ => hP) d _ (hall c hcm) d' hd
  · simp only [absStack, hc]
    congr 1
    exact List.map_congr_left fun c hcm => absCall_congr (e.agreeOn _) (hall c hcm) hm

theorem wfSig_read {h h' : Heap} (e : h.Ext h') {d d' : Nat} (hd : d ≤ d') (s : HSig)
    (hw : wfSig d h s = true) :
    wfSig d' h' s = true ∧ ∀ f f', min f d = min f' d → absSig f h' s = absSig f' h s := by
  rw [wfSig, Bool.and_eq_true] at hw ⊢
  have a := wfStack_read e hd _ hw.1
  have b := wfStack_read e hd _ hw.2
  exact ⟨⟨a.1, b.1⟩, fun f f' hm => by simp only [absSig, a.2 f f' hm, b.2 f f' hm]⟩

theorem wfSig_ext {h h' : Heap} (e : h.Ext h') (d : Nat) (s : HSig) (hw : wfSig d h s = true) :
    wfSig d h' s = true ∧ ∀ f, absSig f h' s = absSig f h s :=
  have r := wfSig_read e (Nat.le_refl d) s hw
  ⟨r.1, fun f => r.2 f f rfl⟩

/-- Goroutines that only point into `h`, nesting less than `d` deep, still do in every
extension of `h` and under every larger bound; read there with fuel `f` they are what
they are in `h` with fuel `f'`, as soon as `f` and `f'` agree below `d`. -/
theorem HeapWF.read {h h' : Heap} (e : h.Ext h') {d d' : Nat} (hd : d ≤ d') {gs : List HGoroutine}
    (hw : HeapWF d h gs) :
    HeapWF d' h' gs ∧
      ∀ f f', min f d = min f' d → absGoroutines f h' gs = absGoroutines f' h gs :=
  ⟨fun g hg => (wfSig_read e hd _ (hw g hg)).1, fun f f' hm =>
    List.map_congr_left fun g hg => by
      simp only [absGoroutine, (wfSig_read e hd _ (hw g hg)).2 f f' hm]⟩

theorem HeapWF.ext {h h' : Heap} (e : h.Ext h') {d : Nat} {gs : List HGoroutine}
    (hw : HeapWF d h gs) : HeapWF d h' gs :=
  (hw.read e (Nat.le_refl d)).1

theorem absGoroutines_ext {h h' : Heap} (e : h.Ext h') {d : Nat} {gs : List HGoroutine}
    (hw : HeapWF d h gs) (f : Nat) : absGoroutines f h' gs = absGoroutines f h gs :=
  (hw.read e (Nat.le_refl d)).2 f f rfl

end PP.Alias
