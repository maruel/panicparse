import PP.Spec.RaceWF
import PP.Lemmas.RoundTrip
import PP.Lemmas.RaceCreator
/-
C08: the scanner, run over the lines of a printed race report, builds exactly
the goroutines the report describes.  Same method as `PP/Lemmas/RoundTrip.lean`.
-/
namespace PP.Spec
open PP Bytes

theorem hex12_eq (n : Nat) : hex12 n = List.replicate (12 - (natToHex n).length) 48 ++ natToHex n := rfl

theorem hex12_ne_nil (n : Nat) : hex12 n ≠ [] := by
  rw [hex12_eq]; simp [natToHex_ne_nil]

theorem hex12_all_lowerHex (n : Nat) : (hex12 n).all isLowerHex = true := by
  rw [hex12_eq, List.all_append, natToHex_all_lowerHex, Bool.and_true, List.all_eq_true]
  intro x hx
  rw [(List.mem_replicate.1 hx).2]
  decide

/-- the part of an operation header after the kind -/
def raceTailText (addr id : Nat) : Bytes :=
  b!" at 0x" ++ (hex12 addr ++ (b!" by goroutine " ++ (natToDec id ++ b!":")))

theorem raceOpHeader_eq (first : Bool) (op : RaceOp) :
    raceOpHeader first op =
      (if first then (if op.write then b!"Write" else b!"Read")
       else (if op.write then b!"Previous write" else b!"Previous read")) ++ raceTailText op.addr op.id := by
  simp only [raceOpHeader, raceTailText, List.append_assoc]

theorem raceOpTail_print (addr id : Nat) :
    raceOpTail (raceTailText addr id) = some (b!"0x" ++ hex12 addr, natToDec id) := by
  unfold raceOpTail raceTailText
  simp only [Option.bind_eq_bind, stripPrefix_append, Option.bind_some, span1_natToDec id b!":" rfl,
    span1_stop isLowerHex _ (b!" by goroutine " ++ _) (hex12_ne_nil addr) (hex12_all_lowerHex addr) rfl]
  rfl

theorem matchRaceOp_print (w : Bool) (addr id : Nat) :
    matchRaceOp ((if w then b!"Write" else b!"Read") ++ raceTailText addr id) =
      some ((if w then b!"Write" else b!"Read"), b!"0x" ++ hex12 addr, natToDec id) := by
  unfold matchRaceOp
  cases w with
  | false =>
    simp only [Bool.false_eq_true, if_false, stripPrefix_append, raceOpTail_print, Option.map_some]
  | true =>
    have hno : stripPrefix b!"Read" (b!"Write" ++ raceTailText addr id) = none :=
      stripPrefix_cons_ne 87 82 _ _ (by decide)
    simp only [if_true, hno, stripPrefix_append, raceOpTail_print, Option.map_some]

theorem matchRacePrev_print (w : Bool) (addr id : Nat) :
    matchRacePrev ((if w then b!"Previous write" else b!"Previous read") ++ raceTailText addr id) =
      some ((if w then b!"write" else b!"read"), b!"0x" ++ hex12 addr, natToDec id) := by
  unfold matchRacePrev
  cases w with
  | false =>
    simp only [Bool.false_eq_true, if_false, stripPrefix_append, raceOpTail_print, Option.map_some]
  | true =>
    have hno : stripPrefix b!"Previous read" (b!"Previous write" ++ raceTailText addr id) = none := rfl
    simp only [if_true, hno, stripPrefix_append, raceOpTail_print, Option.map_some]

theorem parseRaceOp_ok (kind word : Bytes) (addr id : Nat) (ha : addr < 2 ^ 64) (hi : id < 10 ^ 18) :
    parseRaceOp (some (kind, b!"0x" ++ hex12 addr, natToDec id)) word = some (.ok (kind == word, addr, id)) := by
  unfold parseRaceOp
  simp only [hex12_eq, parseUint0_hex_padded _ addr ha, atou_natToDec id hi]

/-- the header of the first operation, seen by `reRaceOperationHeader` -/
theorem raceOp_print (op : RaceOp) (ha : op.addr < 2 ^ 64) (hi : op.id < 10 ^ 18) :
    parseRaceOp (matchRaceOp (raceOpHeader true op)) Extracted.writeCap = some (.ok (op.write, op.addr, op.id)) := by
  rw [raceOpHeader_eq]
  simp only [if_true]
  rw [matchRaceOp_print, parseRaceOp_ok _ _ _ _ ha hi]
  cases op.write <;> rfl

/-- the header of a later operation, seen by `reRacePreviousOperationHeader` -/
theorem racePrev_print (op : RaceOp) (ha : op.addr < 2 ^ 64) (hi : op.id < 10 ^ 18) :
    parseRaceOp (matchRacePrev (raceOpHeader false op)) Extracted.writeLow = some (.ok (op.write, op.addr, op.id)) := by
  rw [raceOpHeader_eq]
  simp only [Bool.false_eq_true, if_false]
  rw [matchRacePrev_print, parseRaceOp_ok _ _ _ _ ha hi]
  cases op.write <;> rfl

def raceStateText (finished : Bool) : Bytes := if finished then b!"finished" else b!"running"

theorem raceGorHeader_eq (g : RaceGor) :
    raceGorHeader g = b!"Goroutine " ++ (natToDec g.id ++
      ((if g.finished then b!" (finished)" else b!" (running)") ++ b!" created at:")) := by
  simp only [raceGorHeader, List.append_assoc]

theorem matchRaceGoroutine_print (g : RaceGor) :
    matchRaceGoroutine (raceGorHeader g) = some (natToDec g.id, raceStateText g.finished) := by
  rw [raceGorHeader_eq]
  unfold matchRaceGoroutine
  cases g.finished
  · simp only [Option.bind_eq_bind, stripPrefix_append, Option.bind_some, Bool.false_eq_true, if_false,
      span1_natToDec _ (b!" (running)" ++ _) rfl]
    rfl
  · simp only [Option.bind_eq_bind, stripPrefix_append, Option.bind_some, if_true,
      span1_natToDec _ (b!" (finished)" ++ _) rfl]
    rfl

theorem raceGor_print (g : RaceGor) (hi : g.id < 10 ^ 18) :
    (matchRaceGoroutine (raceGorHeader g)).map (fun (d, st) => (atou d, st)) =
      some (some g.id, raceStateText g.finished) := by
  rw [matchRaceGoroutine_print]
  simp [atou_natToDec g.id hi]

theorem matchRacePrev_gor (g : RaceGor) : matchRacePrev (raceGorHeader g) = none := by
  rw [raceGorHeader_eq]
  unfold matchRacePrev
  have h1 : ∀ t, stripPrefix b!"Previous read" (b!"Goroutine " ++ t) = none :=
    fun t => stripPrefix_cons_ne 71 80 _ _ (by decide)
  have h2 : ∀ t, stripPrefix b!"Previous write" (b!"Goroutine " ++ t) = none :=
    fun t => stripPrefix_cons_ne 71 80 _ _ (by decide)
  simp only [h1, h2]

structure RaceFrameOK (f : FrameSpec) : Prop where
  ok : FrameOK raceCfg f false false
  inl : f.inlined = false

theorem raceFrameWF_ok (f : FrameSpec) (h : raceFrameWF f = true) : RaceFrameOK f := by
  simp only [raceFrameWF, Bool.and_eq_true, Bool.not_eq_true'] at h
  exact ⟨frameWF_ok raceCfg f false false h.1, h.2⟩

/-- the function line of a race frame: two spaces, then the function line of a dump -/
def raceFuncLine (f : FrameSpec) : Bytes := b!"  " ++ funcLine f

/-- the file line of a race frame: six spaces, the file, the position -/
def raceFileLine (f : FrameSpec) : Bytes := List.replicate 6 32 ++ (f.file ++ tailText f.line f.off none)

theorem raceFrameLines_eq (f : FrameSpec) (hin : f.inlined = false) :
    raceFrameLines f = [raceFuncLine f, raceFileLine f] := by
  simp [raceFrameLines, raceFuncLine, raceFileLine, funcLine, hin, tailText, fpText]

theorem trimLeftSpace_raceFunc (f : FrameSpec) (hs : SymOK f false) :
    trimLeftSpace (raceFuncLine f) = funcLine f := by
  obtain ⟨c, t, hsym, hb⟩ := hs.head
  unfold raceFuncLine
  rw [funcLine_eq, hsym]
  show List.dropWhile isBlank (32 :: 32 :: (c :: t ++ _)) = _
  have h32 : isBlank 32 = true := by decide
  simp only [List.cons_append, List.dropWhile_cons, h32, if_true, hb, Bool.false_eq_true, if_false]

theorem raceFuncLine_ne_nil (f : FrameSpec) : raceFuncLine f ≠ [] := by simp [raceFuncLine]

theorem raceFuncLine_last (f : FrameSpec) : (raceFuncLine f).getLast? = some 41 := by
  unfold raceFuncLine
  rw [getLast?_append_ne_nil _ _ (funcLine_ne_nil f), funcLine_last]

theorem raceFuncLine_funcL (f : FrameSpec) (hf : RaceFrameOK f) :
    parseFunc (trimLeftSpace (raceFuncLine f)) = some (preCall f, none) := by
  rw [trimLeftSpace_raceFunc f hf.ok.sym]
  exact parseFunc_print f hf.ok.sym (hf.ok.args rfl)

theorem raceFileLine_file (f : FrameSpec) (hf : RaceFrameOK f) :
    parseFile (raceFileLine f) = some (some (f.file, f.line)) :=
  parseFile_print (List.replicate (5 + 1) 32) f.file (FileIndentOK.spaces 5) hf.ok.file.path hf.ok.file.sp
    f.line hf.ok.line f.off none

theorem raceFileLine_last (f : FrameSpec) : (raceFileLine f).getLast? ≠ some 13 :=
  fileLine_last _ _ _ _ _

/-- a race goroutine under construction -/
def buildRG (op : RaceOp) (first : Bool) (state : Bytes) (calls created : List Call) : Goroutine :=
  { id := op.id, first := first, raceWrite := op.write, raceAddr := op.addr,
    sig := { state := state, stack := { calls := calls }, createdBy := { calls := created } } }

section
variable (gi : Nat) (t : Bytes) (op : RaceOp) (first : Bool)

theorem scan_race_sep (hh : parseHeader t = none) (hs : (t == Extracted.raceHeaderFooter) = true) :
    scan ⟨.looking, [], gi, []⟩ (lineOf t) = .ok (⟨.gotRaceHeader1, [], gi, []⟩, true, none) := by
  rw [scan_looking rfl rfl rfl]
  simp only [lineOf, hh, hs, if_true]

theorem scan_race_warn (hw : (t == Extracted.raceHeader) = true) :
    scan ⟨.gotRaceHeader1, [], gi, []⟩ (lineOf t) = .ok (⟨.gotRaceHeader2, [], gi, []⟩, true, none) := by
  rw [scan_gotRaceHeader1 rfl rfl]
  simp only [lineOf, hw, if_true]

theorem scan_race_op
    (ho : parseRaceOp (matchRaceOp t) Extracted.writeCap = some (.ok (op.write, op.addr, op.id))) :
    scan ⟨.gotRaceHeader2, [], gi, []⟩ (lineOf t) =
      .ok (⟨.gotRaceOperationHeader, [] ++ [buildRG op true [] [] []], 0, []⟩, true, none) := by
  rw [scan_gotRaceHeader2 rfl rfl]
  simp only [lineOf, ho]
  rfl

theorem scan_race_op_func (pre : List Goroutine) (cs : List Call) (c : Call) (st : St)
    (hst : st = .gotRaceOperationHeader ∨ (st = .gotRaceOperationFile ∧ t ≠ []))
    (hf : parseFunc (trimLeftSpace t) = some (c, none)) :
    scan ⟨st, pre ++ [buildRG op first [] cs []], gi, []⟩ (lineOf t) =
      .ok (⟨.gotRaceOperationFunc, pre ++ [buildRG op first [] (cs ++ [c]) []], gi, []⟩, true, none) := by
  rcases hst with h | ⟨h, hne⟩ <;> subst h
  · rw [scan_gotRaceOperationHeader rfl rfl]
    simp only [lineOf, hf]
    rw [funcStep_snoc rfl]
    rfl
  · rw [scan_gotRaceOperationFile rfl rfl]
    simp only [lineOf, hf, List.isEmpty_iff, hne, if_false]
    rw [funcStep_snoc rfl]
    rfl

theorem scan_race_op_file (pre : List Goroutine) (cs : List Call) (c : Call) (pl : Bytes × Nat)
    (hf : parseFile t = some (some pl)) :
    scan ⟨.gotRaceOperationFunc, pre ++ [buildRG op first [] (cs ++ [c]) []], gi, []⟩ (lineOf t) =
      .ok (⟨.gotRaceOperationFile, pre ++ [buildRG op first [] (cs ++ [c.init pl.1 pl.2]) []], gi, []⟩, true, none) := by
  rw [scan_gotRaceOperationFunc rfl rfl, fileStep_snoc rfl rfl hf]
  rfl

theorem scan_race_op_blank (gs : List Goroutine) :
    scan ⟨.gotRaceOperationFile, gs, gi, []⟩ (lineOf []) = .ok (⟨.betweenRaceOperations, gs, gi, []⟩, true, none) := by
  rw [scan_gotRaceOperationFile rfl rfl]
  rfl

theorem scan_race_prev (gs : List Goroutine)
    (ho : parseRaceOp (matchRacePrev t) Extracted.writeLow = some (.ok (op.write, op.addr, op.id))) :
    scan ⟨.betweenRaceOperations, gs, gi, []⟩ (lineOf t) =
      .ok (⟨.gotRaceOperationHeader, gs ++ [buildRG op false [] [] []], gs.length, []⟩, true, none) := by
  rw [scan_betweenRaceOperations rfl rfl]
  simp only [lineOf, ho]
  rfl

theorem scan_race_gor_func (pre post : List Goroutine) (stt : Bytes) (stk cs : List Call) (c : Call) (st : St)
    (hst : st = .gotRaceGoroutineHeader ∨
      (st = .gotRaceGoroutineFile ∧ t ≠ [] ∧ (t == Extracted.raceHeaderFooter) = false))
    (hf : parseFunc (trimLeftSpace t) = some (c, none)) :
    scan ⟨st, pre ++ buildRG op first stt stk cs :: post, pre.length, []⟩ (lineOf t) =
      .ok (⟨.gotRaceGoroutineFunc, pre ++ buildRG op first stt stk (cs ++ [c]) :: post, pre.length, []⟩, true, none) := by
  rcases hst with h | ⟨h, hne, hs⟩ <;> subst h
  · rw [scan_gotRaceGoroutineHeader rfl rfl, raceFuncStep]
    simp only [lineOf, hf, modifyAt_append_cons]
    rfl
  · rw [scan_gotRaceGoroutineFile rfl rfl, raceFuncStep]
    simp only [lineOf, hf, hs, List.isEmpty_iff, hne, Bool.false_eq_true, if_false, modifyAt_append_cons]
    rfl

theorem scan_race_gor_file (pre post : List Goroutine) (stt : Bytes) (stk cs : List Call) (c : Call)
    (pl : Bytes × Nat) (hf : parseFile t = some (some pl)) :
    scan ⟨.gotRaceGoroutineFunc, pre ++ buildRG op first stt stk (cs ++ [c]) :: post, pre.length, []⟩ (lineOf t) =
      .ok (⟨.gotRaceGoroutineFile, pre ++ buildRG op first stt stk (cs ++ [c.init pl.1 pl.2]) :: post, pre.length, []⟩, true, none) := by
  rw [scan_gotRaceGoroutineFunc rfl rfl]
  simp [lineOf, hf, setCreated, buildRG, initLast_snoc]

theorem scan_race_gor_blank (gs : List Goroutine) :
    scan ⟨.gotRaceGoroutineFile, gs, gi, []⟩ (lineOf []) = .ok (⟨.betweenRaceGoroutines, gs, gi, []⟩, true, none) := by
  rw [scan_gotRaceGoroutineFile rfl rfl]
  rfl

theorem scan_race_end (gs : List Goroutine) (hne : t ≠ []) (hs : (t == Extracted.raceHeaderFooter) = true) :
    scan ⟨.gotRaceGoroutineFile, gs, gi, []⟩ (lineOf t) = .ok (⟨.done, gs, gi, []⟩, true, none) := by
  rw [scan_gotRaceGoroutineFile rfl rfl]
  simp only [lineOf, hs, List.isEmpty_iff, hne, if_false, if_true]

/-- the header of a creation section: the FIRST goroutine with that id gets the state -/
theorem scan_race_gor_header (pre post : List Goroutine) (stt0 stt : Bytes) (stk cs : List Call) (st : St)
    (hst : st = .betweenRaceOperations ∨ st = .betweenRaceGoroutines)
    (hprev : parseRaceOp (matchRacePrev t) Extracted.writeLow = none)
    (hg : (matchRaceGoroutine t).map (fun (d, st) => (atou d, st)) = some (some op.id, stt))
    (hpre : ∀ x ∈ pre, x.id ≠ op.id) :
    scan ⟨st, pre ++ buildRG op first stt0 stk cs :: post, gi, []⟩ (lineOf t) =
      .ok (⟨.gotRaceGoroutineHeader, pre ++ buildRG op first stt stk cs :: post, pre.length, []⟩, true, none) :=
  creator_lookup_sound ⟨st, pre ++ buildRG op first stt0 stk cs :: post, gi, []⟩ (lineOf t) op.id stt
    pre (buildRG op first stt0 stk cs) post hst rfl rfl (fun _ => hprev) hg rfl hpre rfl

end

/-- one line of a race report (no dump prefix is ever set) -/
theorem race_step (crlf : Bool) (s s1 : S) (t : Bytes) (hp : s.pfx = []) (hd : s.st ≠ .done)
    (hcr : t.getLast? ≠ some 13) (h : scan s (lineOf t) = .ok (s1, true, none)) :
    Steps s [t ++ eolOf crlf] s1 :=
  line_step crlf [] t s s1 hp hd (Or.inr rfl) hcr h

theorem race_op_frame_steps (crlf : Bool) (f : FrameSpec) (hf : RaceFrameOK f)
    (pre : List Goroutine) (gi : Nat) (op : RaceOp) (first : Bool) (cs : List Call) (st : St)
    (hst : st = .gotRaceOperationHeader ∨ st = .gotRaceOperationFile) :
    Steps ⟨st, pre ++ [buildRG op first [] cs []], gi, []⟩
      ((raceFrameLines f).map (· ++ eolOf crlf))
      ⟨.gotRaceOperationFile, pre ++ [buildRG op first [] (cs ++ [expCall f none true]) []], gi, []⟩ := by
  rw [raceFrameLines_eq f hf.inl]
  refine Steps.append (s1 := ⟨.gotRaceOperationFunc, pre ++ [buildRG op first [] (cs ++ [preCall f]) []], gi, []⟩)
    (race_step crlf _ _ (raceFuncLine f) rfl ?_ (by rw [raceFuncLine_last]; simp) ?_)
    (race_step crlf _ _ (raceFileLine f) rfl (by simp) (raceFileLine_last f) ?_)
  · rcases hst with h | h <;> rw [h] <;> simp
  · exact scan_race_op_func gi _ op first pre cs _ st (hst.imp_right fun h => ⟨h, raceFuncLine_ne_nil f⟩)
      (raceFuncLine_funcL f hf)
  · rw [scan_race_op_file gi _ op first pre cs (preCall f) (f.file, f.line) (raceFileLine_file f hf),
      preCall_init f (pathOK_ne_nil hf.ok.file.path)]

theorem race_op_stack_steps (crlf : Bool) (fs : List FrameSpec) (hne : fs ≠ []) (hfs : ∀ f ∈ fs, RaceFrameOK f)
    (pre : List Goroutine) (gi : Nat) (op : RaceOp) (first : Bool) :
    Steps ⟨.gotRaceOperationHeader, pre ++ [buildRG op first [] [] []], gi, []⟩
      ((fs.flatMap raceFrameLines).map (· ++ eolOf crlf))
      ⟨.gotRaceOperationFile, pre ++ [buildRG op first [] (fs.map (fun f => expCall f none true)) []], gi, []⟩ := by
  rw [List.map_flatMap]
  exact Steps.flatMap_first (fun cs => ⟨.gotRaceOperationHeader, pre ++ [buildRG op first [] cs []], gi, []⟩)
    (fun cs => ⟨.gotRaceOperationFile, pre ++ [buildRG op first [] cs []], gi, []⟩) _ _ fs hne
    (fun f hf cs => race_op_frame_steps crlf f (hfs f hf) pre gi op first cs _ (Or.inl rfl))
    (fun f hf cs => race_op_frame_steps crlf f (hfs f hf) pre gi op first cs _ (Or.inr rfl)) []

theorem race_gor_frame_steps (crlf : Bool) (f : FrameSpec) (hf : RaceFrameOK f)
    (pre post : List Goroutine) (op : RaceOp) (first : Bool) (stt : Bytes) (stk cs : List Call) (st : St)
    (hst : st = .gotRaceGoroutineHeader ∨ st = .gotRaceGoroutineFile) :
    Steps ⟨st, pre ++ buildRG op first stt stk cs :: post, pre.length, []⟩
      ((raceFrameLines f).map (· ++ eolOf crlf))
      ⟨.gotRaceGoroutineFile, pre ++ buildRG op first stt stk (cs ++ [expCall f none true]) :: post, pre.length, []⟩ := by
  rw [raceFrameLines_eq f hf.inl]
  refine Steps.append
    (s1 := ⟨.gotRaceGoroutineFunc, pre ++ buildRG op first stt stk (cs ++ [preCall f]) :: post, pre.length, []⟩)
    (race_step crlf _ _ (raceFuncLine f) rfl ?_ (by rw [raceFuncLine_last]; simp) ?_)
    (race_step crlf _ _ (raceFileLine f) rfl (by simp) (raceFileLine_last f) ?_)
  · rcases hst with h | h <;> rw [h] <;> simp
  · exact scan_race_gor_func _ op first pre post stt stk cs _ st
      (hst.imp_right fun h => ⟨h, raceFuncLine_ne_nil f, by simp [raceFuncLine, Extracted.raceHeaderFooter]⟩) (raceFuncLine_funcL f hf)
  · rw [scan_race_gor_file _ op first pre post stt stk cs (preCall f) (f.file, f.line) (raceFileLine_file f hf),
      preCall_init f (pathOK_ne_nil hf.ok.file.path)]

theorem race_gor_stack_steps (crlf : Bool) (fs : List FrameSpec) (hne : fs ≠ []) (hfs : ∀ f ∈ fs, RaceFrameOK f)
    (pre post : List Goroutine) (op : RaceOp) (first : Bool) (stt : Bytes) (stk cs : List Call) :
    Steps ⟨.gotRaceGoroutineHeader, pre ++ buildRG op first stt stk cs :: post, pre.length, []⟩
      ((fs.flatMap raceFrameLines).map (· ++ eolOf crlf))
      ⟨.gotRaceGoroutineFile, pre ++ buildRG op first stt stk (cs ++ fs.map (fun f => expCall f none true)) :: post,
        pre.length, []⟩ := by
  rw [List.map_flatMap]
  exact Steps.flatMap_first
    (fun cs => ⟨.gotRaceGoroutineHeader, pre ++ buildRG op first stt stk cs :: post, pre.length, []⟩)
    (fun cs => ⟨.gotRaceGoroutineFile, pre ++ buildRG op first stt stk cs :: post, pre.length, []⟩) _ _ fs hne
    (fun f hf cs => race_gor_frame_steps crlf f (hfs f hf) pre post op first stt stk cs _ (Or.inl rfl))
    (fun f hf cs => race_gor_frame_steps crlf f (hfs f hf) pre post op first stt stk cs _ (Or.inr rfl)) cs

structure RaceOpOK (op : RaceOp) : Prop where
  id : op.id < 10 ^ 18
  addr : op.addr < 2 ^ 64
  ne : op.frames ≠ []
  frames : ∀ f ∈ op.frames, RaceFrameOK f

theorem raceOpWF_ok (op : RaceOp) (h : raceOpWF op = true) : RaceOpOK op := by
  simp only [raceOpWF, Bool.and_eq_true, decide_eq_true_eq, List.all_eq_true, Bool.not_eq_true'] at h
  obtain ⟨⟨⟨h1, h2⟩, h3⟩, h4⟩ := h
  refine ⟨h1, h2, ?_, fun f hf => raceFrameWF_ok f (h4 f hf)⟩
  intro he; rw [he] at h3; simp at h3

/-- the goroutine of an operation whose frames have been read -/
def opG (op : RaceOp) (first : Bool) : Goroutine :=
  buildRG op first [] (op.frames.map (fun f => expCall f none true)) []

theorem raceOpHeader_last (first : Bool) (op : RaceOp) : (raceOpHeader first op).getLast? = some 58 := by
  unfold raceOpHeader
  exact List.getLast?_concat

theorem race_first_op_steps (crlf : Bool) (op : RaceOp) (hop : RaceOpOK op) (gi : Nat) :
    Steps ⟨.gotRaceHeader2, [], gi, []⟩ ((raceOpLines true op).map (· ++ eolOf crlf))
      ⟨.gotRaceOperationFile, [opG op true], 0, []⟩ := by
  have h1 : Steps ⟨.gotRaceHeader2, [], gi, []⟩ [raceOpHeader true op ++ eolOf crlf]
      ⟨.gotRaceOperationHeader, [] ++ [buildRG op true [] [] []], 0, []⟩ := by
    refine race_step crlf _ _ _ rfl (by simp) (by rw [raceOpHeader_last]; simp) ?_
    exact scan_race_op gi _ op (raceOp_print op hop.addr hop.id)
  have h2 := race_op_stack_steps crlf op.frames hop.ne hop.frames [] 0 op true
  simpa [raceOpLines, opG] using Steps.append h1 h2

theorem race_next_op_steps (crlf : Bool) (op : RaceOp) (hop : RaceOpOK op) (pre : List Goroutine) (gi : Nat) :
    Steps ⟨.gotRaceOperationFile, pre, gi, []⟩ ((raceOpLines false op).map (· ++ eolOf crlf))
      ⟨.gotRaceOperationFile, pre ++ [opG op false], pre.length, []⟩ := by
  have h0 : Steps ⟨.gotRaceOperationFile, pre, gi, []⟩ [[] ++ eolOf crlf] ⟨.betweenRaceOperations, pre, gi, []⟩ :=
    race_step crlf _ _ _ rfl (by simp) (by simp) (scan_race_op_blank gi pre)
  have h1 : Steps ⟨.betweenRaceOperations, pre, gi, []⟩ [raceOpHeader false op ++ eolOf crlf]
      ⟨.gotRaceOperationHeader, pre ++ [buildRG op false [] [] []], pre.length, []⟩ := by
    refine race_step crlf _ _ _ rfl (by simp) (by rw [raceOpHeader_last]; simp) ?_
    exact scan_race_prev gi _ op pre (racePrev_print op hop.addr hop.id)
  have h2 := race_op_stack_steps crlf op.frames hop.ne hop.frames pre pre.length op false
  simpa [raceOpLines, opG] using Steps.append h0 (Steps.append h1 h2)

theorem race_next_ops_steps (crlf : Bool) (ops : List RaceOp) (hops : ∀ op ∈ ops, RaceOpOK op)
    (pre : List Goroutine) (gi : Nat) :
    ∃ gi', Steps ⟨.gotRaceOperationFile, pre, gi, []⟩ ((raceOpsLines false ops).map (· ++ eolOf crlf))
      ⟨.gotRaceOperationFile, pre ++ ops.map (fun op => opG op false), gi', []⟩ := by
  induction ops generalizing pre gi with
  | nil => exact ⟨gi, by simpa [raceOpsLines] using Steps.nil _⟩
  | cons op ops ih =>
    have h1 := race_next_op_steps crlf op (hops op (by simp)) pre gi
    obtain ⟨gi', h2⟩ := ih (fun x hx => hops x (by simp [hx])) (pre ++ [opG op false]) pre.length
    refine ⟨gi', ?_⟩
    simpa [raceOpsLines] using Steps.append h1 h2

/-- the operations with their `first` flag -/
def flagOps : List RaceOp → List (RaceOp × Bool)
  | [] => []
  | op :: ops => (op, true) :: ops.map (fun o => (o, false))

/-- the goroutine of an operation after the creation sections `done` have been read -/
def partG (done : List RaceGor) (x : RaceOp × Bool) : Goroutine :=
  buildRG x.1 x.2 (raceApplyGors x.1.id done ([], [])).1 (x.1.frames.map (fun f => expCall f none true))
    (raceApplyGors x.1.id done ([], [])).2

theorem partG_nil (x : RaceOp × Bool) : partG [] x = opG x.1 x.2 := rfl

theorem expectedRace_eq (r : RaceSpec) : expectedRace r = (flagOps r.ops).map (partG r.gors) := by
  unfold expectedRace
  cases r.ops with
  | nil => rfl
  | cons op ops =>
    simp only [flagOps, List.map_cons, List.map_map]
    rfl

theorem raceApplyGors_snoc (id : Nat) (gs : List RaceGor) (g : RaceGor) (acc : Bytes × List Call) :
    raceApplyGors id (gs ++ [g]) acc =
      if g.id = id then (raceStateText g.finished,
        (raceApplyGors id gs acc).2 ++ g.frames.map (fun f => expCall f none true))
      else raceApplyGors id gs acc := by
  induction gs generalizing acc with
  | nil =>
    obtain ⟨st, cs⟩ := acc
    simp only [List.nil_append, raceApplyGors, raceStateText]
  | cons a gs ih =>
    obtain ⟨st, cs⟩ := acc
    simp only [List.cons_append, raceApplyGors]
    split <;> exact ih _

theorem partG_snoc_ne (done : List RaceGor) (g : RaceGor) (x : RaceOp × Bool) (h : x.1.id ≠ g.id) :
    partG (done ++ [g]) x = partG done x := by
  unfold partG
  rw [raceApplyGors_snoc, if_neg (fun e => h e.symm)]

theorem partG_snoc_eq (done : List RaceGor) (g : RaceGor) (x : RaceOp × Bool) (h : x.1.id = g.id) :
    partG (done ++ [g]) x =
      buildRG x.1 x.2 (raceStateText g.finished) (x.1.frames.map (fun f => expCall f none true))
        ((raceApplyGors x.1.id done ([], [])).2 ++ g.frames.map (fun f => expCall f none true)) := by
  unfold partG
  rw [raceApplyGors_snoc, if_pos h.symm]

theorem partG_id (done : List RaceGor) (x : RaceOp × Bool) : (partG done x).id = x.1.id := rfl

theorem raceGorHeader_last (g : RaceGor) : (raceGorHeader g).getLast? = some 58 := by
  unfold raceGorHeader
  rw [getLast?_append_ne_nil _ _ (by decide)]
  rfl

structure RaceGorOK (g : RaceGor) : Prop where
  ne : g.frames ≠ []
  frames : ∀ f ∈ g.frames, RaceFrameOK f

theorem race_section_steps (crlf : Bool) (fl : List (RaceOp × Bool)) (hnd : (fl.map (·.1.id)).Nodup)
    (hids : ∀ x ∈ fl, x.1.id < 10 ^ 18)
    (done : List RaceGor) (g : RaceGor) (hmem : g.id ∈ fl.map (·.1.id)) (hg : RaceGorOK g)
    (st : St) (hst : st = .gotRaceOperationFile ∨ st = .gotRaceGoroutineFile) (gi : Nat) :
    ∃ gi', Steps ⟨st, fl.map (partG done), gi, []⟩ ((raceGorLines g).map (· ++ eolOf crlf))
      ⟨.gotRaceGoroutineFile, fl.map (partG (done ++ [g])), gi', []⟩ := by
  obtain ⟨x, hx, hxid⟩ := List.mem_map.1 hmem
  obtain ⟨pre, post, hfl⟩ := List.append_of_mem hx
  subst hfl
  have hidx : x.1.id < 10 ^ 18 := hids x hx
  simp only [List.map_append, List.map_cons] at hnd
  have hnd' := List.nodup_append.1 hnd
  have hpre : ∀ y ∈ pre, y.1.id ≠ x.1.id := by
    intro y hy
    exact hnd'.2.2 _ (List.mem_map.2 ⟨y, hy, rfl⟩) _ (by simp)
  have hpost : ∀ y ∈ post, y.1.id ≠ x.1.id := by
    intro y hy he
    exact (List.nodup_cons.1 hnd'.2.1).1 (List.mem_map.2 ⟨y, hy, he⟩)
  refine ⟨(pre.map (partG done)).length, ?_⟩
  simp only [List.map_append, List.map_cons]
  -- the list after the section: only the entry of `x` changes
  have e1 : pre.map (partG (done ++ [g])) = pre.map (partG done) :=
    List.map_congr_left (fun y hy => partG_snoc_ne done g y (by rw [← hxid]; exact hpre y hy))
  have e2 : post.map (partG (done ++ [g])) = post.map (partG done) :=
    List.map_congr_left (fun y hy => partG_snoc_ne done g y (by rw [← hxid]; exact hpost y hy))
  rw [e1, e2, partG_snoc_eq done g x hxid]
  -- the blank line leaves the scanner between two race sections
  have h0 : ∃ st1, (st1 = .betweenRaceOperations ∨ st1 = .betweenRaceGoroutines) ∧
      Steps ⟨st, pre.map (partG done) ++ partG done x :: post.map (partG done), gi, []⟩ [[] ++ eolOf crlf]
        ⟨st1, pre.map (partG done) ++ partG done x :: post.map (partG done), gi, []⟩ := by
    rcases hst with h | h
    · subst h
      exact ⟨_, Or.inl rfl, race_step crlf _ _ _ rfl (by simp) (by simp) (scan_race_op_blank gi _)⟩
    · subst h
      exact ⟨_, Or.inr rfl, race_step crlf _ _ _ rfl (by simp) (by simp) (scan_race_gor_blank gi _)⟩
  obtain ⟨st1, hst1, h0⟩ := h0
  -- the header selects `x`, at index `pre.length`, and sets its state
  have h1 : Steps ⟨st1, pre.map (partG done) ++ partG done x :: post.map (partG done), gi, []⟩
      [raceGorHeader g ++ eolOf crlf]
      ⟨.gotRaceGoroutineHeader, pre.map (partG done) ++
        buildRG x.1 x.2 (raceStateText g.finished) (x.1.frames.map (fun f => expCall f none true))
          (raceApplyGors x.1.id done ([], [])).2 :: post.map (partG done), (pre.map (partG done)).length, []⟩ := by
    refine race_step crlf _ _ _ rfl ?_ (by rw [raceGorHeader_last]; simp) ?_
    · rcases hst1 with h | h <;> rw [h] <;> simp
    · unfold partG
      refine scan_race_gor_header gi _ x.1 x.2 _ _ _ _ _ _ st1 hst1 ?_ ?_ ?_
      · rw [matchRacePrev_gor]; rfl
      · rw [raceGor_print g (by rw [← hxid]; exact hidx), hxid]
      · intro y hy
        obtain ⟨z, hz, rfl⟩ := List.mem_map.1 hy
        exact hpre z hz
  -- the frames become its creation stack
  have h2 := race_gor_stack_steps crlf g.frames hg.ne hg.frames (pre.map (partG done)) (post.map (partG done))
    x.1 x.2 (raceStateText g.finished) (x.1.frames.map (fun f => expCall f none true))
    (raceApplyGors x.1.id done ([], [])).2
  simpa [raceGorLines] using Steps.append h0 (Steps.append h1 h2)

theorem race_sections_steps (crlf : Bool) (fl : List (RaceOp × Bool)) (hnd : (fl.map (·.1.id)).Nodup)
    (hids : ∀ x ∈ fl, x.1.id < 10 ^ 18)
    (g : RaceGor) (todo : List RaceGor)
    (hgs : ∀ g' ∈ g :: todo, g'.id ∈ fl.map (·.1.id) ∧ RaceGorOK g')
    (done : List RaceGor) (st : St) (hst : st = .gotRaceOperationFile ∨ st = .gotRaceGoroutineFile) (gi : Nat) :
    ∃ gi', Steps ⟨st, fl.map (partG done), gi, []⟩ (((g :: todo).flatMap raceGorLines).map (· ++ eolOf crlf))
      ⟨.gotRaceGoroutineFile, fl.map (partG (done ++ g :: todo)), gi', []⟩ := by
  induction todo generalizing g done st gi with
  | nil => simpa using race_section_steps crlf fl hnd hids done g (hgs g (by simp)).1 (hgs g (by simp)).2 st hst gi
  | cons g2 todo ih =>
    obtain ⟨gi1, h1⟩ := race_section_steps crlf fl hnd hids done g (hgs g (by simp)).1 (hgs g (by simp)).2 st hst gi
    obtain ⟨gi2, h2⟩ := ih g2 (fun x hx => hgs x (List.mem_cons_of_mem _ hx)) (done ++ [g]) .gotRaceGoroutineFile
      (Or.inr rfl) gi1
    refine ⟨gi2, ?_⟩
    simpa [List.flatMap_cons] using Steps.append h1 h2

structure RaceOK (r : RaceSpec) : Prop where
  opsNe : r.ops ≠ []
  gorsNe : r.gors ≠ []
  ops : ∀ op ∈ r.ops, RaceOpOK op
  gors : ∀ g ∈ r.gors, g.id ∈ r.ops.map (·.id) ∧ RaceGorOK g
  nodup : (r.ops.map (·.id)).Nodup

theorem raceWF_ok (r : RaceSpec) (h : raceWF r = true) : RaceOK r := by
  simp only [raceWF, Bool.and_eq_true, decide_eq_true_eq, List.all_eq_true, Bool.not_eq_true'] at h
  obtain ⟨⟨⟨⟨h1, h2⟩, h3⟩, h4⟩, h5⟩ := h
  refine ⟨?_, ?_, fun op hop => raceOpWF_ok op (h3 op hop), ?_, h5⟩
  · intro he; rw [he] at h1; simp at h1
  · intro he; rw [he] at h2; simp at h2
  · intro g hg
    have := h4 g hg
    simp only [raceGorWF, Bool.and_eq_true, List.all_eq_true, Bool.not_eq_true', List.contains_iff_mem] at this
    obtain ⟨⟨g1, g2⟩, g3⟩ := this
    refine ⟨g1, ?_, fun f hf => raceFrameWF_ok f (g3 f hf)⟩
    intro he; rw [he] at g2; simp at g2

theorem flagOps_ids (ops : List RaceOp) : (flagOps ops).map (·.1.id) = ops.map (·.id) := by
  cases ops with
  | nil => rfl
  | cons op ops => simp [flagOps, List.map_map, Function.comp_def]

theorem flagOps_fst {ops : List RaceOp} {x : RaceOp × Bool} (h : x ∈ flagOps ops) : x.1 ∈ ops := by
  cases ops with
  | nil => simp [flagOps] at h
  | cons op ops =>
    simp only [flagOps, List.mem_cons, List.mem_map] at h
    rcases h with h | ⟨o, ho, rfl⟩
    · rw [h]; simp
    · simp [ho]

theorem race_head_steps (crlf : Bool) (gi : Nat) :
    Steps ⟨.looking, [], gi, []⟩
      ([Extracted.raceHeaderFooter, Extracted.raceHeader].map (· ++ eolOf crlf))
      ⟨.gotRaceHeader2, [], gi, []⟩ := by
  have h1 : Steps ⟨.looking, [], gi, []⟩ [Extracted.raceHeaderFooter ++ eolOf crlf] ⟨.gotRaceHeader1, [], gi, []⟩ :=
    race_step crlf _ _ _ rfl (by simp) (by decide)
      (scan_race_sep gi _ (by decide) (by decide))
  have h2 : Steps ⟨.gotRaceHeader1, [], gi, []⟩ [Extracted.raceHeader ++ eolOf crlf] ⟨.gotRaceHeader2, [], gi, []⟩ :=
    race_step crlf _ _ _ rfl (by simp) (by decide) (scan_race_warn gi _ (by decide))
  exact Steps.append h1 h2

theorem race_ops_steps (crlf : Bool) (ops : List RaceOp) (hne : ops ≠ []) (hops : ∀ op ∈ ops, RaceOpOK op)
    (gi : Nat) :
    ∃ gi', Steps ⟨.gotRaceHeader2, [], gi, []⟩ ((raceOpsLines true ops).map (· ++ eolOf crlf))
      ⟨.gotRaceOperationFile, (flagOps ops).map (partG []), gi', []⟩ := by
  cases ops with
  | nil => exact absurd rfl hne
  | cons op ops =>
    have h1 := race_first_op_steps crlf op (hops op (by simp)) gi
    obtain ⟨gi', h2⟩ := race_next_ops_steps crlf ops (fun x hx => hops x (by simp [hx])) [opG op true] 0
    refine ⟨gi', ?_⟩
    simpa [raceOpsLines, flagOps, List.map_map, Function.comp_def, partG_nil] using Steps.append h1 h2

theorem race_end_step (crlf : Bool) (gs : List Goroutine) (gi : Nat) :
    Steps ⟨.gotRaceGoroutineFile, gs, gi, []⟩ [Extracted.raceHeaderFooter ++ eolOf crlf] ⟨.done, gs, gi, []⟩ :=
  race_step crlf _ _ _ rfl (by simp) (by decide) (scan_race_end gi _ gs (by decide) (by decide))

theorem race_steps (crlf : Bool) (r : RaceSpec) (hr : RaceOK r) :
    ∃ gi, Steps ⟨.looking, [], 0, []⟩ ((raceLines r).map (· ++ eolOf crlf)) ⟨.done, expectedRace r, gi, []⟩ := by
  have h1 := race_head_steps crlf 0
  obtain ⟨gi2, h2⟩ := race_ops_steps crlf r.ops hr.opsNe hr.ops 0
  have hnd : ((flagOps r.ops).map (·.1.id)).Nodup := by rw [flagOps_ids]; exact hr.nodup
  have hids : ∀ x ∈ flagOps r.ops, x.1.id < 10 ^ 18 := fun x hx => (hr.ops _ (flagOps_fst hx)).id
  cases hg : r.gors with
  | nil => exact absurd hg hr.gorsNe
  | cons g todo =>
    have hgs : ∀ g' ∈ g :: todo, g'.id ∈ (flagOps r.ops).map (·.1.id) ∧ RaceGorOK g' := by
      intro g' hg'
      rw [flagOps_ids]
      exact hr.gors g' (by rw [hg]; exact hg')
    obtain ⟨gi3, h3⟩ := race_sections_steps crlf (flagOps r.ops) hnd hids g todo hgs [] .gotRaceOperationFile
      (Or.inl rfl) gi2
    have h4 := race_end_step crlf ((flagOps r.ops).map (partG ([] ++ g :: todo))) gi3
    refine ⟨gi3, ?_⟩
    have := Steps.append h1 (Steps.append h2 (Steps.append h3 h4))
    rw [expectedRace_eq, hg]
    unfold raceLines
    rw [hg]
    simpa using this

theorem printRace_eq_flatten (crlf : Bool) (r : RaceSpec) :
    printRace crlf r = ((raceLines r).map (· ++ eolOf crlf)).flatten := by
  unfold printRace
  rw [List.flatMap_def]
  rfl

theorem hex12_noNL (n : Nat) : noNL (hex12 n) := not_mem_of_all (hex12_all_lowerHex n) (by decide)

theorem raceOpHeader_noNL (first : Bool) (op : RaceOp) : noNL (raceOpHeader first op) := by
  unfold raceOpHeader
  split <;> split <;> simp (decide := true) only [noNL_append_iff, hex12_noNL, natToDec_noNL, and_self]

theorem raceGorHeader_noNL (g : RaceGor) : noNL (raceGorHeader g) := by
  unfold raceGorHeader
  split <;> simp (decide := true) only [noNL_append_iff, natToDec_noNL, and_self]

theorem raceFrameLines_noNL (f : FrameSpec) (hf : RaceFrameOK f) : ∀ l ∈ raceFrameLines f, noNL l := by
  intro l hl
  rw [raceFrameLines_eq f hf.inl] at hl
  simp only [List.mem_cons, List.not_mem_nil, or_false] at hl
  rcases hl with rfl | rfl
  · exact noNL_append (by decide) (funcLine_noNL f hf.ok.sym.nl)
  · exact noNL_append (by decide) (noNL_append hf.ok.file.nl (tailText_noNL _ _ _))

theorem raceFrames_noNL (fs : List FrameSpec) (hfs : ∀ f ∈ fs, RaceFrameOK f) :
    ∀ l ∈ fs.flatMap raceFrameLines, noNL l := by
  intro l hl
  obtain ⟨f, hf, hlf⟩ := List.mem_flatMap.1 hl
  exact raceFrameLines_noNL f (hfs f hf) l hlf

theorem raceOpsLines_noNL (first : Bool) (ops : List RaceOp) (hops : ∀ op ∈ ops, RaceOpOK op) :
    ∀ l ∈ raceOpsLines first ops, noNL l := by
  induction ops generalizing first with
  | nil => intro l hl; simp [raceOpsLines] at hl
  | cons op ops ih =>
    intro l hl
    simp only [raceOpsLines, raceOpLines, List.mem_append, List.mem_singleton] at hl
    rcases hl with ((hl | hl) | hl) | hl
    · cases first
      · simp at hl; rw [hl]; exact noNL_nil
      · simp at hl
    · rw [hl]; exact raceOpHeader_noNL _ _
    · exact raceFrames_noNL _ (hops op (by simp)).frames l hl
    · exact ih false (fun x hx => hops x (by simp [hx])) l hl

theorem raceLines_noNL (r : RaceSpec) (hr : RaceOK r) : ∀ l ∈ raceLines r, noNL l := by
  intro l hl
  simp only [raceLines, List.mem_append, List.mem_cons, List.not_mem_nil, or_false, List.mem_flatMap] at hl
  rcases hl with (((hl | hl) | hl) | ⟨g, hg, hl⟩) | hl
  · rw [hl]; show (10 : UInt8) ∉ _; decide
  · rw [hl]; show (10 : UInt8) ∉ _; decide
  · exact raceOpsLines_noNL true r.ops hr.ops l hl
  · simp only [raceGorLines, List.mem_append, List.mem_cons, List.not_mem_nil, or_false] at hl
    rcases hl with (hl | hl) | hl
    · rw [hl]; exact noNL_nil
    · rw [hl]; exact raceGorHeader_noNL g
    · exact raceFrames_noNL _ (hr.gors g hg).2.frames l hl
  · rw [hl]; show (10 : UInt8) ∉ _; decide

/-- what the reader yields for a printed report that runs to EOF -/
theorem specLines_race (crlf : Bool) (r : RaceSpec) (hr : RaceOK r) :
    specLines (printRace crlf r) .eof =
      ((raceLines r).map (· ++ eolOf crlf)).map (fun l => (l, none)) ++ [([], some .eof)] := by
  unfold specLines
  rw [printRace_eq_flatten, splitLines_flatten]
  intro l hl
  obtain ⟨t, ht, rfl⟩ := List.mem_map.1 hl
  exact eolLine_line crlf t (raceLines_noNL r hr t ht)

theorem race_roundtrip_aux (crlf : Bool) (r : RaceSpec) (hwf : raceWF r = true) :
    ∃ gi, scanL {} [] [] (specLines (printRace crlf r) .eof) =
      { s := ⟨.done, expectedRace r, gi, []⟩, fwd := [], consumed := (raceLines r).map (· ++ eolOf crlf),
        err := none, rest := [([], some .eof)], broke := false } := by
  have hr := raceWF_ok r hwf
  obtain ⟨gi, hsteps⟩ := race_steps crlf r hr
  refine ⟨gi, ?_⟩
  rw [specLines_race crlf r hr]
  have h0 : ({} : S) = ⟨.looking, [], 0, []⟩ := rfl
  rw [h0, scanL_steps hsteps, scanL_done _ _ _ _ rfl]
  simp

end PP.Spec
