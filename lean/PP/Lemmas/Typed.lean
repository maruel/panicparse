import PP.Lemmas.Generalise
/-
C12, the typed rendering (`Args.Processed`, produced by source analysis): `Args.merge` does not
carry it over, so a bucket can only show one when its key was never merged, i.e. when the key
is the first member's signature verbatim and every later member was `equal` to it.
-/
namespace PP

def Signature.noTyped (k : Signature) : Prop := ∀ c ∈ k.stack.calls, c.args.processed = []

theorem callsMerge_noTyped (l : Lvl) : ∀ as bs : List Call, callsSimilar l as bs = true →
    ∀ c ∈ callsMerge as bs, c.args.processed = [] :=
  callsSimilar_induct (by simp [callsMerge]) fun a b _ _ _ _ ih c hc => by
    simp only [callsMerge, List.mem_cons] at hc
    rcases hc with rfl | hc
    · rfl
    · exact ih c hc

/-- either the key is the first member verbatim and all later members are `equal` to it, or
the key shows no typed rendering at all -/
def TypedInv (k : Signature) (ms : List Signature) : Prop :=
  (∃ m₀ rest, ms = m₀ :: rest ∧ k = m₀ ∧ ∀ m ∈ rest, Signature.equal k m = true) ∨ k.noTyped

theorem TypedInv.single (s : Signature) : TypedInv s [s] :=
  .inl ⟨s, [], rfl, rfl, by simp⟩

theorem TypedInv.snoc_equal {k r : Signature} {ms : List Signature} (h : TypedInv k ms)
    (he : Signature.equal k r = true) : TypedInv k (ms ++ [r]) := by
  rcases h with ⟨m₀, rest, e, hk, hall⟩ | h
  · refine .inl ⟨m₀, rest ++ [r], by simp [e], hk, ?_⟩
    intro m hm
    simp only [List.mem_append, List.mem_singleton] at hm
    rcases hm with hm | rfl
    · exact hall m hm
    · exact he
  · exact .inr h

theorem Filed.typed {l : Lvl} {b : Bkt} {ms : List Goroutine} (h : Filed l b ms) :
    TypedInv b.key (ms.map (·.sig)) := by
  induction h with
  | new i g => exact TypedInv.single g.sig
  | upd g _ hs ih =>
    rw [List.map_append]
    simp only [Bkt.upd]
    split
    · rename_i he; exact ih.snoc_equal he
    · exact .inr (callsMerge_noTyped l _ _ (Signature.similar_calls hs))

theorem bucket_typed {π : Oracle} (hπ : ValidOracle π) (l : Lvl) (gs : List Goroutine)
    (hnd : (gs.map (·.id)).Nodup) :
    ∀ b ∈ aggregateWith π l gs, TypedInv b.sig ((b.members gs).map (·.sig)) := by
  intro b hb
  obtain ⟨k, hk, rfl⟩ := (mem_aggregateWith hπ l gs b).1 hb
  obtain ⟨ms, hsub, hf⟩ := bucketLoop_filed hπ l gs k hk
  rw [members_toBucket hf hsub hnd]
  exact hf.typed

end PP
