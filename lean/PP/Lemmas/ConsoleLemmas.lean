import PP.Spec.Console
/-
Lemmas for C16: the write loop as a list of blocks, the filter split, the elision
marker, and the renderers without colours.
-/
namespace PP.Console
open PP PP.Bytes

theorem admitted_eq (filter mtch : Option (Bytes → Bool)) (h : Bytes) :
    admitted filter mtch h = (!filterHit filter h && !matchMiss mtch h) := by
  cases filter <;> cases mtch <;> simp [admitted, filterHit, matchMiss]

theorem writeLoop_eq_render {α : Type} (hdr body : α → Bytes) (filter mtch : Option (Bytes → Bool))
    (xs : List α) : writeLoop hdr body filter mtch xs = render (blocksOf hdr body filter mtch xs) := by
  induction xs with
  | nil => simp [writeLoop, render, blocksOf]
  | cons e rest ih =>
    have ih' : writeLoop hdr body filter mtch rest
        = List.flatMap (fun b => b.1 ++ b.2)
            (List.map (fun e => (hdr e, body e)) (List.filter (fun e => admitted filter mtch (hdr e)) rest)) := by
      simpa [render, blocksOf] using ih
    simp only [writeLoop, render, blocksOf, List.filter_cons, admitted_eq]
    cases h1 : filterHit filter (hdr e) <;> cases h2 : matchMiss mtch (hdr e) <;>
      simp [ih', admitted_eq]

theorem blocksOf_none {α : Type} (hdr body : α → Bytes) (xs : List α) :
    blocksOf hdr body none none xs = xs.map fun e => (hdr e, body e) := by
  simp [blocksOf, admitted, List.filter_eq_self.2]

theorem blocksOf_filter {α : Type} (hdr body : α → Bytes) (q : Bytes → Bool) (xs : List α) :
    blocksOf hdr body (some q) none xs = (blocksOf hdr body none none xs).filter fun b => !q b.1 := by
  simp [blocksOf, admitted, List.filter_map, Function.comp_def]

theorem blocksOf_match {α : Type} (hdr body : α → Bytes) (q : Bytes → Bool) (xs : List α) :
    blocksOf hdr body none (some q) xs = (blocksOf hdr body none none xs).filter fun b => q b.1 := by
  simp [blocksOf, admitted, List.filter_map, Function.comp_def]

theorem blocksOf_split {α : Type} (hdr body : α → Bytes) (q : Bytes → Bool) (xs : List α) :
    let all := blocksOf hdr body none none xs
    let a := blocksOf hdr body (some q) none xs
    let b := blocksOf hdr body none (some q) xs
    a = all.filter (fun blk => !q blk.1) ∧ b = all.filter (fun blk => q blk.1) ∧
    all.Perm (a ++ b) ∧ a.length + b.length = all.length ∧
    a.Sublist all ∧ b.Sublist all ∧ (∀ x, x ∈ a → x ∉ b) := by
  intro all a b
  have ha : a = all.filter (fun blk => !q blk.1) := blocksOf_filter _ _ q xs
  have hb : b = all.filter (fun blk => q blk.1) := blocksOf_match _ _ q xs
  rw [ha, hb]
  have hp : all.Perm (all.filter (fun blk => !q blk.1) ++ all.filter (fun blk => q blk.1)) :=
    (List.perm_append_comm.trans (List.filter_append_perm _ all)).symm
  refine ⟨rfl, rfl, hp, (List.length_append ▸ hp.length_eq).symm,
    List.filter_sublist, List.filter_sublist, fun x hxa hxb => ?_⟩
  have h1 := (List.mem_filter.1 hxa).2
  rw [(List.mem_filter.1 hxb).2] at h1
  cases h1

theorem colon_mem_pathLine (path : Bytes) (n : Nat) : (58 : UInt8) ∈ pathLine path n := by
  simp [pathLine]

theorem colon_mem_formatCall (pf : PathFormat) (c : Call) : (58 : UInt8) ∈ formatCall pf c := by
  unfold formatCall
  cases pf <;> simp only <;> repeat' split
  all_goals exact colon_mem_pathLine _ _

theorem colon_mem_fmtPadRight (w : Nat) (s : Bytes) (h : (58 : UInt8) ∈ s) : (58 : UInt8) ∈ fmtPadRight w s := by
  unfold fmtPadRight padRight
  split <;> simp [h]

theorem colon_mem_callLine (p : Palette) (c : Call) (srcLen pkgLen : Nat) (pf : PathFormat) :
    (58 : UInt8) ∈ callLine p c srcLen pkgLen pf := by
  have h := colon_mem_fmtPadRight srcLen _ (colon_mem_formatCall pf c)
  simp only [callLine, List.mem_append]
  simp [h]

theorem callLine_ne_elidedLine (p : Palette) (c : Call) (srcLen pkgLen : Nat) (pf : PathFormat) :
    callLine p c srcLen pkgLen pf ≠ elidedLine := by
  intro h
  have := colon_mem_callLine p c srcLen pkgLen pf
  rw [h] at this
  revert this
  decide

theorem ite_append_self {α : Type} (c : Prop) [Decidable c] (a b : List α) :
    (if c then a ++ b else a) = a ++ if c then b else [] := by
  split
  · rfl
  · exact (List.append_nil a).symm

theorem ite_append_left {α : Type} (c : Prop) [Decidable c] (a x y : List α) :
    (if c then a ++ x else a ++ y) = a ++ if c then x else y := (apply_ite (a ++ ·) c x y).symm

theorem funcColor_empty (l : Loc) (main exported : Bool) : funcColor emptyPalette l main exported = [] := by
  cases l <;> simp only [funcColor, emptyPalette, ite_self]

/-- each `if` of `headerExtra` appends to what the ones before it built -/
theorem headerExtra_empty (s : Signature) (pf : PathFormat) :
    headerExtra emptyPalette s pf =
      (if sleepString s ≠ [] then b!" [" ++ sleepString s ++ b!"]" else [])
        ++ (if s.locked then b!" [locked]" else [])
        ++ (if createdByString pf s ≠ [] then b!" [Created by " ++ createdByString pf s ++ b!"]" else []) := by
  simp only [headerExtra, emptyPalette, List.append_assoc, List.nil_append, ite_append_left, ite_append_self]

end PP.Console
