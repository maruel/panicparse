import PP.Spec.Grammar
import PP.Lemmas.LoopLemmas
import PP.Lemmas.ScanInv
import PP.Lemmas.ScanGs
/-
Lemmas for the grammar sections (5–7) of C07: canonical lines, and `scan` simulates the reference
automaton of `PP/Spec/Grammar.lean` on canonical lines.  (That the automaton recognises exactly
the grammar is `PP/Lemmas/GrammarDfa.lean`.)
-/
namespace PP
namespace Spec

/-! ### canonical lines -/

def payloadOf (l : Line) : Payload :=
  { hdr := l.header.getD ⟨[], 0, [], 0, false⟩
    c := (l.func.map Prod.fst).getD {}
    cL := (l.funcL.map Prod.fst).getD {}
    pl := (l.file.bind id).getD ([], 0)
    f := match l.created with | some (.ok f) => f | _ => {}
    op := match l.raceOp with | some (.ok v) => v | _ => (false, 0, 0)
    prev := match l.racePrev with | some (.ok v) => v | _ => (false, 0, 0)
    gid := match l.raceGor with | some (some i, _) => i | _ => 0
    gst := match l.raceGor with | some (_, s) => s | _ => [] }

/-- An option whose image under `f` is `some b` exactly when `c` holds is itself `some` exactly
when `c` holds; `x` is any expression that gives its content when it has one. -/
theorem eq_ite_of_map {α β : Type} {o : Option α} {f : α → β} {c : Prop} [Decidable c] {b : β} {x : α}
    (h : o.map f = if c then some b else none) (hx : ∀ a, o = some a → f a = b → x = a) :
    o = if c then some x else none := by
  by_cases hc : c
  · rw [if_pos hc] at h ⊢
    cases o with
    | none => cases h
    | some a => rw [hx a rfl (Option.some.inj h)]
  · rw [if_neg hc] at h ⊢
    cases o with
    | none => rfl
    | some a => cases h

theorem eq_ite_of_isSome {α : Type} {o : Option α} {c : Prop} [Decidable c] (d : α)
    (h : o.isSome = decide c) : o = if c then some (o.getD d) else none := by
  by_cases hc : c
  · rw [if_pos hc]
    cases o with
    | none => simp [hc] at h
    | some a => rfl
  · rw [if_neg hc]
    cases o with
    | none => rfl
    | some a => simp [hc] at h

theorem isKind_canon {k : Kind} {l : Line} (h : l.isKind k) : l = canon k (payloadOf l) := by
  obtain ⟨h1, h2, h3, h4, h5, h6, h7, h8, h9, h10, h11, h12, h13, h14, h15⟩ := h
  obtain ⟨a1, a2, a3, a4, a5, a6, a7, a8, a9, a10, a11, a12, a13, a14, a15⟩ := l
  simp only at h1 h2 h3 h4 h5 h6 h7 h8 h9 h10 h11 h12 h13 h14 h15
  subst h1 h2 h3 h5 h6 h7 h12
  simp only [canon, payloadOf, Line.mk.injEq, true_and]
  refine ⟨eq_ite_of_isSome _ h4, eq_ite_of_map h8 ?_, eq_ite_of_map h9 ?_, eq_ite_of_map h10 ?_,
    eq_ite_of_map h11 ?_, eq_ite_of_map h13 ?_, eq_ite_of_map h14 ?_, eq_ite_of_map h15 ?_⟩
  · rintro ⟨_, _⟩ rfl ⟨⟩; rfl
  · rintro ⟨_, _⟩ rfl ⟨⟩; rfl
  · rintro (_ | _) rfl ⟨⟩; rfl
  · rintro (_ | _) rfl ⟨⟩; rfl
  · rintro (_ | _) rfl ⟨⟩; rfl
  · rintro (_ | _) rfl ⟨⟩; rfl
  · rintro ⟨_ | _, _⟩ rfl ⟨⟩; rfl

theorem canon_isKind (k : Kind) (p : Payload) : (canon k p).isKind k where
  hasEOL := rfl
  indentOK := rfl
  empty := rfl
  header := by by_cases h : k = .header <;> simp [canon, h]
  sep := rfl
  warn := rfl
  unavail := rfl
  func := Option.map_if
  funcL := Option.map_if
  file := Option.map_if
  created := Option.map_if
  elidedMark := rfl
  raceOp := Option.map_if
  racePrev := Option.map_if
  raceGor := Option.map_if

theorem isKind_iff_canon (k : Kind) (l : Line) : l.isKind k ↔ ∃ p, l = canon k p :=
  ⟨fun h => ⟨_, isKind_canon h⟩, fun ⟨p, h⟩ => h ▸ canon_isKind k p⟩


/-! ### `scan` simulates the automaton, one line -/

/-- the automaton state a scanner state stands for (a bijection; `done` is "finished") -/
def absSt : St → GState
  | .looking => .start | .done => .fin | .betweenRoutine => .gap | .gotRoutineHeader => .hdr
  | .gotFunc => .fn | .gotCreated => .cr | .gotFileFunc => .frames | .gotFileCreated => .crf
  | .gotUnavail => .unav | .gotRaceHeader1 => .r1 | .gotRaceHeader2 => .r2
  | .gotRaceOperationHeader => .opH | .gotRaceOperationFunc => .opF | .gotRaceOperationFile => .opS
  | .betweenRaceOperations => .gapO | .gotRaceGoroutineHeader => .goH | .gotRaceGoroutineFunc => .goF
  | .gotRaceGoroutineFile => .goS | .betweenRaceGoroutines => .gapG

/-- the states in which a line that cannot continue the dump ends it cleanly.  These are the
accepting states except `unav`: directly after the "stack unavailable" line the scanner insists
on a blank line or `created by`, and reports an error on anything else (documented behaviour of
the Go code: `expected empty line after unavailable stack`). -/
def cleanEnd (q : GState) : Bool := accepting q && q != .unav

/-- how the scanner leaves a line it does not take, in a state standing for `q`
(`e` = the parse error, `st'` = the next scanner state):
* in a `cleanEnd` state the dump ends: no error, state `done`;
* before any dump (`start`), and after a lone separator (`r1`, known finding K1), the scanner
  is / goes back to `looking` without error;
* otherwise the line invalidates the dump: an error. -/
def Stopped (q : GState) (e : Option Err) (st' : St) : Prop :=
  if cleanEnd q then e = none ∧ st' = .done
  else if q = .start ∨ q = .r1 then e = none ∧ st' = .looking
  else e.isSome = true

/-- what `scan` must do on a canonical line of kind `k` in a state standing for `q`
(`b` = the line is withheld): if the automaton can take the line, it is withheld without error
and the state follows; if not, it is not withheld and the scanner stops as `Stopped` says. -/
def Outcome (q : GState) (k : Kind) (b : Bool) (e : Option Err) (st' : St) : Prop :=
  match step q k with
  | some q' => b = true ∧ e = none ∧ absSt st' = q'
  | none => b = false ∧ Stopped q e st'

/-- a race goroutine header names a goroutine that an operation header declared -/
def GorKnown (s : S) (l : Line) : Prop :=
  ∀ id stt, l.raceGor = some (some id, stt) → (s.gs.findIdx? (fun g => g.id == id)).isSome = true

set_option hygiene false in
macro "sim_tac" hs:ident h:ident : tactic => `(tactic| (
  rw [$hs:ident]
  unfold scan at $h:ident
  cases ‹Kind› <;> simp [$hs:ident, canon, funcStep, createdStep, curAppendCall, needLastCall, needCreated0] at $h:ident
  all_goals (repeat' (split at $h:ident))
  all_goals (try simp at $h:ident)
  all_goals (try obtain ⟨rfl, rfl, rfl⟩ := $h:ident)
  all_goals (try simp [Outcome, Stopped, absSt, step, accepting, acceptingDump, cleanEnd, $hs:ident])))

/-! the rows of the automaton, one lemma per state; within a row the tests come in the order in
which `scan` consults the classifiers in that state -/

theorem step_start (k : Kind) : step .start k = if k = .header then some .hdr else if k = .sep then some .r1 else none := by
  cases k <;> rfl
theorem step_fin (k : Kind) : step .fin k = none := by cases k <;> rfl
theorem step_gap (k : Kind) : step .gap k = if k = .header then some .hdr else none := by cases k <;> rfl
theorem step_hdr (k : Kind) : step .hdr k = if k = .unavail then some .unav else if k = .func then some .fn else none := by
  cases k <;> rfl
theorem step_fn (k : Kind) : step .fn k = if k = .file then some .frames else none := by cases k <;> rfl
theorem step_cr (k : Kind) : step .cr k = if k = .file then some .crf else none := by cases k <;> rfl
theorem step_frames (k : Kind) : step .frames k =
    if k = .created then some .cr else if k = .elided then some .frames else if k = .func then some .fn
    else if k = .blank then some .gap else none := by
  cases k <;> rfl
theorem step_crf (k : Kind) : step .crf k = if k = .blank then some .gap else none := by cases k <;> rfl
theorem step_unav (k : Kind) : step .unav k = if k = .blank then some .gap else if k = .created then some .cr else none := by
  cases k <;> rfl
theorem step_r1 (k : Kind) : step .r1 k = if k = .warn then some .r2 else none := by cases k <;> rfl
theorem step_r2 (k : Kind) : step .r2 k = if k = .raceOp then some .opH else none := by cases k <;> rfl
theorem step_opH (k : Kind) : step .opH k = if k = .func then some .opF else none := by cases k <;> rfl
theorem step_opF (k : Kind) : step .opF k = if k = .file then some .opS else none := by cases k <;> rfl
theorem step_opS (k : Kind) : step .opS k = if k = .blank then some .gapO else if k = .func then some .opF else none := by
  cases k <;> rfl
theorem step_gapO (k : Kind) : step .gapO k =
    if k = .racePrev then some .opH else if k = .raceGor then some .goH else none := by
  cases k <;> rfl
theorem step_gapG (k : Kind) : step .gapG k = if k = .raceGor then some .goH else none := by cases k <;> rfl
theorem step_goH (k : Kind) : step .goH k = if k = .func then some .goF else none := by cases k <;> rfl
theorem step_goF (k : Kind) : step .goF k = if k = .file then some .goS else none := by cases k <;> rfl
theorem step_goS (k : Kind) : step .goS k =
    if k = .blank then some .gapG else if k = .sep then some .fin else if k = .func then some .goF else none := by
  cases k <;> rfl

theorem Stopped.clean {q : GState} (h : cleanEnd q = true) : Stopped q none .done := by
  simp [Stopped, h]

theorem Stopped.back {q : GState} (h : cleanEnd q = false) (hq : q = .start ∨ q = .r1) :
    Stopped q none .looking := by
  simp [Stopped, h, hq]

theorem Stopped.err {q : GState} (h : cleanEnd q = false) (hq : ¬(q = .start ∨ q = .r1)) (e : Err) (st' : St) :
    Stopped q (some e) st' := by
  simp [Stopped, h, hq]

/-- `Outcome` for a result of `scan` in a state that stands for `q` -/
def Sim (q : GState) (k : Kind) (r : R) : Prop := WhenOk r fun s' b e => Outcome q k b e s'.st

namespace Sim
variable {s : S} {p : Payload} {k : Kind} {q : GState}

theorem error (pn : Panic) : Sim q k (.error pn) := whenOk_error

theorem take {q' : GState} {s' : S} (h : step q k = some q') (hq : absSt s'.st = q') :
    Sim q k (.ok (s', true, none)) :=
  whenOk_ok (by unfold Outcome; rw [h]; exact ⟨rfl, rfl, hq⟩)

theorem stop {s' : S} {e : Option Err} (h : step q k = none) (hs : Stopped q e s'.st) :
    Sim q k (.ok (s', false, e)) :=
  whenOk_ok (by unfold Outcome; rw [h]; exact ⟨rfl, hs⟩)

/-- a test of one of the Boolean classifiers: `c` is that field of `canon k p`, true for the kind `k₀` only -/
theorem test {k₀ : Kind} {c : Bool} {A B : R} (hc : c = (k == k₀)) (hA : k = k₀ → Sim q k A)
    (hB : k ≠ k₀ → Sim q k B) : Sim q k (if c = true then A else B) := by
  by_cases h : k = k₀
  · rw [hc, beq_iff_eq.mpr h, if_pos rfl]; exact hA h
  · rw [hc, beq_false_of_ne h, if_neg (by decide)]; exact hB h

/-- the branch for a function line: `r` is the line's `func` or `funcL` -/
theorem funcStep {r : Option (Call × Option Err)} {c : Call} {next : St} {orElse : R} {q' : GState}
    (hr : r = if k = .func then some (c, none) else none) (h : step q .func = some q')
    (hq : absSt next = q') (hor : k ≠ .func → Sim q k orElse) : Sim q k (funcStep s r next orElse) := by
  by_cases hk : k = .func
  · subst hk
    rw [hr, if_pos rfl]
    by_cases hgs : s.gs = []
    · rw [funcStep_nil hgs]; exact error _
    · obtain ⟨init, g, hgs⟩ := exists_snoc_of_ne_nil hgs
      rw [funcStep_snoc hgs]
      exact take h hq
  · rw [hr, if_neg hk]
    exact hor hk

theorem createdStep {r : Except Err Func} {doInit : Bool} (hr : (canon k p).created = some r)
    (h : step q .created = some .cr) : Sim q k (createdStep s r doInit) := by
  have hk : k = .created := by
    apply Decidable.byContradiction
    intro hk
    rw [show (canon k p).created = none from if_neg hk] at hr
    cases hr
  subst hk
  cases Option.some.inj hr
  by_cases hgs : s.gs = []
  · rw [createdStep_nil hgs]; exact error _
  · obtain ⟨init, g, hgs⟩ := exists_snoc_of_ne_nil hgs
    rw [createdStep_snoc_ok hgs]
    exact take h rfl

/-- the branch for the file line of a frame: `scan` and the automaton (`hrow`) take nothing else -/
theorem fileStep {next : St} {orElse : Err} {q' : GState}
    (hrow : step q k = if k = .file then some q' else none) (hq : absSt next = q')
    (hc : cleanEnd q = false) (hq0 : ¬(q = .start ∨ q = .r1)) :
    Sim q k (fileStep s (canon k p) next orElse) := by
  unfold PP.fileStep
  split
  · exact error _
  · by_cases hk : k = .file
    · subst hk
      rw [show (canon Kind.file p).file = some (some p.pl) from rfl]
      dsimp only
      split
      · exact error _
      · exact take (hrow.trans (if_pos rfl)) hq
    · rw [show (canon k p).file = none from if_neg hk]
      exact stop (hrow.trans (if_neg hk)) (.err hc hq0 _ _)

theorem raceGorStep (hg : GorKnown s (canon k p))
    (hrow : k ≠ .raceGor → step q k = none) (h : step q .raceGor = some .goH)
    (hc : cleanEnd q = false) (hq0 : ¬(q = .start ∨ q = .r1)) : Sim q k (raceGorStep s (canon k p)) := by
  unfold PP.raceGorStep
  by_cases hk : k = .raceGor
  · subst hk
    rw [show (canon Kind.raceGor p).raceGor = some (some p.gid, p.gst) from rfl]
    dsimp only
    have hf := hg p.gid p.gst rfl
    split
    · split
      · exact take h rfl
      · exact error _
    · rename_i hn
      rw [hn] at hf
      cases hf
  · rw [show (canon k p).raceGor = none from if_neg hk]
    exact stop (hrow hk) (.err hc hq0 _ _)

theorem raceFuncStep (hrow : k ≠ .func → step q k = none) (h : step q .func = some .goF)
    (hc : cleanEnd q = false) (hq0 : ¬(q = .start ∨ q = .r1)) : Sim q k (raceFuncStep s (canon k p)) := by
  unfold PP.raceFuncStep
  by_cases hk : k = .func
  · subst hk
    rw [show (canon Kind.func p).funcL = some (p.cL, none) from rfl]
    dsimp only
    split
    · exact take h rfl
    · exact error _
  · rw [show (canon k p).funcL = none from if_neg hk]
    exact stop (hrow hk) (.err hc hq0 _ _)

end Sim

/-- `scan` on a canonical line does what the automaton says, state by state: each branch of
`scan` consults the classifiers of exactly the kinds that the automaton can read in the state
(the `step_…` rows), in the same order. -/
theorem sim_canon {s : S} {p : Payload} {k : Kind} (hg : GorKnown s (canon k p)) :
    Sim (absSt s.st) k (scan s (canon k p)) := by
  cases hs : s.st
  case looking =>
    show Sim .start k _
    rw [scan_looking hs rfl rfl]
    by_cases h1 : k = .header
    · subst h1; exact .take rfl rfl
    rw [show (canon k p).header = none from if_neg h1]
    refine .test rfl (by rintro rfl; exact .take rfl rfl) fun h2 => ?_
    exact .stop (by rw [step_start, if_neg h1, if_neg h2]) (by rw [hs]; exact .back rfl (Or.inl rfl))
  case done =>
    show Sim .fin k _
    rw [scan_done hs rfl]
    exact .stop (step_fin k) (by rw [hs]; exact .clean rfl)
  case betweenRoutine =>
    show Sim .gap k _
    rw [scan_betweenRoutine hs rfl]
    by_cases h1 : k = .header
    · subst h1; exact .take rfl rfl
    rw [show (canon k p).header = none from if_neg h1]
    exact .stop (by rw [step_gap, if_neg h1]) (.clean rfl)
  case gotRoutineHeader =>
    show Sim .hdr k _
    rw [scan_gotRoutineHeader hs rfl]
    refine .test rfl ?_ fun h1 => ?_
    · rintro rfl
      split
      · exact .error _
      · exact .take rfl rfl
    have hstop : k ≠ .func → Sim .hdr k (.ok (s, false, some .funcAfterHeader)) := fun h2 =>
      .stop (by rw [step_hdr, if_neg h1, if_neg h2]) (.err rfl (by decide) _ _)
    split
    · by_cases h2 : k = .func
      · subst h2; exact .error _
      · rw [show (canon k p).func = none from if_neg h2]; exact hstop h2
    · exact .funcStep rfl rfl rfl hstop
  case gotFunc =>
    show Sim .fn k _
    rw [scan_gotFunc hs rfl]
    exact .fileStep (step_fn k) rfl rfl (by decide)
  case gotCreated =>
    show Sim .cr k _
    rw [scan_gotCreated hs rfl]
    split
    · exact .error _
    by_cases h1 : k = .file
    · subst h1
      rw [show (canon Kind.file p).file = some (some p.pl) from rfl]
      dsimp only
      split
      · exact .error _
      · exact .take rfl rfl
    rw [show (canon k p).file = none from if_neg h1]
    exact .stop (by rw [step_cr, if_neg h1]) (.err rfl (by decide) _ _)
  case gotFileFunc =>
    show Sim .frames k _
    rw [scan_gotFileFunc hs rfl]
    split
    · rename_i hr; exact .createdStep hr rfl
    rename_i hr
    have h1 : k ≠ .created := fun h => by subst h; cases hr
    refine .test rfl ?_ fun h2 => ?_
    · rintro rfl
      split
      · exact .error _
      · exact .take rfl (congrArg absSt hs)
    refine .funcStep rfl rfl rfl fun h3 => ?_
    refine .test rfl (by rintro rfl; exact .take rfl rfl) fun h4 => ?_
    exact .stop (by rw [step_frames, if_neg h1, if_neg h2, if_neg h3, if_neg h4]) (.clean rfl)
  case gotFileCreated =>
    show Sim .crf k _
    rw [scan_gotFileCreated hs rfl]
    refine .test rfl (by rintro rfl; exact .take rfl rfl) fun h1 => ?_
    exact .stop (by rw [step_crf, if_neg h1]) (.clean rfl)
  case gotUnavail =>
    show Sim .unav k _
    rw [scan_gotUnavail hs rfl]
    refine .test rfl (by rintro rfl; exact .take rfl rfl) fun h1 => ?_
    split
    · rename_i hr; exact .createdStep hr rfl
    · rename_i hr
      have h2 : k ≠ .created := fun h => by subst h; cases hr
      exact .stop (by rw [step_unav, if_neg h1, if_neg h2]) (.err rfl (by decide) _ _)
  case gotRaceHeader1 =>
    show Sim .r1 k _
    rw [scan_gotRaceHeader1 hs rfl]
    refine .test rfl (by rintro rfl; exact .take rfl rfl) fun h1 => ?_
    exact .stop (by rw [step_r1, if_neg h1]) (.back rfl (Or.inr rfl))
  case gotRaceHeader2 =>
    show Sim .r2 k _
    rw [scan_gotRaceHeader2 hs rfl]
    by_cases h1 : k = .raceOp
    · subst h1
      rw [show (canon Kind.raceOp p).raceOp = some (.ok p.op) from rfl]
      dsimp only
      split
      · exact .error _
      · exact .take rfl rfl
    rw [show (canon k p).raceOp = none from if_neg h1]
    exact .stop (by rw [step_r2, if_neg h1]) (.err rfl (by decide) _ _)
  case gotRaceOperationHeader =>
    show Sim .opH k _
    rw [scan_gotRaceOperationHeader hs rfl]
    exact .funcStep rfl rfl rfl fun h1 => .stop (by rw [step_opH, if_neg h1]) (.err rfl (by decide) _ _)
  case gotRaceOperationFunc =>
    show Sim .opF k _
    rw [scan_gotRaceOperationFunc hs rfl]
    exact .fileStep (step_opF k) rfl rfl (by decide)
  case gotRaceOperationFile =>
    show Sim .opS k _
    rw [scan_gotRaceOperationFile hs rfl]
    refine .test rfl (by rintro rfl; exact .take rfl rfl) fun h1 => ?_
    exact .funcStep rfl rfl rfl fun h2 =>
      .stop (by rw [step_opS, if_neg h1, if_neg h2]) (.err rfl (by decide) _ _)
  case betweenRaceOperations =>
    show Sim .gapO k _
    rw [scan_betweenRaceOperations hs rfl]
    by_cases h1 : k = .racePrev
    · subst h1; exact .take rfl rfl
    rw [show (canon k p).racePrev = none from if_neg h1]
    exact .raceGorStep hg (fun h2 => by rw [step_gapO, if_neg h1, if_neg h2]) rfl rfl (by decide)
  case betweenRaceGoroutines =>
    show Sim .gapG k _
    rw [scan_betweenRaceGoroutines hs rfl]
    exact .raceGorStep hg (fun h1 => by rw [step_gapG, if_neg h1]) rfl rfl (by decide)
  case gotRaceGoroutineFunc =>
    show Sim .goF k _
    rw [scan_gotRaceGoroutineFunc hs rfl]
    split
    · split
      · exact .error _
      by_cases h1 : k = .file
      · subst h1; exact .take rfl rfl
      rw [show (canon k p).file = none from if_neg h1]
      exact .stop (by rw [step_goF, if_neg h1]) (.err rfl (by decide) _ _)
    · exact .error _
  case gotRaceGoroutineFile =>
    show Sim .goS k _
    rw [scan_gotRaceGoroutineFile hs rfl]
    refine .test rfl (by rintro rfl; exact .take rfl rfl) fun h1 => ?_
    refine .test rfl (by rintro rfl; exact .take rfl rfl) fun h2 => ?_
    exact .raceFuncStep (fun h3 => by rw [step_goS, if_neg h1, if_neg h2, if_neg h3]) rfl rfl (by decide)
  case gotRaceGoroutineHeader =>
    show Sim .goH k _
    rw [scan_gotRaceGoroutineHeader hs rfl]
    exact .raceFuncStep (fun h1 => by rw [step_goH, if_neg h1]) rfl rfl (by decide)

/-- **simulation, one line**: whenever `scan` does not panic on a canonical line, it does what
the automaton says -/
theorem sim_step {s s' : S} {l : Line} {k : Kind} {b e} (hk : l.isKind k) (hg : GorKnown s l)
    (h : scan s l = .ok (s', b, e)) : Outcome (absSt s.st) k b e s'.st := by
  rw [isKind_canon hk] at h hg
  exact sim_canon hg _ _ _ h

/-! ### sequences of canonical lines -/

/-- feed lines to `scan` as long as they are withheld without error: the number of lines
withheld, the last state, and what stopped the loop (`none` = the lines ran out, `some e` = a
line was not withheld, or raised the error `e`) -/
def scanLines : S → List Line → Except Panic (Nat × S × Option (Option Err))
  | s, [] => .ok (0, s, none)
  | s, l :: ls =>
    match scan s l with
    | .error p => .error p
    | .ok (s', b, e) =>
      if b && e.isNone then
        match scanLines s' ls with
        | .ok (n, r) => .ok (n + 1, r)
        | .error p => .error p
      else .ok (0, s', some e)

/-- `ls` are canonical lines of kinds `ks`, and every race goroutine header met while they are
scanned from `s` names a declared goroutine -/
inductive CanonFrom : S → List Line → List Kind → Prop
  | nil (s : S) : CanonFrom s [] []
  | cons {s : S} {l : Line} {k : Kind} {ls : List Line} {ks : List Kind} :
      l.isKind k → GorKnown s l →
      (∀ s' e, scan s l = .ok (s', true, e) → CanonFrom s' ls ks) → CanonFrom s (l :: ls) (k :: ks)

theorem gorKnown_of_ne {s : S} {l : Line} {k : Kind} (hk : l.isKind k) (hne : k ≠ .raceGor) :
    GorKnown s l := by
  intro id stt h
  have := hk.raceGor
  rw [h, if_neg hne] at this
  simp at this

/-- `ls` are canonical lines of kinds `ks` -/
inductive Kinds : List Line → List Kind → Prop
  | nil : Kinds [] []
  | cons {l : Line} {k : Kind} {ls : List Line} {ks : List Kind} :
      l.isKind k → Kinds ls ks → Kinds (l :: ls) (k :: ks)

theorem canonFrom_of_kinds (s : S) {ls : List Line} {ks : List Kind} (h : Kinds ls ks)
    (hne : Kind.raceGor ∉ ks) : CanonFrom s ls ks := by
  induction h generalizing s with
  | nil => exact CanonFrom.nil s
  | cons hk _ ih =>
    simp only [List.mem_cons, not_or] at hne
    exact CanonFrom.cons hk (gorKnown_of_ne hk (fun h => hne.1 h.symm)) (fun s' _ _ => ih s' hne.2)

/-! ### the same on bytes, for the loop `scanL` -/

theorem classify_nil_hasEOL (pfx : Bytes) : (classify pfx []).hasEOL = false := by
  simp [classify, stripEOL, Bytes.hasSuffix, Extracted.crlf, Extracted.lf]

/-- `ds` are lines which, classified with the indentation prefix in force when they are
scanned from `s`, are canonical of kinds `ks` (and race goroutine headers name declared
goroutines) -/
inductive CanonB : S → List Bytes → List Kind → Prop
  | nil (s : S) : CanonB s [] []
  | cons {s : S} {d : Bytes} {k : Kind} {ds : List Bytes} {ks : List Kind} :
      (classify s.pfx d).isKind k → GorKnown s (classify s.pfx d) →
      (∀ s' e, scanBytes s d = .ok (s', true, e) → CanonB s' ds ks) → CanonB s (d :: ds) (k :: ks)

theorem canonB_ne_nil {s : S} {d : Bytes} {k : Kind} (h : (classify s.pfx d).isKind k) :
    (d.length != 0) = true := by
  cases d with
  | nil => have := h.hasEOL; rw [classify_nil_hasEOL] at this; simp at this
  | cons a t => simp

/-- **maximal munch, for the loop**: on lines without reader error the loop withholds exactly
the longest prefix the automaton can read and forwards nothing, provided the automaton does
not get stuck in `start` or `r1` (where the scanner forwards instead of stopping). -/
theorem munch_scanL {s : S} {ds : List Bytes} {ks : List Kind} (hc : CanonB s ds ks) (hinv : Inv s)
    (hstop : (munch (absSt s.st) ks).1 < ks.length →
      (munch (absSt s.st) ks).2 ≠ .start ∧ (munch (absSt s.st) ks).2 ≠ .r1)
    (fwd : Bytes) (cons : List Bytes) :
    (scanL s fwd cons (ds.map (fun d => (d, none)))).panicked = none ∧
    (scanL s fwd cons (ds.map (fun d => (d, none)))).fwd = fwd ∧
    (scanL s fwd cons (ds.map (fun d => (d, none)))).consumed = cons ++ ds.take (munch (absSt s.st) ks).1 ∧
    (scanL s fwd cons (ds.map (fun d => (d, none)))).rest =
      (ds.drop (munch (absSt s.st) ks).1).map (fun d => (d, none)) ∧
    (((munch (absSt s.st) ks).1 = ks.length ∧
        (scanL s fwd cons (ds.map (fun d => (d, none)))).err = none ∧
        absSt (scanL s fwd cons (ds.map (fun d => (d, none)))).s.st = (munch (absSt s.st) ks).2) ∨
     ((munch (absSt s.st) ks).1 < ks.length ∧ ∃ e,
        (scanL s fwd cons (ds.map (fun d => (d, none)))).err = e.map LErr.parse ∧
        Stopped (munch (absSt s.st) ks).2 e (scanL s fwd cons (ds.map (fun d => (d, none)))).s.st)) := by
  induction hc generalizing fwd cons with
  | nil s => simp [scanL, munch]
  | @cons s d k ds ks hk hg hnext ih =>
    by_cases hd : (s.st == .done) = true
    · have hd' : s.st = .done := by simpa using hd
      rw [scanL_done _ _ _ _ hd]
      have hm : munch (absSt s.st) (k :: ks) = (0, .fin) := by
        rw [hd']; simp [munch, absSt, step]
      rw [hm]
      refine ⟨rfl, rfl, by simp, by simp, Or.inr ⟨by simp, none, rfl, ?_⟩⟩
      simp [Stopped, cleanEnd, accepting, hd']
    · rw [List.map_cons, scanL_cons, if_neg hd, if_pos (canonB_ne_nil hk)]
      obtain ⟨s1, b, e, hsc, hinv1⟩ := scan_stepOK s (classify s.pfx d) hinv
      have hsc' : scanBytes s d = .ok (s1, b, e) := hsc
      have ho := sim_step hk hg hsc
      rw [hsc']
      unfold Outcome at ho
      simp only [munch] at hstop ⊢
      cases hst : step (absSt s.st) k with
      | none =>
        rw [hst] at ho hstop
        obtain ⟨rfl, hstopped⟩ := ho
        obtain ⟨hq1, hq2⟩ := hstop (by simp)
        have hlk : s1.st ≠ .looking := by
          intro hl
          have h1 := scan_step hsc
          rw [hl] at h1
          rcases (Step_fwd_looking h1).2 with h2 | ⟨h2, _⟩
          · rw [h2] at hq1; exact hq1 rfl
          · rw [h2] at hq2; exact hq2 rfl
        have hlk' : (s1.st != .looking) = true := by simpa using hlk
        simp only [Bool.not_false, if_true, hlk']
        refine ⟨by first | rfl | trivial, by first | rfl | trivial, by simp, by simp, Or.inr ⟨by simp, e, ?_, hstopped⟩⟩
        cases e <;> rfl
      | some q' =>
        rw [hst] at ho hstop
        obtain ⟨rfl, rfl, hq⟩ := ho
        simp only [Bool.not_true, Bool.false_eq_true, if_false, combineErr, Option.isSome_none]
        have hstop' : (munch (absSt s1.st) ks).1 < ks.length →
            (munch (absSt s1.st) ks).2 ≠ .start ∧ (munch (absSt s1.st) ks).2 ≠ .r1 := by
          intro hlt
          rw [hq]
          exact hstop (by simp only [List.length_cons]; rw [hq] at hlt; omega)
        obtain ⟨i1, i2, i3, i4, i5⟩ := ih s1 none hsc' hinv1 hstop' fwd (cons ++ [d])
        rw [hq] at i3 i4 i5
        refine ⟨i1, i2, by rw [i3]; simp, by rw [i4]; simp, ?_⟩
        rcases i5 with ⟨a, b, c⟩ | ⟨a, b⟩
        · exact Or.inl ⟨by simp [a], b, c⟩
        · exact Or.inr ⟨by simp only [List.length_cons]; omega, b⟩

/-! ### goroutine ids: `GorKnown` from the lines alone -/

set_option hygiene false in
macro "ids_tac" hs:ident h:ident : tactic => `(tactic| (
  unfold scan at $h:ident
  cases ‹Kind› <;> simp [$hs:ident, canon, funcStep, createdStep, needLastCall, needCreated0] at $h:ident
  all_goals (repeat' (split at $h:ident))
  all_goals (try simp at $h:ident)
  all_goals (try obtain ⟨rfl, rfl, rfl⟩ := $h:ident)
  all_goals (try (simp_all [IdsStep, ids]; done))
  all_goals (first
    | (have h0 := ‹modifyLast _ _ = some _›; have hh := modifyLast_ids h0 (fun g => rfl); simp [IdsStep, hh]; done)
    | (have h0 := ‹modifyAt _ _ _ = some _›; have hh := modifyAt_ids h0 (fun g => rfl); simp [IdsStep, hh]; done)
    | (have h0 := ‹curAppendCall _ _ = .ok _›; have hh := curAppendCall_ids h0; simp [IdsStep, hh]; done)
    | skip)))

theorem step_of_take {s s' : S} {p : Payload} {k : Kind} {e} (hne : k ≠ .raceGor)
    (h : scan s (canon k p) = .ok (s', true, e)) : ∃ q', step (absSt s.st) k = some q' := by
  have ho := sim_canon (gorKnown_of_ne (canon_isKind k p) hne) _ _ _ h
  unfold Outcome at ho
  split at ho
  · exact ⟨_, ‹_›⟩
  · cases ho.1

/-- the ids of the goroutines found so far -/
def ids (gs : List Goroutine) : List Nat := gs.map (·.id)

theorem scan_ids_subset {s s' : S} {l : Line} {b e} (h : scan s l = .ok (s', b, e)) : ids s.gs ⊆ ids s'.gs := by
  unfold ids
  cases scan_gsEffect h with
  | keep hgs _ => rw [hgs]; exact List.Subset.refl _
  | push g hgs _ _ => rw [hgs, List.map_append]; exact List.subset_append_left _ _
  | last init g ed _ hgs hgs' _ =>
    rw [hgs, hgs', List.map_append, List.map_append, List.map_singleton, List.map_singleton, Edit.apply_id]
    exact List.Subset.refl _
  | «at» ed _ _ hi hgs' =>
    rw [hgs', List.map_set, Edit.apply_id, ← List.map_set, List.set_getElem_self]
    exact List.Subset.refl _

/-- the goroutine ids a line declares (race operation headers) -/
def _root_.PP.Line.declared (l : Line) : List Nat :=
  (match l.raceOp with | some (.ok v) => [v.2.2] | _ => []) ++
  (match l.racePrev with | some (.ok v) => [v.2.2] | _ => [])

/-- every race goroutine header among `ls` names a goroutine declared by an earlier operation
header of `ls` (or one of `known`) -/
def IdsOK : List Nat → List Line → Prop
  | _, [] => True
  | known, l :: ls =>
    (∀ id stt, l.raceGor = some (some id, stt) → id ∈ known) ∧ IdsOK (known ++ l.declared) ls

theorem declared_subset {s s' : S} {l : Line} {k : Kind} {e} (hk : l.isKind k)
    (h : scan s l = .ok (s', true, e)) : l.declared ⊆ ids s'.gs := by
  rw [isKind_canon hk] at h ⊢
  generalize payloadOf l = p at h ⊢
  by_cases h1 : k = .raceOp
  · subst h1
    obtain ⟨q', hq⟩ := step_of_take (by decide) h
    have hs : s.st = .gotRaceHeader2 := by
      cases hs : s.st <;> first | rfl | (rw [hs] at hq; cases hq)
    rw [scan_gotRaceHeader2 hs rfl, show (canon Kind.raceOp p).raceOp = some (.ok p.op) from rfl] at h
    dsimp only at h
    split at h
    · cases h
    · cases h
      exact fun id hid => hid
  by_cases h2 : k = .racePrev
  · subst h2
    obtain ⟨q', hq⟩ := step_of_take (by decide) h
    have hs : s.st = .betweenRaceOperations := by
      cases hs : s.st <;> first | rfl | (rw [hs] at hq; cases hq)
    rw [scan_betweenRaceOperations hs rfl, show (canon Kind.racePrev p).racePrev = some (.ok p.prev) from rfl] at h
    cases h
    intro id hid
    cases List.mem_singleton.mp (hid : id ∈ [p.prev.2.2])
    exact List.mem_map.mpr ⟨_, List.mem_append_right _ (List.mem_singleton.mpr rfl), rfl⟩
  · intro id hid
    rw [Line.declared, show (canon k p).raceOp = none from if_neg h1,
      show (canon k p).racePrev = none from if_neg h2] at hid
    cases hid

/-- being canonical from `s` follows from properties of the lines alone: their kinds, and
goroutine headers naming declared goroutines -/
theorem canonFrom_of_kinds_ids {s : S} {ls : List Line} {ks : List Kind} {known : List Nat}
    (h : Kinds ls ks) (hk : known ⊆ ids s.gs) (hi : IdsOK known ls) : CanonFrom s ls ks := by
  induction h generalizing s known with
  | nil => exact CanonFrom.nil s
  | @cons l k ls ks hkind _ ih =>
    obtain ⟨hi1, hi2⟩ := hi
    refine CanonFrom.cons hkind ?_ ?_
    · intro id stt hl
      have hmem := hk (hi1 id stt hl)
      simp only [ids, List.mem_map] at hmem
      obtain ⟨g, hg, hgid⟩ := hmem
      rw [List.findIdx?_isSome]
      exact List.any_eq_true.2 ⟨g, hg, by simp [hgid]⟩
    · intro s' e hsc
      apply ih _ hi2
      intro id hid
      simp only [List.mem_append] at hid
      rcases hid with hid | hid
      · exact scan_ids_subset hsc (hk hid)
      · exact declared_subset hkind hsc hid

/-! ### checking concrete streams -/

/-- `GorKnown` as a computation -/
def gorKnownB (s : S) (l : Line) : Bool :=
  match l.raceGor with
  | some (some id, _) => (s.gs.findIdx? (fun g => g.id == id)).isSome
  | _ => true

theorem gorKnownB_sound {s : S} {l : Line} (h : gorKnownB s l = true) : GorKnown s l := by
  intro id stt hl
  simpa [gorKnownB, hl] using h

/-- `CanonB` as a computation, for checking concrete streams by `decide` -/
def canonBCheck : S → List Bytes → List Kind → Bool
  | _, [], [] => true
  | s, d :: ds, k :: ks =>
    decide ((classify s.pfx d).isKind k) && gorKnownB s (classify s.pfx d) &&
      (match scanBytes s d with
       | .ok (s', true, _) => canonBCheck s' ds ks
       | _ => true)
  | _, _, _ => false

theorem canonBCheck_sound {s : S} {ds : List Bytes} {ks : List Kind} (h : canonBCheck s ds ks = true) :
    CanonB s ds ks := by
  fun_induction canonBCheck s ds ks
  case case1 s => exact CanonB.nil s
  case case2 ih =>
    simp only [Bool.and_eq_true, decide_eq_true_eq] at h
    exact CanonB.cons h.1.1 (gorKnownB_sound h.1.2) fun s' e hsc => ih s' (by rw [hsc] at h; exact h.2)
  case case3 => cases h

/-- `Kinds` as a computation -/
def kindsB : List Line → List Kind → Bool
  | [], [] => true
  | l :: ls, k :: ks => decide (l.isKind k) && kindsB ls ks
  | _, _ => false

theorem kindsB_sound {ls : List Line} {ks : List Kind} (h : kindsB ls ks = true) : Kinds ls ks := by
  fun_induction kindsB ls ks
  case case1 => exact Kinds.nil
  case case2 ih =>
    simp only [Bool.and_eq_true, decide_eq_true_eq] at h
    exact Kinds.cons h.1 (ih h.2)
  case case3 => cases h

/-- `IdsOK` as a computation -/
def idsOKB : List Nat → List Line → Bool
  | _, [] => true
  | known, l :: ls =>
    (match l.raceGor with
     | some (some id, _) => known.contains id
     | _ => true) && idsOKB (known ++ l.declared) ls

theorem idsOKB_sound {known : List Nat} {ls : List Line} (h : idsOKB known ls = true) : IdsOK known ls := by
  induction ls generalizing known with
  | nil => trivial
  | cons l ls ih =>
    simp only [idsOKB, Bool.and_eq_true] at h
    refine ⟨?_, ih h.2⟩
    intro id stt hl
    have h1 := h.1
    rw [hl] at h1
    simpa using h1

end Spec
end PP
