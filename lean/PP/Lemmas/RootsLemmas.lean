import PP.Model.Roots
import PP.Lemmas.Less
import PP.Lemmas.PrintLemmas
/-
Lemmas for C18 (path rebasing): byte-string prefixes, the skip tests of
`findRoots`, association lists, the order of `sortedByLen`.
-/
namespace PP
open Bytes

theorem eq_append_of_hasPrefix {s p : Bytes} (h : hasPrefix s p = true) :
    s = p ++ s.drop p.length := by
  obtain ⟨t, rfl⟩ := (hasPrefix_iff _ _).mp h
  simp

theorem pathJoin_pair (a b : Bytes) : pathJoin [a, b] = a ++ b!"/" ++ b := by
  simp [pathJoin, join]

theorem pathJoin_triple (a b c : Bytes) : pathJoin [a, b, c] = a ++ b!"/" ++ b ++ b!"/" ++ c := by
  simp [pathJoin, join]

/-! the skip tests of `findRoots` imply a prefix -/

theorem hasPrefix_of_take_drop {p k sep : Bytes} (h1 : p.take k.length = k)
    (h2 : (p.drop k.length).take sep.length = sep) : hasPrefix p (k ++ sep) = true := by
  apply (hasPrefix_iff _ _).mpr
  refine ⟨(p.drop k.length).drop sep.length, ?_⟩
  have e1 := List.take_append_drop k.length p
  have e2 := List.take_append_drop sep.length (p.drop k.length)
  rw [h1] at e1
  rw [h2] at e2
  rw [List.append_assoc, e2, e1]

theorem hasSrcPrefix_exists {p : Bytes} {s : AMap} (h : hasSrcPrefix p s = true) :
    ∃ k ∈ s.keys, hasPrefix p (k ++ srcSep) = true ∨ hasPrefix p (k ++ pkgmodSep) = true := by
  unfold hasSrcPrefix at h
  simp only [List.any_eq_true, Bool.or_eq_true, Bool.and_eq_true, decide_eq_true_eq, beq_iff_eq] at h
  obtain ⟨kv, hkv, h | h⟩ := h
  · exact ⟨kv.1, List.mem_map_of_mem (f := Prod.fst) hkv, Or.inl (hasPrefix_of_take_drop h.1.2 h.2)⟩
  · exact ⟨kv.1, List.mem_map_of_mem (f := Prod.fst) hkv, Or.inr (hasPrefix_of_take_drop h.1.2 h.2)⟩

theorem mapHasPrefix_exists {p : Bytes} {s : AMap} (h : mapHasPrefix p s = true) :
    ∃ k ∈ s.keys, hasPrefix p (k ++ b!"/") = true := by
  unfold mapHasPrefix at h
  simp only [List.any_eq_true, Bool.and_eq_true, decide_eq_true_eq, beq_iff_eq] at h
  obtain ⟨kv, hkv, ⟨_, h1⟩, h2⟩ := h
  refine ⟨kv.1, List.mem_map_of_mem (f := Prod.fst) hkv, ?_⟩
  apply (hasPrefix_iff _ _).mpr
  have e1 := List.take_append_drop kv.1.length p
  rw [h1] at e1
  cases hd : p.drop kv.1.length with
  | nil => simp [hd] at h2
  | cons x t =>
    simp only [hd, List.head?_cons, Option.some.injEq] at h2
    subst h2
    exact ⟨t, by rw [← e1, hd]; simp⟩

theorem AMap.mem_insert {m : AMap} {k v : Bytes} {kv : Bytes × Bytes}
    (h : kv ∈ m.insert k v) : kv = (k, v) ∨ kv ∈ m := by
  induction m with
  | nil => exact Or.inl (List.mem_singleton.mp h)
  | cons x t ih =>
    simp only [AMap.insert] at h
    split at h
    · exact (List.mem_cons.mp h).imp id (List.mem_cons_of_mem _)
    · rcases List.mem_cons.mp h with h | h
      · exact Or.inr (h ▸ List.mem_cons_self)
      · exact (ih h).imp id (List.mem_cons_of_mem _)

theorem AMap.mem_insert_self (m : AMap) (k v : Bytes) : (k, v) ∈ m.insert k v := by
  induction m with
  | nil => simp [AMap.insert]
  | cons x t ih =>
    obtain ⟨k', v'⟩ := x
    simp only [AMap.insert]
    split
    · exact List.mem_cons_self
    · exact List.mem_cons_of_mem _ ih

theorem AMap.keys_insert_mono {m : AMap} {a v k : Bytes} (h : k ∈ m.keys) : k ∈ (m.insert a v).keys := by
  induction m with
  | nil => cases h
  | cons x t ih =>
    simp only [AMap.insert]
    split
    · rename_i he
      exact (List.mem_cons.mp h).elim (fun e => List.mem_cons.mpr (Or.inl (e.trans (beq_iff_eq.mp he))))
        (List.mem_cons_of_mem _)
    · exact (List.mem_cons.mp h).elim (fun e => e ▸ List.mem_cons_self) fun h => List.mem_cons_of_mem _ (ih h)

theorem AMap.keys_insert_self (m : AMap) (a v : Bytes) : a ∈ (m.insert a v).keys :=
  List.mem_map_of_mem (f := Prod.fst) (AMap.mem_insert_self m a v)

theorem AMap.get_of_mem_keys {m : AMap} {k : Bytes} (h : k ∈ m.keys) : (k, m.get k) ∈ m := by
  induction m with
  | nil => simp [AMap.keys] at h
  | cons x t ih =>
    obtain ⟨k', v'⟩ := x
    simp only [AMap.keys, List.map_cons, List.mem_cons] at h
    simp only [AMap.get, List.lookup]
    by_cases he : k = k'
    · subst he
      simp
    · have hb : (k == k') = false := by simpa using he
      simp only [hb]
      rcases h with h | h
      · exact absurd h he
      · exact List.mem_cons_of_mem _ (ih h)

def AMap.Nodup (m : AMap) : Prop := m.keys.Nodup

theorem AMap.lookup_perm {m m' : AMap} (p : m.Perm m') (nd : m.Nodup) (k : Bytes) :
    m.lookup k = m'.lookup k := by
  induction p with
  | nil => rfl
  | cons x _ ih =>
    obtain ⟨k', v'⟩ := x
    simp only [AMap.Nodup, AMap.keys, List.map_cons, List.nodup_cons] at nd
    simp only [List.lookup]
    split
    · rfl
    · exact ih nd.2
  | swap x y l =>
    obtain ⟨kx, vx⟩ := x
    obtain ⟨ky, vy⟩ := y
    simp only [AMap.Nodup, AMap.keys, List.map_cons, List.nodup_cons, List.mem_cons, not_or] at nd
    simp only [List.lookup]
    by_cases h1 : k == ky <;> by_cases h2 : k == kx <;> simp [h1, h2]
    simp only [beq_iff_eq] at h1 h2
    exact absurd (h1.symm.trans h2) nd.1.1
  | @trans l1 l2 l3 p1 _ ih1 ih2 =>
    have nd2 : AMap.Nodup l2 := by
      simp only [AMap.Nodup, AMap.keys] at nd ⊢
      exact (p1.map Prod.fst).nodup_iff.mp nd
    exact (ih1 nd).trans (ih2 nd2)

theorem AMap.get_perm {m m' : AMap} (p : m.Perm m') (nd : m.Nodup) (k : Bytes) :
    m.get k = m'.get k := by
  simp [AMap.get, AMap.lookup_perm p nd k]

/-- the order of `sort.Strings`: "a before b unless b < a" -/
def strLe (a b : Bytes) : Bool := !bytesLt b a

theorem strLe_of_lt {a b : Bytes} (h : bytesLt a b = true) : strLe a b = true := by
  unfold strLe
  cases h2 : bytesLt b a
  · rfl
  · have := bytesLt_trans _ _ _ h h2
    rw [bytesLt_irrefl] at this
    cases this

theorem strLe_total (a b : Bytes) : (strLe a b || strLe b a) = true := by
  cases h : bytesLt b a
  · simp [strLe, h]
  · simp [strLe_of_lt h]

theorem strLe_trans (a b c : Bytes) : strLe a b = true → strLe b c = true → strLe a c = true := by
  unfold strLe
  simp only [Bool.not_eq_true']
  intro h1 h2
  cases h3 : bytesLt c a
  · rfl
  · cases h4 : bytesLt a b
    · have := bytesLt_tri a b h4 h1
      subst this
      rw [h3] at h2
      cases h2
    · have := bytesLt_trans _ _ _ h3 h4
      rw [this] at h2
      cases h2

theorem strLe_antisymm (a b : Bytes) : strLe a b = true → strLe b a = true → a = b := by
  unfold strLe
  simp only [Bool.not_eq_true']
  exact fun h1 h2 => bytesLt_tri a b h2 h1

theorem lenLexLe_iff {a b : Bytes} :
    lenLexLe a b = true ↔ b.length < a.length ∨ (a.length = b.length ∧ strLe a b = true) := by
  simp [lenLexLe, strLe]

theorem lenLexLe_total (a b : Bytes) : (lenLexLe a b || lenLexLe b a) = true := by
  rw [Bool.or_eq_true, lenLexLe_iff, lenLexLe_iff]
  rcases Nat.lt_trichotomy a.length b.length with h | h | h
  · exact Or.inr (Or.inl h)
  · rcases Bool.or_eq_true _ _ ▸ strLe_total a b with h' | h'
    · exact Or.inl (Or.inr ⟨h, h'⟩)
    · exact Or.inr (Or.inr ⟨h.symm, h'⟩)
  · exact Or.inl (Or.inl h)

theorem lenLexLe_trans (a b c : Bytes) : lenLexLe a b = true → lenLexLe b c = true → lenLexLe a c = true := by
  rw [lenLexLe_iff, lenLexLe_iff, lenLexLe_iff]
  rintro (h1 | ⟨e1, s1⟩) (h2 | ⟨e2, s2⟩)
  · exact Or.inl (by omega)
  · exact Or.inl (by omega)
  · exact Or.inl (by omega)
  · exact Or.inr ⟨e1.trans e2, strLe_trans a b c s1 s2⟩

theorem lenLexLe_antisymm (a b : Bytes) : lenLexLe a b = true → lenLexLe b a = true → a = b := by
  rw [lenLexLe_iff, lenLexLe_iff]
  rintro (h1 | ⟨_, s1⟩) (h2 | ⟨_, s2⟩)
  · omega
  · omega
  · omega
  · exact strLe_antisymm a b s1 s2

theorem lenLexLe_length {a b : Bytes} (h : lenLexLe a b = true) : b.length ≤ a.length := by
  rcases lenLexLe_iff.mp h with h | ⟨h, _⟩ <;> omega

theorem sortedByLen_pairwise (m : AMap) : (sortedByLen m).Pairwise (fun a b => lenLexLe a b = true) :=
  List.pairwise_mergeSort lenLexLe_trans lenLexLe_total _

theorem mem_sortedByLen {m : AMap} {k : Bytes} : k ∈ sortedByLen m ↔ k ∈ m.keys := by
  simp [sortedByLen]

/-- the order is total and antisymmetric, so the keys have one sorted arrangement -/
theorem eq_sortedByLen_of_sorted {m : AMap} {l : List Bytes} (hp : l.Perm m.keys)
    (hs : l.Pairwise fun a b => lenLexLe a b = true) : l = sortedByLen m :=
  List.Perm.eq_of_pairwise (le := fun a b => lenLexLe a b = true)
    (fun a b _ _ h1 h2 => lenLexLe_antisymm a b h1 h2) hs (sortedByLen_pairwise m)
    (hp.trans (List.mergeSort_perm _ _).symm)

/-- the walk order does not depend on the order of the association list -/
theorem sortedByLen_perm {m m' : AMap} (p : m.Perm m') : sortedByLen m = sortedByLen m' :=
  eq_sortedByLen_of_sorted ((List.mergeSort_perm _ _).trans (p.map Prod.fst)) (sortedByLen_pairwise m)

end PP
