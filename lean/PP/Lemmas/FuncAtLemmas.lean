import PP.Spec.FuncTree
/-
Lemmas about `PP.FA.getFuncAST`: the walk without the error monad (`walk`),
its agreement with `inspect (callback …)`, and the ways a subtree is crossed
(already decided / everything before the offset / a stop with a remembered
declaration / a declaration that starts on the line).
-/
namespace PP.FA

mutual
/-- `inspect (callback offsets l eol)` when `offsets[l] = off` -/
def walk (off : Nat) (eol : Option Nat) (s : St) : Node → St
  | ⟨pos, isF, decl, cs⟩ =>
    if s.d.isSome then s
    else if (isF && decide (pos ≥ off) && leEol pos eol) = true then
      walkList off eol { s with lastFunc := some decl } cs
    else if pos ≥ off then { s with d := s.lastFunc }
    else walkList off eol (if isF then { s with lastFunc := some decl } else s) cs
def walkList (off : Nat) (eol : Option Nat) (s : St) : List Node → St
  | [] => s
  | c :: cs => walkList off eol (walk off eol s c) cs
end

theorem callback_nil (offsets : List Nat) (l : Nat) (eol : Option Nat) (s : St) :
    ∃ b, callback offsets l eol s none = .ok (s, b) := by
  unfold callback
  cases h : s.d.isSome
  · exact ⟨true, by simp⟩
  · exact ⟨false, by simp⟩

theorem callback_some (offsets : List Nat) (l off : Nat) (eol : Option Nat) (h : offsets[l]? = some off)
    (s : St) (hd : s.d.isSome = false) (n : Node) :
    callback offsets l eol s (some n) =
      if (n.isFuncDecl && decide (n.pos ≥ off) && leEol n.pos eol) = true then
        .ok ({ s with lastFunc := some n.decl }, true)
      else if n.pos ≥ off then .ok ({ s with d := s.lastFunc }, false)
      else if n.isFuncDecl = true then .ok ({ s with lastFunc := some n.decl }, true)
      else .ok (s, true) := by
  unfold callback
  rw [hd, h]
  rfl

mutual
theorem inspect_eq_walk (offsets : List Nat) (l off : Nat) (eol : Option Nat) (h : offsets[l]? = some off)
    (s : St) : (n : Node) → inspect (callback offsets l eol) s n = .ok (walk off eol s n)
  | ⟨pos, isF, decl, cs⟩ => by
    rw [inspect, walk]
    cases hd : s.d.isSome
    · rw [callback_some offsets l off eol h s hd]
      simp only [Bool.false_eq_true, if_false]
      by_cases he : (isF && decide (pos ≥ off) && leEol pos eol) = true
      · rw [if_pos he, if_pos he]
        simp only [inspectList_eq_walkList offsets l off eol h _ cs]
        obtain ⟨b, hb⟩ := callback_nil offsets l eol (walkList off eol { s with lastFunc := some decl } cs)
        rw [hb]
      · rw [if_neg he, if_neg he]
        by_cases hp : pos ≥ off
        · rw [if_pos hp, if_pos hp]
        · rw [if_neg hp, if_neg hp]
          cases isF
          · simp only [Bool.false_eq_true, if_false]
            simp only [inspectList_eq_walkList offsets l off eol h s cs]
            obtain ⟨b, hb⟩ := callback_nil offsets l eol (walkList off eol s cs)
            rw [hb]
          · simp only [if_true]
            simp only [inspectList_eq_walkList offsets l off eol h _ cs]
            obtain ⟨b, hb⟩ := callback_nil offsets l eol (walkList off eol { s with lastFunc := some decl } cs)
            rw [hb]
    · simp [callback, hd]
theorem inspectList_eq_walkList (offsets : List Nat) (l off : Nat) (eol : Option Nat)
    (h : offsets[l]? = some off) (s : St) :
    (ns : List Node) → inspectList (callback offsets l eol) s ns = .ok (walkList off eol s ns)
  | [] => by rw [inspectList, walkList]
  | n :: ns => by
    rw [inspectList, walkList, inspect_eq_walk offsets l off eol h s n]
    exact inspectList_eq_walkList offsets l off eol h _ ns
end

/-- the guarded read of `p.lineToByteOffset[l+1]` never fails -/
theorem eolOf_eq (offsets : List Nat) (l : Nat) : eolOf offsets l = .ok offsets[l + 1]? := by
  unfold eolOf
  by_cases h : l + 1 < offsets.length
  · rw [if_pos h, List.getElem?_eq_getElem h]
  · rw [if_neg h, List.getElem?_eq_none (Nat.le_of_not_lt h)]

theorem getFuncAST_eq_walk (offsets : List Nat) (root : Node) (l off : Nat) (h : offsets[l]? = some off) :
    getFuncAST offsets root l = .ok (walk off offsets[l + 1]? {} root).d := by
  have hl : ¬ offsets.length ≤ l := by
    intro hle
    rw [List.getElem?_eq_none hle] at h
    cases h
  unfold getFuncAST
  rw [if_neg hl, eolOf_eq]
  simp only [inspect_eq_walk offsets l off _ h]

theorem getFuncAST_cases (offsets : List Nat) (root : Node) (l : Nat) :
    (offsets.length ≤ l ∧ getFuncAST offsets root l = .error .lineOver) ∨
    (¬ offsets.length ≤ l ∧ ∃ d, getFuncAST offsets root l = .ok d) := by
  by_cases h : offsets.length ≤ l
  · left; refine ⟨h, ?_⟩; unfold getFuncAST; rw [if_pos h]
  · right; refine ⟨h, ?_⟩
    have hl : l < offsets.length := Nat.lt_of_not_le h
    exact ⟨_, getFuncAST_eq_walk offsets root l offsets[l] (List.getElem?_eq_getElem hl)⟩

/-! ### once `d` is set nothing changes -/

mutual
theorem walk_done (off : Nat) (eol : Option Nat) (s : St) (hd : s.d.isSome = true) :
    (n : Node) → walk off eol s n = s
  | ⟨pos, isF, decl, cs⟩ => by rw [walk, if_pos hd]
theorem walkList_done (off : Nat) (eol : Option Nat) (s : St) (hd : s.d.isSome = true) :
    (ns : List Node) → walkList off eol s ns = s
  | [] => by rw [walkList]
  | n :: ns => by rw [walkList, walk_done off eol s hd n]; exact walkList_done off eol s hd ns
end

theorem lastDecl_append (i : Option Nat) (a b : List Node) :
    lastDecl i (a ++ b) = lastDecl (lastDecl i a) b := by
  unfold lastDecl; rw [List.foldl_append]

theorem lastDecl_cons (i : Option Nat) (m : Node) (b : List Node) :
    lastDecl i (m :: b) = lastDecl (if m.isFuncDecl then some m.decl else i) b := rfl

theorem lastDecl_nil (i : Option Nat) : lastDecl i [] = i := rfl

theorem lastDecl_of_none (i : Option Nat) (ns : List Node) (h : ∀ m ∈ ns, m.isFuncDecl = false) :
    lastDecl i ns = i := by
  induction ns generalizing i with
  | nil => rfl
  | cons m t ih =>
    rw [lastDecl_cons, h m (by simp)]
    exact ih i (fun x hx => h x (by simp [hx]))

/-! ### a subtree entirely before the offset -/

theorem not_onLine_of_lt {isF : Bool} {pos off : Nat} {eol : Option Nat} (hp : ¬ pos ≥ off) :
    ¬ (isF && decide (pos ≥ off) && leEol pos eol) = true := by
  simp [hp]

mutual
theorem walk_allBefore (off : Nat) (eol : Option Nat) (s : St) (hd : s.d = none) :
    (n : Node) → (∀ m ∈ nodes n, m.pos < off) → walk off eol s n = ⟨none, lastDecl s.lastFunc (nodes n)⟩
  | ⟨pos, isF, decl, cs⟩, h => by
    rw [nodes] at h
    have hp : ¬ pos ≥ off := by
      have := h ⟨pos, isF, decl, cs⟩ (by simp)
      simp at this; omega
    have hcs : ∀ m ∈ nodesL cs, m.pos < off := fun m hm => h m (by simp [hm])
    rw [walk, nodes, lastDecl_cons, if_neg (not_onLine_of_lt hp)]
    simp only [hd, Option.isSome_none, Bool.false_eq_true, if_false, hp]
    cases isF
    · have := walkList_allBefore off eol s hd cs hcs
      simpa using this
    · have := walkList_allBefore off eol { s with lastFunc := some decl } hd cs hcs
      simpa [hd] using this
theorem walkList_allBefore (off : Nat) (eol : Option Nat) (s : St) (hd : s.d = none) :
    (ns : List Node) → (∀ m ∈ nodesL ns, m.pos < off) →
      walkList off eol s ns = ⟨none, lastDecl s.lastFunc (nodesL ns)⟩
  | [], _ => by
    rw [walkList, nodesL, lastDecl_nil]
    cases s; simp_all
  | n :: ns, h => by
    rw [nodesL] at h
    rw [walkList, nodesL, lastDecl_append,
      walk_allBefore off eol s hd n (fun m hm => h m (by simp [hm]))]
    exact walkList_allBefore off eol _ rfl ns (fun m hm => h m (by simp [hm]))
end

/-! ### a stop with a remembered declaration -/

mutual
theorem walk_stop (off k : Nat) (eol : Option Nat) (s : St) (hd : s.d = none) (hl : s.lastFunc = some k) :
    (n : Node) → (∀ m ∈ nodes n, m.isFuncDecl = false) → (∃ m ∈ nodes n, off ≤ m.pos) →
      walk off eol s n = ⟨some k, some k⟩
  | ⟨pos, isF, decl, cs⟩, hno, hge => by
    rw [nodes] at hno hge
    have hf : isF = false := by simpa using hno ⟨pos, isF, decl, cs⟩ (by simp)
    subst hf
    rw [walk]
    simp only [hd, Option.isSome_none, Bool.false_eq_true, if_false, Bool.false_and]
    by_cases hp : pos ≥ off
    · rw [if_pos hp]; cases s; simp_all
    · rw [if_neg hp]
      obtain ⟨m, hm, hmp⟩ := hge
      have hm' : m ∈ nodesL cs := by
        rcases List.mem_cons.mp hm with rfl | h'
        · exact absurd hmp hp
        · exact h'
      exact walkList_stop off k eol s hd hl cs (fun x hx => hno x (by simp [hx])) ⟨m, hm', hmp⟩
theorem walkList_stop (off k : Nat) (eol : Option Nat) (s : St) (hd : s.d = none) (hl : s.lastFunc = some k) :
    (ns : List Node) → (∀ m ∈ nodesL ns, m.isFuncDecl = false) → (∃ m ∈ nodesL ns, off ≤ m.pos) →
      walkList off eol s ns = ⟨some k, some k⟩
  | [], _, hge => by
    obtain ⟨m, hm, _⟩ := hge
    rw [nodesL] at hm; cases hm
  | n :: ns, hno, hge => by
    rw [nodesL] at hno hge
    rw [walkList]
    have hnoN : ∀ m ∈ nodes n, m.isFuncDecl = false := fun x hx => hno x (by simp [hx])
    have hnoT : ∀ m ∈ nodesL ns, m.isFuncDecl = false := fun x hx => hno x (by simp [hx])
    by_cases hn : ∃ m ∈ nodes n, off ≤ m.pos
    · rw [walk_stop off k eol s hd hl n hnoN hn]
      exact walkList_done off eol _ rfl ns
    · have hall : ∀ m ∈ nodes n, m.pos < off := by
        intro m hm
        apply Nat.lt_of_not_le
        intro hle
        exact hn ⟨m, hm, hle⟩
      rw [walk_allBefore off eol s hd n hall, lastDecl_of_none _ _ hnoN]
      obtain ⟨m, hm, hmp⟩ := hge
      have hm' : m ∈ nodesL ns := by
        rcases List.mem_append.mp hm with h' | h'
        · exact absurd ⟨m, h', hmp⟩ hn
        · exact h'
      exact walkList_stop off k eol ⟨none, s.lastFunc⟩ rfl hl ns hnoT ⟨m, hm', hmp⟩
end

/-! ### siblings that all stop without a remembered declaration -/

/-- the node stops the walk: it starts on the line or later and is not a
declaration that starts on the line -/
def Stops (off : Nat) (eol : Option Nat) (c : Node) : Prop :=
  off ≤ c.pos ∧ ¬ (c.isFuncDecl = true ∧ leEol c.pos eol = true)

instance (off : Nat) (eol : Option Nat) (c : Node) : Decidable (Stops off eol c) := by
  unfold Stops; infer_instance

theorem walk_stops (off : Nat) (eol : Option Nat) (s : St) (hd : s.d = none) :
    (c : Node) → Stops off eol c → walk off eol s c = ⟨s.lastFunc, s.lastFunc⟩
  | ⟨pos, isF, decl, cs⟩, h => by
    have hp : pos ≥ off := h.1
    have he : ¬ (isF && decide (pos ≥ off) && leEol pos eol) = true := by
      intro hc
      simp only [Bool.and_eq_true, decide_eq_true_eq] at hc
      exact h.2 ⟨hc.1.1, hc.2⟩
    rw [walk, if_neg he]
    simp [hd, hp]

theorem walkList_all_stop_none (off : Nat) (eol : Option Nat) :
    (ns : List Node) → (∀ c ∈ ns, Stops off eol c) → walkList off eol ⟨none, none⟩ ns = ⟨none, none⟩
  | [], _ => by rw [walkList]
  | c :: ns, h => by
    rw [walkList, walk_stops off eol ⟨none, none⟩ rfl c (h c (by simp))]
    exact walkList_all_stop_none off eol ns (fun c hc => h c (by simp [hc]))

/-! ### a declaration that starts on the line -/

theorem walk_enter_self (off : Nat) (eol : Option Nat) (s : St) (hd : s.d = none) (pk k : Nat) (body : List Node)
    (hoff : off ≤ pk) (heol : leEol pk eol = true)
    (hbody : ∀ m ∈ nodesL body, m.isFuncDecl = false) (hreach : ∃ m ∈ nodesL body, off ≤ m.pos) :
    walk off eol s ⟨pk, true, k, body⟩ = ⟨some k, some k⟩ := by
  have he : (true && decide (pk ≥ off) && leEol pk eol) = true := by simp [hoff, heol]
  rw [walk, if_pos he]
  simp only [hd, Option.isSome_none, Bool.false_eq_true, if_false]
  exact walkList_stop off k eol _ rfl rfl body hbody hreach

theorem walk_root (off : Nat) (eol : Option Nat) (p0 x : Nat) (cs : List Node) (hp : p0 < off) :
    walk off eol {} ⟨p0, false, x, cs⟩ = walkList off eol {} cs := by
  rw [walk]
  have : ¬ p0 ≥ off := by omega
  simp [this]

theorem walkList_append (off : Nat) (eol : Option Nat) (s : St) : (a b : List Node) →
    walkList off eol s (a ++ b) = walkList off eol (walkList off eol s a) b
  | [], b => by rw [List.nil_append, walkList]
  | n :: a, b => by
    rw [List.cons_append, walkList, walkList]
    exact walkList_append off eol _ a b

theorem nodesL_append : (a b : List Node) → nodesL (a ++ b) = nodesL a ++ nodesL b
  | [], b => by rw [List.nil_append, nodesL, List.nil_append]
  | n :: a, b => by
    rw [List.cons_append, nodesL, nodesL, nodesL_append a b, List.append_assoc]

theorem mem_nodes_self : (n : Node) → n ∈ nodes n
  | ⟨p, f, d, cs⟩ => by rw [nodes]; simp

theorem nodes_eq (n : Node) : nodes n = n :: nodesL n.children := by
  cases n; rw [nodes]

theorem mem_nodesL_of_mem {c : Node} {ns : List Node} (h : c ∈ ns) {m : Node} (hm : m ∈ nodes c) :
    m ∈ nodesL ns := by
  induction ns with
  | nil => cases h
  | cons a t ih =>
    rw [nodesL]
    rcases List.mem_cons.mp h with rfl | h'
    · simp [hm]
    · simp [ih h']

theorem exists_of_mem_nodesL : (ns : List Node) → (m : Node) → m ∈ nodesL ns → ∃ c ∈ ns, m ∈ nodes c
  | [], m, h => by rw [nodesL] at h; cases h
  | n :: ns, m, h => by
    rw [nodesL] at h
    rcases List.mem_append.mp h with h' | h'
    · exact ⟨n, by simp, h'⟩
    · obtain ⟨c, hc, hm⟩ := exists_of_mem_nodesL ns m h'
      exact ⟨c, by simp [hc], hm⟩

/-- the answer is decided at the first top-level item that does not lie entirely before the offset: the items
`before` it only fix the declaration remembered when the walk gets there -/
theorem getFuncAST_items (offsets : List Nat) (l off : Nat) (hoff : offsets[l]? = some off) (p0 x : Nat)
    (before rest : List Node) (hroot : p0 < off) (hbefore : AllBeforeL off before) :
    getFuncAST offsets ⟨p0, false, x, before ++ rest⟩ l =
      .ok (walkList off offsets[l + 1]? ⟨none, lastDecl none (nodesL before)⟩ rest).d := by
  rw [getFuncAST_eq_walk offsets _ l off hoff, walk_root off _ p0 x _ hroot, walkList_append,
    walkList_allBefore off _ {} rfl before hbefore]

theorem lastDecl_decl (i : Option Nat) (pj j : Nat) (body : List Node) (hnd : NoDeclL body) :
    lastDecl i (nodes ⟨pj, true, j, body⟩) = some j := by
  rw [nodes, lastDecl_cons]
  exact lastDecl_of_none _ _ hnd

/-- results can be compared (for the evaluated examples) -/
instance decEqResult : DecidableEq (Except Err (Option Nat))
  | .ok a, .ok b => if h : a = b then isTrue (by rw [h]) else isFalse (fun hc => h (by cases hc; rfl))
  | .error a, .error b => if h : a = b then isTrue (by rw [h]) else isFalse (fun hc => h (by cases hc; rfl))
  | .ok _, .error _ => isFalse (fun hc => by cases hc)
  | .error _, .ok _ => isFalse (fun hc => by cases hc)

end PP.FA
