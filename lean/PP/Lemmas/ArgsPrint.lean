import PP.Spec.WF
import PP.Lemmas.PrintLemmas
/-
For C01 (round trip), the argument list.  `parseArgs (printArgList as e)` recovers
`expArgs as` and `e` (token view: the parser splits the whole text on ", ", so
the units are leaf tokens `{{0x1`, `0x2?}`, `{}`, `{...}}`, `_`), and the bytes
a printed argument list is made of.
-/
namespace PP.Spec
open PP Bytes

theorem join_cons_ne (sep x : Bytes) (l : List Bytes) (h : l ≠ []) :
    join sep (x :: l) = x ++ sep ++ join sep l := by
  cases l with
  | nil => exact absurd rfl h
  | cons y ys => rfl

theorem join_append_ne (sep : Bytes) (l1 l2 : List Bytes) (h1 : l1 ≠ []) (h2 : l2 ≠ []) :
    join sep (l1 ++ l2) = join sep l1 ++ sep ++ join sep l2 := by
  induction l1 with
  | nil => exact absurd rfl h1
  | cons x xs ih =>
    cases xs with
    | nil => simp [join_cons_ne _ _ _ h2, join]
    | cons y ys =>
      have : (y :: ys) ++ l2 ≠ [] := by simp
      rw [List.cons_append, join_cons_ne _ _ _ this, ih (by simp),
        join_cons_ne sep x (y :: ys) (by simp)]
      simp only [List.append_assoc]

theorem takeWhile_replicate_append (p : UInt8 → Bool) (n : Nat) (x : UInt8) (r : Bytes)
    (hx : p x = true) (hr : ∀ y ∈ r, p y = false) :
    (List.replicate n x ++ r).takeWhile p = List.replicate n x := by
  induction n with
  | zero =>
    cases r with
    | nil => rfl
    | cons y ys => simp [hr y (by simp)]
  | succ n ih => simp [List.replicate_succ, hx, ih]

/-! ### tokens: `o` opening braces, a leaf, `c` closing braces -/

abbrev Tok := Nat × Bytes × Nat

def tokText (t : Tok) : Bytes := List.replicate t.1 123 ++ t.2.1 ++ List.replicate t.2.2 125

def leafByte (c : UInt8) : Bool := c == 46 || c == 95 || c == 63 || c == 120 || isLowerHex c

def LeafOK (l : Bytes) : Prop := ∀ c ∈ l, leafByte c = true

theorem leafByte_ne {c : UInt8} (h : leafByte c = true) : c ≠ 123 ∧ c ≠ 125 ∧ c ≠ 44 := by
  refine ⟨?_, ?_, ?_⟩ <;> (intro hc; subst hc; revert h; decide)

theorem trim_tokText (o c : Nat) (l : Bytes) (hl : LeafOK l) :
    trimCurlyBrackets (tokText (o, l, c)) = (o, l, c) := by
  have h1 : (List.replicate o 123 ++ (l ++ List.replicate c 125)).takeWhile (· == (123 : UInt8))
      = List.replicate o 123 := by
    apply takeWhile_replicate_append
    · rfl
    · intro y hy
      rcases List.mem_append.1 hy with h | h
      · have := (leafByte_ne (hl y h)).1; simpa using this
      · have := (List.mem_replicate.1 h).2; subst this; rfl
  have h2 : (List.replicate c 125 ++ l.reverse).takeWhile (· == (125 : UInt8))
      = List.replicate c 125 := by
    apply takeWhile_replicate_append
    · rfl
    · intro y hy
      have := (leafByte_ne (hl y (List.mem_reverse.1 hy))).2.1; simpa using this
  unfold trimCurlyBrackets tokText
  simp only [List.append_assoc, h1, List.length_replicate, List.drop_left', List.reverse_append,
    List.reverse_replicate, h2]
  simp

/-! ### the parser on a token: open `o` frames, take the leaf, close `c` frames -/

def bindE (x : Except ArgErr (List Frame)) (f : List Frame → Except ArgErr (List Frame)) :
    Except ArgErr (List Frame) :=
  match x with
  | .error e => .error e
  | .ok st => f st

theorem bindE_assoc (x : Except ArgErr (List Frame)) (f g : List Frame → Except ArgErr (List Frame)) :
    bindE (bindE x f) g = bindE x (fun s => bindE (f s) g) := by
  cases x <;> rfl

@[simp] theorem bindE_ok (st : List Frame) (f : List Frame → Except ArgErr (List Frame)) :
    bindE (.ok st) f = f st := rfl

/-- what `argItem` does with the middle of an item -/
def leafStep (a : Bytes) (st : List Frame) : Except ArgErr (List Frame) :=
  if a.length > 0 then
    if a == Extracted.threeDots then
      match st with
      | (vs, _) :: t => .ok ((vs, true) :: t)
      | [] => .ok st
    else if a == Extracted.underscore then .ok (pushVal (.scalar [] 0 false true false) st)
    else
      let inacc := hasSuffix a Extracted.inaccurateQuestionMark
      let a' := if inacc then a.take (a.length - Extracted.inaccurateQuestionMark.length) else a
      match parseUint0 a' with
      | none => .error .int
      | some v => .ok (pushVal (.scalar [] v (isPtrValue v) false inacc) st)
  else .ok st

theorem argItem_tok (st : List Frame) (o c : Nat) (l : Bytes) (hl : LeafOK l) :
    argItem st (tokText (o, l, c)) =
      bindE (bindE (argItem.openN o st) (leafStep l)) (argItem.closeN c) := by
  unfold argItem
  rw [trim_tokText o c l hl]
  dsimp only
  cases argItem.openN o st <;> rfl

def open1 (st : List Frame) : Except ArgErr (List Frame) :=
  if st.length ≥ Extracted.maxDepth then .error .depth else .ok (([], false) :: st)

def close1 (st : List Frame) : Except ArgErr (List Frame) :=
  match st with
  | (vs, e) :: (pvs, pe) :: t => .ok ((pvs ++ [Arg.agg vs e], pe) :: t)
  | _ => .error .close

theorem openN_succ (n : Nat) (st : List Frame) :
    argItem.openN (n + 1) st = bindE (open1 st) (argItem.openN n) := by
  unfold open1
  rw [argItem.openN]
  split <;> rfl

theorem closeN_succ (n : Nat) (st : List Frame) :
    argItem.closeN (n + 1) st = bindE (argItem.closeN n st) close1 := by
  induction n generalizing st with
  | zero =>
    match st with
    | [] => rfl
    | [_] => rfl
    | (vs, e) :: (pvs, pe) :: t => rfl
  | succ n ih =>
    match st with
    | [] => rfl
    | [_] => rfl
    | (vs, e) :: (pvs, pe) :: t =>
      rw [argItem.closeN, ih]
      rfl

def run : List Tok → List Frame → Except ArgErr (List Frame)
  | [], st => .ok st
  | t :: ts, st => bindE (argItem st (tokText t)) (run ts)

theorem go_eq_run (L : List Tok) (st : List Frame) : parseArgs.go (L.map tokText) st = run L st := by
  induction L generalizing st with
  | nil => rfl
  | cons t ts ih =>
    simp only [List.map_cons, parseArgs.go, run]
    cases argItem st (tokText t) with
    | error e => rfl
    | ok s => exact ih s

theorem run_append (L1 L2 : List Tok) (st : List Frame) :
    run (L1 ++ L2) st = bindE (run L1 st) (run L2) := by
  induction L1 generalizing st with
  | nil => rfl
  | cons t ts ih =>
    simp only [List.cons_append, run, bindE_assoc]
    congr 1
    funext s
    exact ih s

/-! ### wrapping a token list in `{` … `}` -/

def openFirst : List Tok → List Tok
  | [] => []
  | (o, l, c) :: ts => (o + 1, l, c) :: ts

def closeLast : List Tok → List Tok
  | [] => []
  | [(o, l, c)] => [(o, l, c + 1)]
  | t :: ts => t :: closeLast ts

def wrap (L : List Tok) : List Tok := closeLast (openFirst L)

def leaves (L : List Tok) : List Bytes := L.map (fun t => t.2.1)

theorem leaves_openFirst (L : List Tok) : leaves (openFirst L) = leaves L := by
  cases L with
  | nil => rfl
  | cons t ts => rfl

theorem leaves_closeLast (L : List Tok) : leaves (closeLast L) = leaves L := by
  induction L with
  | nil => rfl
  | cons t ts ih =>
    cases ts with
    | nil => rfl
    | cons u us =>
      show leaves (t :: closeLast (u :: us)) = _
      simp only [leaves, List.map_cons] at ih ⊢
      rw [ih]

theorem leaves_wrap (L : List Tok) : leaves (wrap L) = leaves L := by
  unfold wrap; rw [leaves_closeLast, leaves_openFirst]

theorem openFirst_ne (L : List Tok) (h : L ≠ []) : openFirst L ≠ [] := by
  cases L with
  | nil => exact absurd rfl h
  | cons t ts => simp [openFirst]

theorem closeLast_ne (L : List Tok) (h : L ≠ []) : closeLast L ≠ [] := by
  cases L with
  | nil => exact absurd rfl h
  | cons t ts => cases ts <;> simp [closeLast]

theorem wrap_ne (L : List Tok) (h : L ≠ []) : wrap L ≠ [] :=
  closeLast_ne _ (openFirst_ne _ h)

theorem closeLast_cons_ne (t : Tok) (ts : List Tok) (h : ts ≠ []) :
    closeLast (t :: ts) = t :: closeLast ts := by
  cases ts with
  | nil => exact absurd rfl h
  | cons u us => rfl

theorem tokText_open (o c : Nat) (l : Bytes) : tokText (o + 1, l, c) = 123 :: tokText (o, l, c) := by
  simp [tokText, List.replicate_succ]

theorem tokText_close (o c : Nat) (l : Bytes) : tokText (o, l, c + 1) = tokText (o, l, c) ++ [125] := by
  simp [tokText, List.replicate_succ']

theorem join_openFirst (sep : Bytes) (L : List Tok) (h : L ≠ []) :
    join sep ((openFirst L).map tokText) = 123 :: join sep (L.map tokText) := by
  match L with
  | [] => exact absurd rfl h
  | [(o, l, c)] => simp [openFirst, join, tokText_open]
  | (o, l, c) :: u :: us =>
    show tokText (o + 1, l, c) ++ sep ++ join sep (tokText u :: us.map tokText)
      = 123 :: (tokText (o, l, c) ++ sep ++ join sep (tokText u :: us.map tokText))
    rw [tokText_open]
    rfl

theorem join_closeLast (sep : Bytes) (L : List Tok) (h : L ≠ []) :
    join sep ((closeLast L).map tokText) = join sep (L.map tokText) ++ [125] := by
  induction L with
  | nil => exact absurd rfl h
  | cons t ts ih =>
    cases ts with
    | nil =>
      obtain ⟨o, l, c⟩ := t
      simp [closeLast, join, tokText_close]
    | cons u us =>
      rw [closeLast_cons_ne _ _ (by simp), List.map_cons,
        join_cons_ne sep (tokText t) _ (by simpa using closeLast_ne (u :: us) (by simp)), ih (by simp)]
      show _ = (tokText t ++ sep ++ join sep (List.map tokText (u :: us))) ++ [125]
      simp only [List.append_assoc]

theorem join_wrap (sep : Bytes) (L : List Tok) (h : L ≠ []) :
    join sep ((wrap L).map tokText) = [123] ++ join sep (L.map tokText) ++ [125] := by
  unfold wrap
  rw [join_closeLast _ _ (openFirst_ne _ h), join_openFirst _ _ h]
  rfl

theorem run_openFirst (L : List Tok) (h : L ≠ []) (hl : ∀ l ∈ leaves L, LeafOK l) (st : List Frame) :
    run (openFirst L) st = bindE (open1 st) (run L) := by
  match L with
  | [] => exact absurd rfl h
  | (o, l, c) :: ts =>
    have hl' : LeafOK l := hl l (by simp [leaves])
    simp only [openFirst, run]
    rw [argItem_tok _ _ _ _ hl', openN_succ]
    simp only [bindE_assoc]
    congr 1
    funext s
    rw [argItem_tok _ _ _ _ hl']
    simp only [bindE_assoc]

theorem run_tok (o c : Nat) (l : Bytes) (hl : LeafOK l) (st : List Frame) :
    run [(o, l, c)] st = bindE (bindE (argItem.openN o st) (leafStep l)) (argItem.closeN c) := by
  rw [run, argItem_tok _ _ _ _ hl]
  generalize bindE (bindE (argItem.openN o st) (leafStep l)) (argItem.closeN c) = x
  cases x <;> rfl

theorem run_closeLast (L : List Tok) (h : L ≠ []) (hl : ∀ l ∈ leaves L, LeafOK l) (st : List Frame) :
    run (closeLast L) st = bindE (run L st) close1 := by
  induction L generalizing st with
  | nil => exact absurd rfl h
  | cons t ts ih =>
    cases ts with
    | nil =>
      obtain ⟨o, l, c⟩ := t
      have hl' : LeafOK l := hl l (by simp [leaves])
      rw [closeLast, run_tok _ _ _ hl', run_tok _ _ _ hl', funext (closeN_succ c), ← bindE_assoc]
    | cons u us =>
      rw [closeLast_cons_ne _ _ (by simp)]
      simp only [run] at ih ⊢
      rw [bindE_assoc]
      congr 1
      funext s
      exact ih (by simp) (fun l hm => hl l (by simp [leaves] at hm ⊢; exact Or.inr hm)) s

theorem run_wrap (L : List Tok) (h : L ≠ []) (hl : ∀ l ∈ leaves L, LeafOK l) (st : List Frame) :
    run (wrap L) st = bindE (open1 st) (fun s => bindE (run L s) close1) := by
  unfold wrap
  rw [run_closeLast _ (openFirst_ne _ h) (by rw [leaves_openFirst]; exact hl), run_openFirst _ h hl,
    bindE_assoc]

/-! ### the tokens of a printed argument list -/

def wordLeaf (v : Nat) (inacc : Bool) : Bytes := b!"0x" ++ natToHex v ++ (if inacc then b!"?" else [])

def dotsTok (e : Bool) : List Tok := if e then [(0, b!"...", 0)] else []

/-- the list with the elision marker; an empty list is one empty token -/
def finish (L : List Tok) (e : Bool) : List Tok :=
  match L ++ dotsTok e with
  | [] => [(0, [], 0)]
  | t :: ts => t :: ts

mutual
def toksArg : ArgSpec → List Tok
  | .val v inacc => [(0, wordLeaf v inacc, 0)]
  | .otl => [(0, b!"_", 0)]
  | .agg fs e => wrap (finish (toksItems fs) e)
def toksItems : List ArgSpec → List Tok
  | [] => []
  | a :: as => toksArg a ++ toksItems as
end

def toksList (as : List ArgSpec) (e : Bool) : List Tok := finish (toksItems as) e

theorem finish_ne (L : List Tok) (e : Bool) : finish L e ≠ [] := by
  unfold finish; split <;> simp

theorem finish_of_ne (L : List Tok) (e : Bool) (h : L ++ dotsTok e ≠ []) : finish L e = L ++ dotsTok e := by
  unfold finish; split
  · next h' => exact absurd h' h
  · next h' => exact h'.symm

theorem toksArg_ne (a : ArgSpec) : toksArg a ≠ [] := by
  cases a with
  | val v i => simp [toksArg]
  | otl => simp [toksArg]
  | agg fs e => rw [toksArg]; exact wrap_ne _ (finish_ne _ _)

theorem toksItems_eq_nil {as : List ArgSpec} (h : toksItems as = []) : as = [] := by
  cases as with
  | nil => rfl
  | cons a as =>
    rw [toksItems] at h
    exact absurd (List.append_eq_nil_iff.1 h).1 (toksArg_ne a)

theorem leafOK_nil : LeafOK [] := by intro c h; cases h
theorem leafOK_dots : LeafOK b!"..." := by
  intro c h; simp at h; subst h; decide
theorem leafOK_us : LeafOK b!"_" := by
  intro c h; simp at h; subst h; decide
theorem leafOK_word (v : Nat) (i : Bool) : LeafOK (wordLeaf v i) := by
  intro c h
  unfold wordLeaf at h
  rcases List.mem_append.1 h with h | h
  · rcases List.mem_append.1 h with h | h
    · simp at h; rcases h with h | h <;> (subst h; decide)
    · have := List.all_eq_true.1 (natToHex_all_lowerHex v) c h
      simp [leafByte, this]
  · cases i
    · simp at h
    · simp at h; subst h; decide

theorem leaves_append (L1 L2 : List Tok) : leaves (L1 ++ L2) = leaves L1 ++ leaves L2 := by
  simp [leaves]

theorem leaves_finish (L : List Tok) (e : Bool) (h : ∀ l ∈ leaves L, LeafOK l) :
    ∀ l ∈ leaves (finish L e), LeafOK l := by
  unfold finish
  split
  · intro l hl; simp [leaves] at hl; subst hl; exact leafOK_nil
  · next t ts heq =>
    rw [← heq, leaves_append]
    intro l hl
    rcases List.mem_append.1 hl with hl | hl
    · exact h l hl
    · cases e
      · simp [dotsTok, leaves] at hl
      · simp [dotsTok, leaves] at hl; subst hl; exact leafOK_dots

mutual
theorem leaves_toksArg : ∀ (a : ArgSpec), ∀ l ∈ leaves (toksArg a), LeafOK l
  | .val v i => by
    intro l hl; simp [toksArg, leaves] at hl; subst hl; exact leafOK_word v i
  | .otl => by
    intro l hl; simp [toksArg, leaves] at hl; subst hl; exact leafOK_us
  | .agg fs e => by
    rw [toksArg, leaves_wrap]
    exact leaves_finish _ _ (leaves_toksItems fs)
theorem leaves_toksItems : ∀ (as : List ArgSpec), ∀ l ∈ leaves (toksItems as), LeafOK l
  | [] => by intro l hl; simp [toksItems, leaves] at hl
  | a :: as => by
    rw [toksItems, leaves_append]
    intro l hl
    rcases List.mem_append.1 hl with hl | hl
    · exact leaves_toksArg a l hl
    · exact leaves_toksItems as l hl
end

theorem leaves_toksList (as : List ArgSpec) (e : Bool) : ∀ l ∈ leaves (toksList as e), LeafOK l :=
  leaves_finish _ _ (leaves_toksItems as)

def dotsItem (e : Bool) : List Bytes := if e then [b!"..."] else []

theorem dots_text (e : Bool) : (dotsTok e).map tokText = dotsItem e := by
  cases e <;> rfl

theorem join_finish (L : List Tok) (e : Bool) :
    join b!", " ((finish L e).map tokText) = join b!", " (L.map tokText ++ dotsItem e) := by
  unfold finish
  split
  · next h =>
    have := List.append_eq_nil_iff.1 h
    rw [this.1]
    cases e
    · rfl
    · simp [dotsTok] at this
  · next t ts h => rw [← h, List.map_append, dots_text]

mutual
theorem text_toksArg : ∀ (a : ArgSpec), join b!", " ((toksArg a).map tokText) = printArg a
  | .val v i => by simp [toksArg, join, tokText, wordLeaf, printArg]
  | .otl => by simp [toksArg, join, tokText, printArg]
  | .agg fs e => by
    rw [toksArg, join_wrap _ _ (finish_ne _ _), join_finish, text_toksItems fs (dotsItem e), printArg]
    rfl
theorem text_toksItems : ∀ (as : List ArgSpec) (R : List Bytes),
    join b!", " ((toksItems as).map tokText ++ R) = join b!", " (printArgItems as ++ R)
  | [], R => by simp [toksItems, printArgItems]
  | a :: as, R => by
    rw [toksItems, printArgItems, List.map_append, List.append_assoc, List.cons_append]
    have ha : (toksArg a).map tokText ≠ [] := by simpa using toksArg_ne a
    by_cases h : (toksItems as).map tokText ++ R = []
    · have h' := List.append_eq_nil_iff.1 h
      have has : as = [] := toksItems_eq_nil (by simpa using h'.1)
      rw [h'.1, h'.2, has]
      simp [printArgItems, join, text_toksArg a]
    · have h2 : printArgItems as ++ R ≠ [] := by
        intro h3
        have h3' := List.append_eq_nil_iff.1 h3
        apply h
        cases as with
        | nil => simp [toksItems, h3'.2]
        | cons b bs => simp [printArgItems] at h3'
      rw [join_append_ne _ _ _ ha h, join_cons_ne _ _ _ h2, text_toksArg a, text_toksItems as R]
end

theorem text_toksList (as : List ArgSpec) (e : Bool) :
    join b!", " ((toksList as e).map tokText) = printArgList as e := by
  rw [toksList, join_finish, text_toksItems as (dotsItem e)]
  rfl

theorem mem_tokText {t : Tok} {c : UInt8} (h : c ∈ tokText t) : c = 123 ∨ c ∈ t.2.1 ∨ c = 125 := by
  simp only [tokText, List.mem_append, List.mem_replicate] at h
  rcases h with (h | h) | h
  · exact Or.inl h.2
  · exact Or.inr (Or.inl h)
  · exact Or.inr (Or.inr h.2)

theorem not_mem_tokText (t : Tok) (h : LeafOK t.2.1) : (44 : UInt8) ∉ tokText t := by
  intro hm
  rcases mem_tokText hm with h1 | h1 | h1
  · exact absurd h1 (by decide)
  · exact (leafByte_ne (h _ h1)).2.2 rfl
  · exact absurd h1 (by decide)

theorem splitOn_toks (L : List Tok) (hne : L ≠ []) (hl : ∀ l ∈ leaves L, LeafOK l) :
    splitOn (join b!", " (L.map tokText)) Extracted.commaSpace = L.map tokText := by
  apply splitOn_join_commaSpace
  · simpa using hne
  · intro t ht
    obtain ⟨tk, htk, rfl⟩ := List.mem_map.1 ht
    apply hasCS_of_not_mem
    exact not_mem_tokText tk (hl _ (List.mem_map.2 ⟨tk, htk, rfl⟩))

theorem run_single (l : Bytes) (hl : LeafOK l) (st : List Frame) :
    run [(0, l, 0)] st = leafStep l st := by
  rw [run_tok _ _ _ hl]
  simp only [argItem.openN, bindE_ok]
  cases leafStep l st <;> rfl

theorem leafStep_nil (st : List Frame) : leafStep [] st = .ok st := rfl

theorem leafStep_dots (vs : List Arg) (el : Bool) (t : List Frame) :
    leafStep b!"..." ((vs, el) :: t) = .ok ((vs, true) :: t) := rfl

theorem leafStep_us (vs : List Arg) (el : Bool) (t : List Frame) :
    leafStep b!"_" ((vs, el) :: t) = .ok ((vs ++ [.scalar [] 0 false true false], el) :: t) := rfl

theorem getLast?_hex_ne (v : Nat) : ((b!"0x" ++ natToHex v).getLast? == some (63 : UInt8)) = false := by
  rw [beq_eq_false_iff_ne]
  intro h
  rcases List.mem_append.1 (List.mem_of_getLast? h) with h | h
  · exact absurd h (by decide)
  · exact not_mem_natToHex v 63 rfl h

theorem leafStep_word (v : Nat) (i : Bool) (hv : v < 2 ^ 64) (vs : List Arg) (el : Bool) (t : List Frame) :
    leafStep (wordLeaf v i) ((vs, el) :: t) =
      .ok ((vs ++ [.scalar [] v (isPtrValue v) false i], el) :: t) := by
  have hlen : (wordLeaf v i).length > 0 := by simp [wordLeaf]
  have h1 : (wordLeaf v i == Extracted.threeDots) = false := by
    simp [wordLeaf, Extracted.threeDots]
  have h2 : (wordLeaf v i == Extracted.underscore) = false := by
    simp [wordLeaf, Extracted.underscore]
  have hs : hasSuffix (wordLeaf v i) Extracted.inaccurateQuestionMark = i := by
    cases i
    · rw [wordLeaf, if_neg Bool.false_ne_true, List.append_nil]
      exact (hasSuffix_singleton _ _).trans (getLast?_hex_ne v)
    · exact hasSuffix_append _ _
  have ht : (if i then (wordLeaf v i).take ((wordLeaf v i).length - Extracted.inaccurateQuestionMark.length)
      else wordLeaf v i) = b!"0x" ++ natToHex v := by
    cases i <;> simp [wordLeaf, Extracted.inaccurateQuestionMark]
  unfold leafStep
  rw [if_pos hlen, h1, h2]
  simp only [Bool.false_eq_true, if_false, hs, ht, parseUint0_hex v hv]
  rfl

theorem open1_ok (st : List Frame) (h : st.length < 6) : open1 st = .ok (([], false) :: st) := by
  unfold open1
  rw [if_neg]
  show ¬ st.length ≥ 6
  omega

theorem run_dots (e : Bool) (vs : List Arg) (el : Bool) (t : List Frame) :
    run (dotsTok e) ((vs, el) :: t) = .ok ((vs, el || e) :: t) := by
  cases e
  · simp [dotsTok, run]
  · show run [(0, b!"...", 0)] _ = _
    rw [run_single _ leafOK_dots, leafStep_dots]
    simp

theorem run_finish (L : List Tok) (e : Bool) (vs vs' : List Arg) (el : Bool) (t : List Frame)
    (h : run L ((vs, el) :: t) = .ok ((vs', el) :: t)) :
    run (finish L e) ((vs, el) :: t) = .ok ((vs', el || e) :: t) := by
  by_cases hne : L ++ dotsTok e = []
  · have h' := List.append_eq_nil_iff.1 hne
    have he : e = false := by
      cases e
      · rfl
      · simp [dotsTok] at h'
    subst he
    rw [h'.1] at h
    simp only [run] at h
    unfold finish
    rw [hne]
    show run [(0, [], 0)] _ = _
    rw [run_single _ leafOK_nil, leafStep_nil, h]
    simp
  · rw [finish_of_ne _ _ hne, run_append, h, bindE_ok, run_dots]

mutual
theorem run_toksArg : ∀ (a : ArgSpec) (vs : List Arg) (el : Bool) (t : List Frame),
    argWF a = true → argDepth a + (t.length + 1) ≤ 6 →
    run (toksArg a) ((vs, el) :: t) = .ok ((vs ++ [expArg a], el) :: t)
  | .val v i, vs, el, t, hwf, _ => by
    have hv : v < 2 ^ 64 := by simpa [argWF] using hwf
    rw [toksArg, run_single _ (leafOK_word v i), leafStep_word v i hv, expArg]
  | .otl, vs, el, t, _, _ => by
    rw [toksArg, run_single _ leafOK_us, leafStep_us, expArg]
  | .agg fs e, vs, el, t, hwf, hd => by
    rw [argWF] at hwf
    rw [argDepth] at hd
    rw [toksArg, run_wrap _ (finish_ne _ _) (leaves_finish _ _ (leaves_toksItems fs)),
      open1_ok _ (by simp; omega), bindE_ok,
      run_finish _ e [] ([] ++ expArgs fs) false _
        (run_toksItems fs [] false ((vs, el) :: t) hwf (by simp; omega)),
      bindE_ok, expArg]
    simp [close1]
theorem run_toksItems : ∀ (as : List ArgSpec) (vs : List Arg) (el : Bool) (t : List Frame),
    argsWF as = true → argsDepth as + (t.length + 1) ≤ 6 →
    run (toksItems as) ((vs, el) :: t) = .ok ((vs ++ expArgs as, el) :: t)
  | [], vs, el, t, _, _ => by simp [toksItems, run, expArgs]
  | a :: as, vs, el, t, hwf, hd => by
    rw [argsWF, Bool.and_eq_true] at hwf
    rw [argsDepth] at hd
    rw [toksItems, run_append, run_toksArg a vs el t hwf.1 (by omega), bindE_ok,
      run_toksItems as _ el t hwf.2 (by omega), expArgs]
    simp
end

theorem run_toksList (as : List ArgSpec) (e : Bool) (hwf : argsWF as = true) (hd : argsDepth as ≤ 5) :
    run (toksList as e) [([], false)] = .ok [(expArgs as, e)] := by
  have := run_finish _ e [] ([] ++ expArgs as) false []
    (run_toksItems as [] false [] hwf (by simp; omega))
  simpa [toksList] using this

/-- the parser recovers exactly the described arguments -/
theorem parseArgs_print (as : List ArgSpec) (e : Bool)
    (hwf : argsWF as = true) (hd : argsDepth as ≤ 5) :
    parseArgs (printArgList as e) = .ok { values := expArgs as, elided := e } := by
  unfold parseArgs
  simp only
  rw [← text_toksList, splitOn_toks (toksList as e) (finish_ne _ _) (leaves_toksList as e), go_eq_run,
    run_toksList as e hwf hd]

/-- an inlined frame prints `(...)` -/
theorem parseArgs_inlined : parseArgs b!"..." = .ok { values := [], elided := true } :=
  parseArgs_print [] true rfl (by simp [argsDepth])

/-- bytes of a printed argument list -/
def argByte (c : UInt8) : Bool :=
  c == 123 || c == 125 || c == 44 || c == 32 || c == 46 || c == 95 || c == 63 || c == 120 || isLowerHex c

theorem mem_join (sep : Bytes) (L : List Bytes) (c : UInt8) (h : c ∈ join sep L) :
    c ∈ sep ∨ ∃ l ∈ L, c ∈ l := by
  induction L with
  | nil => simp [join] at h
  | cons x xs ih =>
    cases xs with
    | nil => exact Or.inr ⟨x, by simp, by simpa [join] using h⟩
    | cons y ys =>
      rw [join_cons_ne _ _ _ (by simp)] at h
      rcases List.mem_append.1 h with h | h
      · rcases List.mem_append.1 h with h | h
        · exact Or.inr ⟨x, by simp, h⟩
        · exact Or.inl h
      · rcases ih h with h | ⟨l, hl, hc⟩
        · exact Or.inl h
        · exact Or.inr ⟨l, List.mem_cons_of_mem _ hl, hc⟩

theorem argByte_of_leafByte {c : UInt8} (h : leafByte c = true) : argByte c = true := by
  simp only [leafByte, Bool.or_assoc] at h
  simp only [argByte, Bool.or_assoc, h, Bool.or_true]

theorem argByte_tokText (t : Tok) (h : LeafOK t.2.1) : ∀ c ∈ tokText t, argByte c = true := by
  intro c hm
  rcases mem_tokText hm with rfl | h1 | rfl
  · rfl
  · exact argByte_of_leafByte (h _ h1)
  · rfl

theorem printArgList_bytes (as : List ArgSpec) (e : Bool) : ∀ c ∈ printArgList as e, argByte c = true := by
  intro c hc
  rw [← text_toksList] at hc
  rcases mem_join _ _ _ hc with h | ⟨l, hl, hcl⟩
  · simp at h; rcases h with h | h <;> (subst h; decide)
  · obtain ⟨tk, htk, rfl⟩ := List.mem_map.1 hl
    exact argByte_tokText tk (leaves_toksList as e _ (List.mem_map.2 ⟨tk, htk, rfl⟩)) c hcl

/-- in particular no parenthesis and no line break -/
theorem printArgList_lacks (as : List ArgSpec) (e : Bool) (c : UInt8) (h : argByte c = false) :
    c ∉ printArgList as e := by
  intro hm
  rw [printArgList_bytes as e c hm] at h
  cases h

example : argByte 40 = false ∧ argByte 41 = false ∧ argByte 10 = false ∧ argByte 13 = false := by decide

/-- non-vacuity: a nested, elided list at the depth limit -/
example : parseArgs (printArgList
    [.val 1 false, .agg [.agg [.agg [.agg [.agg [.otl, .val 0xc000012345 true] true] false] false] false,
      .agg [] false] false] true)
    = .ok { values := expArgs ([.val 1 false, .agg [.agg [.agg [.agg [.agg [.otl, .val 0xc000012345 true] true]
      false] false] false, .agg [] false] false]), elided := true } :=
  parseArgs_print _ _ (by decide) (by decide)

#print axioms parseArgs_print
#print axioms parseArgs_inlined
#print axioms printArgList_lacks

end PP.Spec
