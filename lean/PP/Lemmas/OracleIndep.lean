import PP.Lemmas.Greedy
import PP.Lemmas.Less
/-
Lemmas for C06 (aggregation part): the result of `aggregateWith` does not
depend on the map-iteration-order oracle.

* `mergeSort_congr`: `List.mergeSort` only ever evaluates `le x y` with `x`
  *before* `y` in the input list, so two comparators agreeing on such pairs sort
  the list identically;
* `bktCmp`: a genuine three-way comparator (`CmpLaws`) that agrees with the Go
  closure `bucketLess` on every pair that is not (first, first);
* `insertG_perm` / `bucketLoop_perm`: the map contents are oracle-independent up
  to permutation;
* `SortInv` (distinct `order`s, at most one `first`): under it `sortBuckets` is the
  sort by `bktLe`, its result is the only sorted permutation (`sortBuckets_unique`,
  `sortBuckets_perm_eq`) and a `first` bucket comes out at the head
  (`sortBuckets_first_head`);
* `OrderInv`: `order`s are pairwise distinct.
-/
namespace PP

/-! ### `mergeSort` compares only (earlier, later) pairs -/

theorem merge_congr {α : Type} {r s : α → α → Bool} (l l' : List α)
    (h : ∀ a ∈ l, ∀ b ∈ l', r a b = s a b) : List.merge l l' r = List.merge l l' s := by
  have := List.map_merge (f := id) (r := r) (s := s) (l := l) (l' := l') h
  simpa using this

open List.MergeSort.Internal in
/-- by recursion on a bound `n` of the length (structural, where `mergeSort` itself is defined by
well-founded recursion) -/
theorem mergeSort_congr_aux {α : Type} {r s : α → α → Bool} :
    ∀ (n : Nat) (l : List α), l.length ≤ n → l.Pairwise (fun a b => r a b = s a b) →
      l.mergeSort r = l.mergeSort s
  | _, [], _, _ => by simp
  | _, [a], _, _ => by simp
  | 0, _ :: _ :: _, hn, _ => by cases hn
  | n + 1, a :: b :: xs, hn, h => by
    have e : _ = a :: b :: xs := splitInTwo_fst_append_splitInTwo_snd ⟨a :: b :: xs, rfl⟩
    have l1 := (splitInTwo ⟨a :: b :: xs, rfl⟩).1.2
    have l2 := (splitInTwo ⟨a :: b :: xs, rfl⟩).2.2
    simp only [List.length_cons] at hn l1 l2
    rw [← e, List.pairwise_append] at h
    rw [List.mergeSort, List.mergeSort, mergeSort_congr_aux n _ (by omega) h.1,
      mergeSort_congr_aux n _ (by omega) h.2.1]
    exact merge_congr _ _ fun x hx y hy =>
      h.2.2 x (List.mem_mergeSort.1 hx) y (List.mem_mergeSort.1 hy)

theorem mergeSort_congr {α : Type} {r s : α → α → Bool} (l : List α)
    (h : l.Pairwise (fun a b => r a b = s a b)) : l.mergeSort r = l.mergeSort s :=
  mergeSort_congr_aux l.length l (Nat.le_refl _) h

theorem mergeSort_pair {α : Type} (le : α → α → Bool) (a b : α) :
    [a, b].mergeSort le = if le a b then [a, b] else [b, a] := by
  simp [List.mergeSort, List.merge]

/-! ### a lawful comparator behind `bucketLess` -/

/-- first-flag, then `Signature.less`, then fewer ids, then creation order -/
def bktCmp (a b : Bkt) : Ordering :=
  (lockedCmp a.first b.first).then ((sigCmp a.key b.key).then
    ((natCmp a.ids.length b.ids.length).then (natCmp a.order b.order)))

theorem bktCmp_laws : CmpLaws bktCmp :=
  CmpLaws.then (lockedCmp_laws.comap (fun b : Bkt => b.first))
    (CmpLaws.then (sigCmp_laws.comap (fun b : Bkt => b.key))
      (CmpLaws.then (natCmp_laws.comap (fun b : Bkt => b.ids.length))
        (natCmp_laws.comap (fun b : Bkt => b.order))))

/-- the `≤` of `bktCmp`, in the shape used by `sortBuckets` -/
def bktLe (a b : Bkt) : Bool := !(bktCmp b a == .lt)

/-- `bucketLess` is the strict part of `bktCmp` except on (first, first) pairs -/
theorem bucketLess_eq (a b : Bkt) (h : (a.first && b.first) = false) :
    bucketLess a b = (bktCmp a b == .lt) := by
  unfold bucketLess bktCmp
  rw [(lockedCmp_laws.comap (fun b : Bkt => b.first)).then_lt a b,
    (sigCmp_laws.comap (fun b : Bkt => b.key)).then_lt a b,
    (natCmp_laws.comap (fun b : Bkt => b.ids.length)).then_lt a b]
  simp only [lockedCmp, natCmp, cmpOfLt_lt, lockedLt, natLt, sigLess_eq]
  cases ha : a.first <;> cases hb : b.first
  · simp only [Bool.or_self, Bool.false_eq_true, if_false, Bool.not_false, Bool.and_true]
    rw [ne_gt_ite]
  · simp
  · simp
  · rw [ha, hb] at h; cases h

theorem bktLe_eq {a b : Bkt} (h : (a.first && b.first) = false) : bktLe a b = !bucketLess b a := by
  rw [bktLe, bucketLess_eq b a (by rw [Bool.and_comm]; exact h)]

theorem bktLe_trans (a b c : Bkt) : bktLe a b = true → bktLe b c = true → bktLe a c = true := by
  simp only [bktLe, Bool.not_eq_true']
  exact fun h1 h2 => bktCmp_laws.not_lt_trans c b a h2 h1

theorem bktLe_total (a b : Bkt) : (bktLe a b || bktLe b a) = true := by
  unfold bktLe
  rw [bktCmp_laws.swap a b]
  cases bktCmp a b <;> rfl

theorem bktLe_antisymm (a b : Bkt) :
    bktLe a b = true → bktLe b a = true → a.order = b.order := by
  simp only [bktLe, Bool.not_eq_true']
  intro h1 h2
  have e := bktCmp_laws.eq_of_incomp a b h2 h1
  simp only [bktCmp, Ordering.then_eq_eq] at e
  exact (natCmp_eq_eq _ _).1 e.2.2.2

/-! ### sorting a list with distinct `order`s and at most one `first` -/

/-- what the map contents satisfy when the loop is done (stable under permutation) -/
def SortInv (bs : List Bkt) : Prop :=
  bs.Pairwise (fun a b => a.order ≠ b.order) ∧
  bs.Pairwise (fun a b => (a.first && b.first) = false)

theorem SortInv.perm {bs bs' : List Bkt} (hp : bs'.Perm bs) (h : SortInv bs) : SortInv bs' :=
  ⟨hp.symm.pairwise h.1 (fun h e => h e.symm),
   hp.symm.pairwise h.2 (fun h => by rw [Bool.and_comm]; exact h)⟩

theorem sortBuckets_eq_bktLe {bs : List Bkt} (h : SortInv bs) :
    sortBuckets bs = bs.mergeSort bktLe :=
  mergeSort_congr bs (h.2.imp fun hab => (bktLe_eq hab).symm)

theorem sortBuckets_perm (bs : List Bkt) : (sortBuckets bs).Perm bs :=
  List.mergeSort_perm _ _

theorem sortBuckets_pairwise_bktLe {bs : List Bkt} (h : SortInv bs) :
    (sortBuckets bs).Pairwise (fun a b => bktLe a b = true) := by
  rw [sortBuckets_eq_bktLe h]
  exact List.pairwise_mergeSort bktLe_trans bktLe_total bs

theorem sortBuckets_sorted {bs : List Bkt} (h : SortInv bs) :
    (sortBuckets bs).Pairwise (fun a b => bucketLess b a = false) := by
  have hs : SortInv (sortBuckets bs) := h.perm (sortBuckets_perm bs)
  refine ((sortBuckets_pairwise_bktLe h).and hs.2).imp fun ⟨hle, hf⟩ => ?_
  simpa [bktLe_eq hf] using hle

/-- any sorted rearrangement of the map contents is the output of `sortBuckets`: the result
does not depend on the (stable or not) sorting algorithm either -/
theorem sortBuckets_unique {bs out : List Bkt} (h : SortInv bs) (hp : out.Perm bs)
    (hs : out.Pairwise (fun a b => bucketLess b a = false)) : out = sortBuckets bs := by
  have ho : SortInv out := h.perm hp
  have hle : out.Pairwise (fun a b => bktLe a b = true) :=
    (hs.and ho.2).imp fun ⟨hl, hf⟩ => by rw [bktLe_eq hf, hl]; rfl
  -- two `bktLe`-sorted permutations differ at most in the order of ties, and ties share `order`
  refine List.Perm.eq_of_pairwise (le := fun a b => bktLe a b = true) ?_
    hle (sortBuckets_pairwise_bktLe h) (hp.trans (sortBuckets_perm bs).symm)
  intro a b ha hb hab hba
  have e := bktLe_antisymm a b hab hba
  exact eq_of_pairwise h.1 (hp.mem_iff.1 ha) ((sortBuckets_perm bs).mem_iff.1 hb)
    (not_not_intro e) (not_not_intro e.symm)

theorem sortBuckets_perm_eq {bs bs' : List Bkt} (h : SortInv bs) (hp : bs'.Perm bs) :
    sortBuckets bs' = sortBuckets bs :=
  sortBuckets_unique h ((sortBuckets_perm bs').trans hp) (sortBuckets_sorted (h.perm hp))

theorem sortBuckets_first_head {bs : List Bkt} (h : SortInv bs) (b : Bkt)
    (hb : b ∈ sortBuckets bs) (hf : b.first = true) : (sortBuckets bs).head? = some b := by
  have hs := (h.perm (sortBuckets_perm bs)).2
  have hle := sortBuckets_pairwise_bktLe h
  generalize sortBuckets bs = out at hb hs hle
  cases out with
  | nil => cases hb
  | cons x rest =>
    rw [List.pairwise_cons] at hle hs
    rcases List.mem_cons.1 hb with rfl | hb
    · rfl
    · -- the head `x` is `≤ b`, but `b`, somewhere in the tail, is flagged first and `x` is not
      have hx : x.first = false := by simpa [hf] using hs.1 b hb
      have hl : lockedCmp true false = .lt := rfl
      have h1 := hle.1 b hb
      simp [bktLe, bktCmp, hf, hx, hl, Ordering.then] at h1

/-! ### one insertion, up to permutation -/

theorem insertG_perm (l : Lvl) {bs' bs : List Bkt} (i : Nat) (g : Goroutine) (hp : bs'.Perm bs)
    (hd : Dissim l bs) :
    (insertG l bs' i g).Perm (insertG l bs i g) := by
  rcases insertG_cases l bs' i g with ⟨pre', b', post', e', _, hb', hi'⟩ | ⟨hn', hi'⟩ <;>
    rcases insertG_cases l bs i g with ⟨pre, b, post, e, _, hb, hi⟩ | ⟨hn, hi⟩
  · -- found in both: it is the same entry
    obtain rfl : b' = b := hd.unique (hp.mem_iff.1 (by simp [e'])) (by simp [e])
      (Signature.similar_trans l _ _ _ hb' (Signature.similar_symm l _ _ hb))
    rw [hi', hi]
    rw [e', e] at hp
    have hp' : (pre' ++ post').Perm (pre ++ post) :=
      ((List.perm_middle.symm.trans hp).trans List.perm_middle).cons_inv
    exact (List.perm_middle.trans (hp'.cons _)).trans List.perm_middle.symm
  · cases (hn b' (hp.mem_iff.1 (by simp [e']))).symm.trans hb'
  · cases (hn' b (hp.mem_iff.2 (by simp [e]))).symm.trans hb
  · rw [hi', hi]
    exact hp.append_right _

theorem bucketLoop_perm {π₁ π₂ : Oracle} (h₁ : ValidOracle π₁) (h₂ : ValidOracle π₂) (l : Lvl) :
    ∀ (gs : List Goroutine) (i : Nat) (bs₁ bs₂ : List Bkt),
      bs₁.Perm bs₂ → Dissim l bs₂ → (∀ g ∈ gs, g.sig.WF = true) →
      (bucketLoop π₁ l i bs₁ gs).Perm (bucketLoop π₂ l i bs₂ gs)
  | [], _, _, _, hp, _, _ => by simpa [bucketLoop] using hp
  | g :: gs, i, bs₁, bs₂, hp, hd, hwf => by
    simp only [bucketLoop]
    have hp' : (π₁ i bs₁).Perm (π₂ i bs₂) := ((h₁ i bs₁).trans hp).trans (h₂ i bs₂).symm
    have hd' : Dissim l (π₂ i bs₂) := hd.perm (h₂ i bs₂)
    exact bucketLoop_perm h₁ h₂ l gs (i + 1) _ _ (insertG_perm l i g hp' hd')
      (insertG_dissim l _ i g (hwf g (by simp)) hd') (fun t ht => hwf t (by simp [ht]))

/-! ### `order`s are pairwise distinct -/

/-- every `order` is a distinct index below the next one -/
def OrderInv (bs : List Bkt) (i : Nat) : Prop :=
  (bs.map (·.order)).Nodup ∧ ∀ o ∈ bs.map (·.order), o < i

theorem insertG_orders (l : Lvl) (bs : List Bkt) (i : Nat) (g : Goroutine) :
    (insertG l bs i g).map (·.order) = bs.map (·.order) ∨
    (insertG l bs i g).map (·.order) = bs.map (·.order) ++ [i] := by
  rcases insertG_cases l bs i g with ⟨pre, b, post, e, _, _, hi⟩ | ⟨_, hi⟩
  · left; rw [hi, e]; simp [Bkt.upd]
  · right; rw [hi]; simp [Bkt.new]

theorem OrderInv.perm {bs bs' : List Bkt} {i : Nat} (hp : bs'.Perm bs) (h : OrderInv bs i) :
    OrderInv bs' i :=
  ⟨(hp.map _).symm.nodup h.1, fun o ho => h.2 o ((hp.map _).mem_iff.1 ho)⟩

theorem insertG_orderInv (l : Lvl) (bs : List Bkt) (i : Nat) (g : Goroutine) (h : OrderInv bs i) :
    OrderInv (insertG l bs i g) (i + 1) := by
  have hlt : ∀ o ∈ bs.map (·.order), o < i + 1 := fun o ho => Nat.lt_succ_of_lt (h.2 o ho)
  unfold OrderInv
  rcases insertG_orders l bs i g with e | e <;> rw [e]
  · exact ⟨h.1, hlt⟩
  · refine ⟨List.nodup_append.2 ⟨h.1, by simp, fun a ha b hb => ?_⟩,
      List.forall_mem_append.2 ⟨hlt, List.forall_mem_singleton.2 (Nat.lt_succ_self i)⟩⟩
    rw [List.mem_singleton.1 hb]
    exact Nat.ne_of_lt (h.2 a ha)

theorem bucketLoop_orderInv {π : Oracle} (hπ : ValidOracle π) (l : Lvl) :
    ∀ (gs : List Goroutine) (i : Nat) (bs : List Bkt),
      OrderInv bs i → OrderInv (bucketLoop π l i bs gs) (i + gs.length)
  | [], _, _, h => by simpa [bucketLoop] using h
  | g :: gs, i, bs, h => by
    have h1 := insertG_orderInv l (π i bs) i g (h.perm (hπ i bs))
    have h2 := bucketLoop_orderInv hπ l gs (i + 1) _ h1
    simpa [bucketLoop, Nat.add_assoc, Nat.add_comm 1] using h2

end PP
