import PP.Lemmas.RootsLayout
import PP.Lemmas.RootsSplit
/-
Local go.mod modules in the layout theorem of C18: the directory prefixes
`isGoModule` walks, the invariant of its cache ("an entry is under a recorded
module, or has no go.mod and its parent directory is an entry too"), and what
the walk answers on a file no recorded module claims.
-/
namespace PP
open Bytes

/-! ### the directory prefixes `parts[:i]` joined -/

/-- the shape of the list of directories `isGoModule` receives -/
structure DirShape (ps : List Bytes) : Prop where
  tail : ∀ x ∈ ps.tail, (47 : UInt8) ∉ x
  head : ∀ x ∈ ps.head?, FirstShape x ∧ allSlash x = false

theorem pfx_one {ps : List Bytes} {a : Bytes} (h : ps.head? = some a) : pfx ps 1 = a := by
  cases ps with
  | nil => simp at h
  | cons x t =>
    simp only [List.head?_cons, Option.some.injEq] at h
    subst h
    simp [pfx, pathJoin, Bytes.join]

theorem pfx_head {ps : List Bytes} {a : Bytes} (h : ps.head? = some a) {i : Nat} (h1 : 0 < i) (h2 : i ≤ ps.length) :
    ∃ t, pfx ps i = a ++ t := by
  induction i with
  | zero => omega
  | succ n ih =>
    by_cases hn : n = 0
    · subst hn
      exact ⟨[], by rw [pfx_one h]; simp⟩
    · obtain ⟨t, e⟩ := ih (by omega) (by omega)
      rw [pfx_succ (by omega) (by omega), e]
      exact ⟨t ++ 47 :: ps[n], by simp⟩

theorem pfx_not_slashes {ps : List Bytes} (hs : DirShape ps) {i : Nat} (h1 : 0 < i) (h2 : i ≤ ps.length) :
    ¬ ∀ c ∈ pfx ps i, c = 47 := by
  obtain ⟨a, t, rfl⟩ := List.exists_cons_of_length_pos (Nat.lt_of_lt_of_le h1 h2)
  obtain ⟨u, e⟩ := pfx_head (a := a) rfl h1 h2
  intro hall
  have : allSlash a = true := by
    simp only [allSlash, List.all_eq_true, beq_iff_eq]
    exact fun c hc => hall c (by rw [e]; simp [hc])
  rw [(hs.head a rfl).2] at this
  cases this

theorem pfx_ne_nil {ps : List Bytes} (hs : DirShape ps) {i : Nat} (h1 : 0 < i) (h2 : i ≤ ps.length) :
    pfx ps i ≠ [] := by
  intro e
  exact pfx_not_slashes hs h1 h2 (by rw [e]; simp)

theorem pfx_length_lt {ps : List Bytes} {i j : Nat} (h1 : 0 < i) (h2 : i < j) (h3 : j ≤ ps.length) :
    (pfx ps i).length < (pfx ps j).length := by
  have := pathJoin_take_drop (ps.take j) i h1 (by simp; omega)
  rw [List.take_take, Nat.min_eq_left (by omega)] at this
  unfold pfx
  rw [← this]
  simp

theorem pfx_ne {ps : List Bytes} {i j : Nat} (h1 : 0 < i) (h2 : i < j) (h3 : j ≤ ps.length) :
    pfx ps i ≠ pfx ps j := by
  intro e
  have := pfx_length_lt h1 h2 h3
  rw [e] at this
  omega

theorem pfx_parent {ps : List Bytes} (hs : DirShape ps) {i : Nat} (h1 : 0 < i) (h2 : i ≤ ps.length)
    {d' x : Bytes} (e : pfx ps i = d' ++ 47 :: x) (hx : (47 : UInt8) ∉ x) :
    (2 ≤ i ∧ d' = pfx ps (i - 1)) ∨ ∀ c ∈ d', c = 47 := by
  by_cases hi : i = 1
  · subst hi
    right
    obtain ⟨a, t, rfl⟩ := List.exists_cons_of_length_pos h2
    rw [pfx_one (a := a) rfl] at e
    exact firstShape_cut (e ▸ (hs.head a rfl).1)
  · left
    obtain ⟨j, rfl⟩ : ∃ j, i = j + 1 := ⟨i - 1, by omega⟩
    have hlt : j < ps.length := by omega
    rw [pfx_succ (by omega) hlt] at e
    obtain ⟨e1, _⟩ := append_sep_inj (hs.tail _ (mem_tail_getElem (by omega) hlt)) hx e
    exact ⟨by omega, by simpa using e1.symm⟩

/-- the directories of a frame file: all parts but the last -/
theorem dirShape_dropLast (f : Bytes) : DirShape (splitPath f).dropLast := by
  have hs := splitPath_shape f
  generalize splitPath f = ps at hs ⊢
  match ps, hs with
  | [], _ | [_], _ => exact ⟨by simp, by simp⟩
  | a :: b :: u, hs =>
    refine ⟨fun x hx => hs.tail x (List.dropLast_subset _ hx), fun x hx => ?_⟩
    simp only [List.dropLast_cons_cons, List.head?_cons, Option.mem_def, Option.some.injEq] at hx
    subst hx
    exact ⟨hs.head a rfl, hs.head_ne (by simp) a rfl⟩

/-! ### the invariant of the go.mod cache -/

/-- the module declared by `dir/go.mod` (`none`: unreadable or no `module` line) -/
def modAt (fs : FS) (dir : Bytes) : Option Bytes :=
  (fs.readFile (pathJoin [dir, b!"go.mod"])).bind reModule

/-- `d` is a recorded module directory or lies under one -/
def Claimed (keys : List Bytes) (d : Bytes) : Prop :=
  ∃ k ∈ keys, k = d ∨ ∃ x, d = k ++ 47 :: x

theorem Claimed.mono {keys keys' : List Bytes} {d : Bytes} (h : Claimed keys d) (hsub : ∀ k ∈ keys, k ∈ keys') :
    Claimed keys' d := by
  obtain ⟨k, hk, h⟩ := h
  exact ⟨k, hsub k hk, h⟩

/-- A cache entry `d` is in order: it is under a recorded module, or it has no `go.mod` and its
parent directory (what precedes its last `/`, unless that is a run of slashes) satisfies `P`. -/
def EntryOK (fs : FS) (keys : List Bytes) (P : Bytes → Prop) (d : Bytes) : Prop :=
  Claimed keys d ∨
    (modAt fs d = none ∧ ∀ d' x, d = d' ++ 47 :: x → (47 : UInt8) ∉ x → (∀ c ∈ d', c = 47) ∨ P d')

theorem EntryOK.mono {fs : FS} {keys keys' : List Bytes} {P Q : Bytes → Prop} {d : Bytes} (h : EntryOK fs keys P d)
    (hk : ∀ k ∈ keys, k ∈ keys') (hp : ∀ d', P d' → Q d') : EntryOK fs keys' Q d :=
  h.imp (·.mono hk) fun ⟨h1, h2⟩ => ⟨h1, fun d' x e hx => (h2 d' x e hx).imp id (hp d')⟩

/-- Every entry of the cache is in order, its parent being an entry too — or the directory `pend`
the walk visits next. -/
def CacheOK (fs : FS) (cache keys : List Bytes) (pend : Option Bytes) : Prop :=
  ∀ d ∈ cache, EntryOK fs keys (fun d' => d' ∈ cache ∨ some d' = pend) d

theorem CacheOK.mono {fs : FS} {cache keys keys' : List Bytes} {pend : Option Bytes}
    (h : CacheOK fs cache keys pend) (hsub : ∀ k ∈ keys, k ∈ keys') : CacheOK fs cache keys' pend :=
  fun d hd => (h d hd).mono hsub fun _ h => h

theorem CacheOK.pend {fs : FS} {cache keys : List Bytes} (h : CacheOK fs cache keys none) (p : Option Bytes) :
    CacheOK fs cache keys p :=
  fun d hd => (h d hd).mono (fun _ h => h) fun _ h => h.imp id fun e => nomatch e

theorem modAt_of_read {fs : FS} {dir b m : Bytes} (h1 : fs.readFile (pathJoin [dir, b!"go.mod"]) = some b)
    (h2 : reModule b = some m) : modAt fs dir = some m := by
  simp [modAt, h1, h2]

theorem isGoModuleGo_succ (fs : FS) (ps : List Bytes) (i : Nat) (cache : List Bytes) :
    isGoModuleGo fs ps (i + 1) cache =
      if cache.contains (pfx ps (i + 1)) then (cache, [], [])
      else match modAt fs (pfx ps (i + 1)) with
        | some m => (pfx ps (i + 1) :: cache, pfx ps (i + 1), m)
        | none => isGoModuleGo fs ps i (pfx ps (i + 1) :: cache) := by
  rw [isGoModuleGo]
  unfold modAt pfx
  split
  · rfl
  · cases fs.readFile (pathJoin [pathJoin (ps.take (i + 1)), b!"go.mod"]) with
    | none => rfl
    | some b => cases reModule b <;> rfl

/-- the walk keeps the cache invariant; a module it finds is to be recorded -/
theorem isGoModuleGo_cacheOK {fs : FS} {ps : List Bytes} (hs : DirShape ps) {keys : List Bytes} (n : Nat)
    (hn : n ≤ ps.length) {cache cache' : List Bytes} {root m : Bytes}
    (hc : CacheOK fs cache keys (if 0 < n then some (pfx ps n) else none))
    (h : isGoModuleGo fs ps n cache = (cache', root, m)) :
    (root = [] ∧ CacheOK fs cache' keys none) ∨ (root ≠ [] ∧ CacheOK fs cache' (root :: keys) none) := by
  induction n generalizing cache with
  | zero =>
    simp only [isGoModuleGo, Prod.mk.injEq] at h
    obtain ⟨rfl, rfl, _⟩ := h
    exact Or.inl ⟨rfl, by simpa using hc⟩
  | succ i ih =>
    simp only [Nat.zero_lt_succ, if_true] at hc
    rw [isGoModuleGo_succ] at h
    split at h
    · -- already looked up: the pending directory is an entry
      rename_i hmem
      simp only [Prod.mk.injEq] at h
      obtain ⟨rfl, rfl, _⟩ := h
      refine Or.inl ⟨rfl, ?_⟩
      have hmem' : pfx ps (i + 1) ∈ cache := by simpa using hmem
      exact fun d hd => (hc d hd).mono (fun _ h => h) fun d' h3 =>
        Or.inl (h3.elim id fun e => Option.some.inj e ▸ hmem')
    · -- the entries already there keep their parents
      have hold : ∀ (keys' : List Bytes), (∀ k ∈ keys, k ∈ keys') → ∀ p, ∀ d ∈ cache,
          EntryOK fs keys' (fun d' => d' ∈ pfx ps (i + 1) :: cache ∨ some d' = p) d :=
        fun keys' hsub p d hd => (hc d hd).mono hsub fun d' h3 =>
          Or.inl (h3.elim (List.mem_cons_of_mem _) fun e => Option.some.inj e ▸ List.mem_cons_self)
      cases hm : modAt fs (pfx ps (i + 1)) with
      | some m' =>
        rw [hm] at h
        simp only [Prod.mk.injEq] at h
        obtain ⟨rfl, rfl, _⟩ := h
        refine Or.inr ⟨pfx_ne_nil hs (Nat.succ_pos i) hn, ?_⟩
        intro d hd
        simp only [List.mem_cons] at hd
        rcases hd with rfl | hd
        · exact Or.inl ⟨_, List.mem_cons_self, Or.inl rfl⟩
        · exact hold _ (fun _ h => List.mem_cons_of_mem _ h) none d hd
      | none =>
        -- the new entry has no go.mod: its parent is visited next
        rw [hm] at h
        refine ih (by omega) ?_ h
        intro d hd
        simp only [List.mem_cons] at hd
        rcases hd with rfl | hd
        · refine Or.inr ⟨hm, ?_⟩
          intro d' x e hx
          rcases pfx_parent hs (Nat.succ_pos i) hn e hx with ⟨h2, h3⟩ | h3
          · right; right
            have : 0 < i := by omega
            simp only [this, if_true]
            rw [h3]
            rfl
          · exact Or.inl h3
        · exact hold keys (fun _ h => h) _ d hd

/-! ### what the walk answers on a file no recorded module claims -/

/-- an entry of the cache that no recorded module claims has no `go.mod`, and
neither has any directory above it -/
theorem cache_chain {fs : FS} {ps : List Bytes} (hs : DirShape ps) {cache keys : List Bytes}
    (hc : CacheOK fs cache keys none)
    (hun : ∀ i, 0 < i → i ≤ ps.length → ¬ Claimed keys (pfx ps i)) :
    ∀ i, 0 < i → i ≤ ps.length → pfx ps i ∈ cache → ∀ j, 0 < j → j ≤ i → modAt fs (pfx ps j) = none := by
  intro i
  induction i with
  | zero => intro h; omega
  | succ n ih =>
    intro h1 h2 hmem j hj1 hj2
    rcases hc _ hmem with hcl | ⟨hnone, hpar⟩
    · exact absurd hcl (hun _ h1 h2)
    · by_cases hj : j = n + 1
      · rw [hj]; exact hnone
      · have hn : 0 < n := by omega
        have hlt : n < ps.length := by omega
        rcases hpar (pfx ps n) ps[n] (pfx_succ hn hlt) (hs.tail _ (mem_tail_getElem hn hlt)) with h3 | h3 | h3
        · exact absurd h3 (pfx_not_slashes hs hn (by omega))
        · exact ih hn (by omega) h3 j hj1 (by omega)
        · cases h3

/-- The walk from `parts[:n]` upwards, started on the cache `cache0` extended
with the directories already visited: it answers the innermost directory with a
`go.mod`, or nothing when there is none. -/
theorem isGoModuleGo_trace {fs : FS} {ps : List Bytes} (n : Nat) (hn : n ≤ ps.length)
    {extra cache0 cache' : List Bytes} {root m : Bytes}
    (hextra : ∀ d ∈ extra, ∃ j, n < j ∧ j ≤ ps.length ∧ d = pfx ps j)
    (hW : ∀ i, 0 < i → i ≤ ps.length → pfx ps i ∈ cache0 → ∀ j, 0 < j → j ≤ i → modAt fs (pfx ps j) = none)
    (h : isGoModuleGo fs ps n (extra ++ cache0) = (cache', root, m)) :
    (root = [] ∧ ∀ j, 0 < j → j ≤ n → modAt fs (pfx ps j) = none) ∨
    (∃ i, 0 < i ∧ i ≤ n ∧ root = pfx ps i ∧ modAt fs root = some m ∧
      ∀ j, i < j → j ≤ n → modAt fs (pfx ps j) = none) := by
  induction n generalizing extra with
  | zero =>
    simp only [isGoModuleGo, Prod.mk.injEq] at h
    exact Or.inl ⟨h.2.1.symm, fun j h1 h2 => by omega⟩
  | succ i ih =>
    rw [isGoModuleGo_succ] at h
    split at h
    · rename_i hmem
      simp only [Prod.mk.injEq] at h
      refine Or.inl ⟨h.2.1.symm, ?_⟩
      have hmem' : pfx ps (i + 1) ∈ extra ++ cache0 := by simpa using hmem
      rcases List.mem_append.mp hmem' with hm | hm
      · obtain ⟨j, hj1, hj2, e⟩ := hextra _ hm
        exact absurd e (pfx_ne (Nat.succ_pos i) hj1 hj2)
      · exact hW (i + 1) (Nat.succ_pos i) hn hm
    · cases hm : modAt fs (pfx ps (i + 1)) with
      | some m' =>
        rw [hm] at h
        simp only [Prod.mk.injEq] at h
        obtain ⟨_, rfl, rfl⟩ := h
        exact Or.inr ⟨i + 1, Nat.succ_pos i, Nat.le_refl _, rfl, hm, fun j h1 h2 => by omega⟩
      | none =>
        rw [hm, ← List.cons_append] at h
        have hextra' : ∀ d ∈ pfx ps (i + 1) :: extra, ∃ j, i < j ∧ j ≤ ps.length ∧ d = pfx ps j := by
          intro d hd
          rcases List.mem_cons.mp hd with rfl | hd
          · exact ⟨i + 1, by omega, hn, rfl⟩
          · obtain ⟨j, hj1, hj2, e⟩ := hextra d hd
            exact ⟨j, by omega, hj2, e⟩
        have hnone : ∀ j, ¬ j ≤ i → j ≤ i + 1 → modAt fs (pfx ps j) = none := by
          intro j h1 h2
          rw [show j = i + 1 by omega]
          exact hm
        rcases ih (by omega) hextra' h with ⟨h1, h2⟩ | ⟨i', h1, h2, h3, h4, h5⟩
        · refine Or.inl ⟨h1, fun j hj1 hj2 => ?_⟩
          by_cases hj : j ≤ i
          · exact h2 j hj1 hj
          · exact hnone j hj hj2
        · refine Or.inr ⟨i', h1, by omega, h3, h4, fun j hj1 hj2 => ?_⟩
          by_cases hj : j ≤ i
          · exact h5 j hj1 hj
          · exact hnone j hj hj2

/-! ### a clean path and its directory prefixes -/

theorem pathJoin_ne_nil {xs : List Bytes} (h : xs ≠ []) (hx : ∀ x ∈ xs, x ≠ []) : pathJoin xs ≠ [] := by
  cases xs with
  | nil => exact absurd rfl h
  | cons a t =>
    have ha := hx a List.mem_cons_self
    cases t with
    | nil => simpa [pathJoin, Bytes.join] using ha
    | cons b u =>
      intro e
      simp only [pathJoin, Bytes.join, List.append_eq_nil_iff] at e
      exact ha e.1.1

theorem clean_split {f : Bytes} (hclean : pathJoin (splitPath f) = f) {i : Nat} (h1 : 0 < i)
    (h2 : i < (splitPath f).length) : ∃ t, t ≠ [] ∧ f = pfx (splitPath f) i ++ 47 :: t := by
  refine ⟨pathJoin ((splitPath f).drop i), ?_, ?_⟩
  · apply pathJoin_ne_nil
    · intro e
      rw [List.drop_eq_nil_iff] at e
      omega
    · intro x hx
      exact (splitPath_shape f).nonempty x (List.mem_of_mem_drop hx)
  · have := pathJoin_take_drop (splitPath f) i h1 h2
    rw [hclean] at this
    exact this.symm.trans (by simp [pfx])

/-! ### the skip test on the recorded modules -/

theorem mapHasPrefix_of_mem {p k t : Bytes} {s : AMap} (hk : k ∈ s.keys) (e : p = k ++ 47 :: t) (ht : t ≠ []) :
    mapHasPrefix p s = true := by
  simp only [AMap.keys, List.mem_map] at hk
  obtain ⟨kv, hkv, rfl⟩ := hk
  unfold mapHasPrefix
  rw [List.any_eq_true]
  refine ⟨kv, hkv, ?_⟩
  have hl : 0 < t.length := List.length_pos_iff.mpr ht
  subst e
  simp
  omega

theorem not_claimed_of_skip {f : Bytes} {s : AMap} (hclean : pathJoin (splitPath f) = f)
    (hskip : mapHasPrefix f s = false) {i : Nat} (h1 : 0 < i) (h2 : i < (splitPath f).length) :
    ¬ Claimed s.keys (pfx (splitPath f) i) := by
  rintro ⟨k, hk, hc⟩
  obtain ⟨t, ht, e⟩ := clean_split hclean h1 h2
  rcases hc with rfl | ⟨x, hx⟩
  · rw [mapHasPrefix_of_mem hk e ht] at hskip
    exact absurd hskip (by simp)
  · rw [hx] at e
    have e' : f = k ++ 47 :: (x ++ 47 :: t) := by rw [e]; simp
    rw [mapHasPrefix_of_mem hk e' (by simp)] at hskip
    exact absurd hskip (by simp)

/-! ### `findModule` on a state whose cache is consistent -/

/-- the cache of the state is consistent with the recorded modules -/
def CI (fs : FS) (st : RootsState) : Prop := CacheOK fs st.cache st.gomods.keys none

theorem findModule_cacheOK {fs : FS} {cache keys : List Bytes} (f : Bytes) (hc : CacheOK fs cache keys none) :
    ((findModule fs cache (splitPath f)).2.1 = [] ∧
        CacheOK fs (findModule fs cache (splitPath f)).1 keys none) ∨
    ((findModule fs cache (splitPath f)).2.1 ≠ [] ∧
        CacheOK fs (findModule fs cache (splitPath f)).1 ((findModule fs cache (splitPath f)).2.1 :: keys) none) := by
  unfold findModule
  split
  · exact isGoModuleGo_cacheOK (dirShape_dropLast f) _ (Nat.le_refl _) (hc.pend _) rfl
  · exact Or.inl ⟨rfl, hc⟩

/-- On a clean file that no recorded module claims, `findModule` answers the
innermost directory above the file that has a `go.mod`, whatever the cache
holds; nothing when there is none. -/
theorem findModule_trace {fs : FS} {st : RootsState} {f : Bytes} (hci : CI fs st)
    (hclean : pathJoin (splitPath f) = f) (hskip : mapHasPrefix f st.gomods = false) :
    ((findModule fs st.cache (splitPath f)).2.1 = [] ∧
      ∀ j, 0 < j → j < (splitPath f).length → modAt fs (pathJoin ((splitPath f).take j)) = none) ∨
    (∃ i, 0 < i ∧ i < (splitPath f).length ∧
      (findModule fs st.cache (splitPath f)).2.1 = pathJoin ((splitPath f).take i) ∧
      modAt fs (pathJoin ((splitPath f).take i)) = some (findModule fs st.cache (splitPath f)).2.2 ∧
      ∀ j, i < j → j < (splitPath f).length → modAt fs (pathJoin ((splitPath f).take j)) = none) := by
  unfold findModule isGoModule
  split
  · rename_i hlen
    have hN : (splitPath f).dropLast.length = (splitPath f).length - 1 := by simp
    have hs := dirShape_dropLast f
    have hun : ∀ i, 0 < i → i ≤ (splitPath f).dropLast.length →
        ¬ Claimed st.gomods.keys (pfx (splitPath f).dropLast i) := by
      intro i h1 h2
      rw [pfx_dropLast _ (by omega)]
      exact not_claimed_of_skip hclean hskip h1 (by omega)
    have hW := cache_chain hs hci hun
    have hrun : isGoModuleGo fs (splitPath f).dropLast (splitPath f).dropLast.length ([] ++ st.cache) =
        isGoModuleGo fs (splitPath f).dropLast (splitPath f).dropLast.length st.cache := rfl
    rcases isGoModuleGo_trace (fs := fs) (ps := (splitPath f).dropLast) _ (Nat.le_refl _)
        (extra := []) (by simp) hW hrun with ⟨h1, h2⟩ | ⟨i, h1, h2, h3, h4, h5⟩
    · refine Or.inl ⟨h1, ?_⟩
      intro j hj1 hj2
      have := h2 j hj1 (by omega)
      rw [pfx_dropLast _ hj2] at this
      exact this
    · refine Or.inr ⟨i, h1, by omega, ?_, ?_, ?_⟩
      · rw [h3, pfx_dropLast _ (by omega)]; rfl
      · rw [h3, pfx_dropLast _ (by omega)] at h4; exact h4
      · intro j hj1 hj2
        have := h5 j hj1 (by omega)
        rw [pfx_dropLast _ hj2] at this
        exact this
  · rename_i hlen
    refine Or.inl ⟨rfl, ?_⟩
    intro j hj1 hj2
    omega

end PP
