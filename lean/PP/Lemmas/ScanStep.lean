import PP.Model.Scan
/-
The equations of `scan`: the two tests before the switch, one equation per state, and the
equations of the helpers the branches call.  Proofs about the scanner rewrite with these
instead of unfolding `scan`.  Three blocks that several states share are given a name here,
`fileStep`, `raceGorStep`, `raceFuncStep`, and the state equations are stated with them.
-/
namespace PP
open Bytes

theorem modifyLast_nil (f : Goroutine → Goroutine) : modifyLast [] f = none := rfl

theorem modifyLast_snoc (init : List Goroutine) (g : Goroutine) (f : Goroutine → Goroutine) :
    modifyLast (init ++ [g]) f = some (init ++ [f g]) := by
  simp [modifyLast]

theorem exists_snoc_of_ne_nil {α} {l : List α} (h : l ≠ []) : ∃ init x, l = init ++ [x] :=
  ⟨l.dropLast, l.getLast h, (List.dropLast_concat_getLast h).symm⟩

theorem modifyAt_lt (gs : List Goroutine) (i : Nat) (f : Goroutine → Goroutine) (hi : i < gs.length) :
    modifyAt gs i f = some (gs.set i (f gs[i])) :=
  dif_pos hi

theorem initLast_nil (pl : Bytes × Nat) : initLast [] pl = none := rfl

theorem initLast_snoc (cs : List Call) (c : Call) (pl : Bytes × Nat) :
    initLast (cs ++ [c]) pl = some (cs ++ [c.init pl.1 pl.2]) := by
  simp [initLast]

theorem needLastCall_nil {s : S} (h : s.gs = []) : needLastCall s = .error .nilCur := by
  simp [needLastCall, h]

theorem needLastCall_snoc {s : S} {init : List Goroutine} {g : Goroutine} (h : s.gs = init ++ [g]) :
    needLastCall s = if g.sig.stack.calls.isEmpty then .error .index else .ok () := by
  simp [needLastCall, h]

theorem needCreated0_nil {s : S} (h : s.gs = []) : needCreated0 s = .error .nilCur := by
  simp [needCreated0, h]

theorem needCreated0_snoc {s : S} {init : List Goroutine} {g : Goroutine} (h : s.gs = init ++ [g]) :
    needCreated0 s = if g.sig.createdBy.calls.isEmpty then .error .index else .ok () := by
  simp [needCreated0, h]

theorem curAppendCall_nil {s : S} (h : s.gs = []) (c : Call) : curAppendCall s c = .error .nilCur := by
  simp [curAppendCall, h, modifyLast_nil]

theorem curAppendCall_snoc {s : S} {init : List Goroutine} {g : Goroutine} (h : s.gs = init ++ [g])
    (c : Call) :
    curAppendCall s c =
      .ok { s with gs := init ++ [setStack g (fun st => { st with calls := st.calls ++ [c] })] } := by
  simp [curAppendCall, h, modifyLast_snoc]

theorem funcStep_none (s : S) (next : St) (orElse : R) : funcStep s none next orElse = orElse := rfl

theorem funcStep_nil {s : S} (h : s.gs = []) (c : Call) (e : Option Err) (next : St) (orElse : R) :
    funcStep s (some (c, e)) next orElse = .error .nilCur := by
  simp [funcStep, curAppendCall_nil h]

theorem funcStep_snoc {s : S} {init : List Goroutine} {g : Goroutine} (h : s.gs = init ++ [g])
    (c : Call) (e : Option Err) (next : St) (orElse : R) :
    funcStep s (some (c, e)) next orElse =
      .ok ({ s with st := next,
                    gs := init ++ [setStack g (fun st => { st with calls := st.calls ++ [c] })] }, e.isNone, e) := by
  simp [funcStep, curAppendCall_snoc h]

theorem createdStep_nil {s : S} (h : s.gs = []) (r : Except Err Func) (doInit : Bool) :
    createdStep s r doInit = .error .nilCur := by
  cases r <;> simp [createdStep, h, modifyLast_nil]

theorem createdStep_snoc_ok {s : S} {init : List Goroutine} {g : Goroutine} (h : s.gs = init ++ [g])
    (f : Func) (doInit : Bool) :
    createdStep s (.ok f) doInit =
      .ok ({ s with st := .gotCreated, gs := init ++ [setCreated g (fun st =>
        { st with calls := [if doInit then ({ fn := f } : Call).init [] 0 else { fn := f }] })] }, true, none) := by
  simp [createdStep, h, modifyLast_snoc]

theorem createdStep_snoc_error {s : S} {init : List Goroutine} {g : Goroutine} (h : s.gs = init ++ [g])
    (e : Err) (doInit : Bool) :
    createdStep s (.error e) doInit =
      .ok ({ s with gs := init ++ [setCreated g (fun st => { st with calls := [] })] }, false, some e) := by
  simp [createdStep, h, modifyLast_snoc]

/-- `gotFunc`, `gotRaceOperationFunc`: the file line of the last call of the last goroutine -/
def fileStep (s : S) (l : Line) (next : St) (orElse : Err) : R :=
  match needLastCall s with
  | .error p => .error p
  | .ok () =>
    match l.file with
    | some (some pl) =>
      match modifyLast s.gs (fun g => setStack g (fun st => { st with calls := (initLast st.calls pl).getD st.calls })) with
      | none => .error .nilCur
      | some gs => .ok ({ s with st := next, gs := gs }, true, none)
    | some none => .ok (s, false, some .fileInt)
    | none => .ok (s, false, some orElse)

/-- `betweenRaceOperations`, `betweenRaceGoroutines`: a `Goroutine N (…) created at:` line selects
the first goroutine with id `N` -/
def raceGorStep (s : S) (l : Line) : R :=
  match l.raceGor with
  | some (some id, stt) =>
    match s.gs.findIdx? (fun g => g.id == id) with
    | some i =>
      match modifyAt s.gs i (fun g => { g with sig := { g.sig with state := stt } }) with
      | some gs => .ok ({ s with st := .gotRaceGoroutineHeader, gs := gs, gi := i }, true, none)
      | none => .error .index
    | none => .ok (s, false, some .raceUnknownGoroutine)
  | some (none, _) => .ok (s, false, some .raceId)
  | none => .ok (s, false, some .raceOpOrGoroutine)

/-- `gotRaceGoroutineHeader`, `gotRaceGoroutineFile`: a frame of the creation stack of goroutine `gi` -/
def raceFuncStep (s : S) (l : Line) : R :=
  match l.funcL with
  | some (c, e) =>
    match modifyAt s.gs s.gi (fun g => setCreated g (fun st => { st with calls := st.calls ++ [c] })) with
    | some gs => .ok ({ s with st := .gotRaceGoroutineFunc, gs := gs }, e.isNone, e)
    | none => .error .index
  | none => .ok (s, false, some .raceFuncOrFile)

/-! ### what the shared branches return

`WhenOk r P`: `P` holds of the result `r` unless it is a panic.  For each shared branch, the
results it can return: a property of all of them is a property of the branch. -/

def WhenOk (r : R) (P : S → Bool → Option Err → Prop) : Prop := ∀ s' b e, r = .ok (s', b, e) → P s' b e

theorem whenOk_ok {P : S → Bool → Option Err → Prop} {s' : S} {b : Bool} {e : Option Err} (h : P s' b e) :
    WhenOk (.ok (s', b, e)) P := by
  intro s1 b1 e1 h1
  cases h1
  exact h

theorem whenOk_error {P : S → Bool → Option Err → Prop} {p : Panic} : WhenOk (.error p) P :=
  fun _ _ _ h => nomatch h

theorem modifyLast_whenOk {P : S → Bool → Option Err → Prop} {s : S} {f : Goroutine → Goroutine}
    {k : List Goroutine → S × Bool × Option Err}
    (h : ∀ init g, s.gs = init ++ [g] → P (k (init ++ [f g])).1 (k (init ++ [f g])).2.1 (k (init ++ [f g])).2.2) :
    WhenOk (match modifyLast s.gs f with | none => .error .nilCur | some gs => .ok (k gs)) P := by
  by_cases hgs : s.gs = []
  · rw [hgs]; exact whenOk_error
  · obtain ⟨init, g, hgs⟩ := exists_snoc_of_ne_nil hgs
    rw [hgs, modifyLast_snoc]
    exact whenOk_ok (h init g hgs)

theorem funcStep_whenOk {P : S → Bool → Option Err → Prop} {s : S} {r : Option (Call × Option Err)}
    {next : St} {orElse : R} (hor : WhenOk orElse P)
    (h : ∀ init g c e, s.gs = init ++ [g] → r = some (c, e) →
      P { s with st := next, gs := init ++ [setStack g (fun st => { st with calls := st.calls ++ [c] })] } e.isNone e) :
    WhenOk (funcStep s r next orElse) P := by
  rcases r with _ | ⟨c, e⟩
  · exact hor
  · by_cases hgs : s.gs = []
    · rw [funcStep_nil hgs]; exact whenOk_error
    · obtain ⟨init, g, hgs⟩ := exists_snoc_of_ne_nil hgs
      rw [funcStep_snoc hgs]
      exact whenOk_ok (h init g c e hgs rfl)

theorem createdStep_whenOk {P : S → Bool → Option Err → Prop} {s : S} {r : Except Err Func} {doInit : Bool}
    (hok : ∀ init g f, s.gs = init ++ [g] → P { s with st := .gotCreated, gs := init ++ [setCreated g (fun st =>
      { st with calls := [if doInit then ({ fn := f } : Call).init [] 0 else { fn := f }] })] } true none)
    (herr : ∀ init g e, s.gs = init ++ [g] →
      P { s with gs := init ++ [setCreated g (fun st => { st with calls := [] })] } false (some e)) :
    WhenOk (createdStep s r doInit) P := by
  by_cases hgs : s.gs = []
  · rw [createdStep_nil hgs]; exact whenOk_error
  · obtain ⟨init, g, hgs⟩ := exists_snoc_of_ne_nil hgs
    rcases r with e | f
    · rw [createdStep_snoc_error hgs]; exact whenOk_ok (herr init g e hgs)
    · rw [createdStep_snoc_ok hgs]; exact whenOk_ok (hok init g f hgs)

theorem fileStep_whenOk {P : S → Bool → Option Err → Prop} {s : S} {l : Line} {next : St} {orElse : Err}
    (hfile : ∀ init g pl, s.gs = init ++ [g] → l.file = some (some pl) →
      P { s with st := next, gs := init ++ [setStack g (fun st =>
        { st with calls := (initLast st.calls pl).getD st.calls })] } true none)
    (herr : ∀ e, P s false (some e)) : WhenOk (fileStep s l next orElse) P := by
  unfold fileStep
  split
  · exact whenOk_error
  · split
    · rename_i pl hpl
      exact modifyLast_whenOk (k := fun gs => ({ s with st := next, gs := gs }, true, none))
        (fun init g hgs => hfile init g pl hgs hpl)
    · exact whenOk_ok (herr _)
    · exact whenOk_ok (herr _)

theorem raceGorStep_whenOk {P : S → Bool → Option Err → Prop} {s : S} {l : Line}
    (hfound : ∀ id stt i (hi : i < s.gs.length), l.raceGor = some (some id, stt) → s.gs[i].id = id →
      P { s with st := .gotRaceGoroutineHeader,
                 gs := s.gs.set i { s.gs[i] with sig := { s.gs[i].sig with state := stt } }, gi := i } true none)
    (herr : ∀ e, P s false (some e)) : WhenOk (raceGorStep s l) P := by
  unfold raceGorStep
  split
  · rename_i id stt hl
    split
    · rename_i i hi
      obtain ⟨hlt, hid, _⟩ := List.findIdx?_eq_some_iff_getElem.mp hi
      rw [modifyAt_lt _ _ _ hlt]
      exact whenOk_ok (hfound id stt i hlt hl (by simpa using hid))
    · exact whenOk_ok (herr _)
  · exact whenOk_ok (herr _)
  · exact whenOk_ok (herr _)

theorem raceFuncStep_whenOk {P : S → Bool → Option Err → Prop} {s : S} {l : Line}
    (hfunc : ∀ c e (hi : s.gi < s.gs.length), l.funcL = some (c, e) →
      P { s with st := .gotRaceGoroutineFunc, gs := s.gs.set s.gi (setCreated s.gs[s.gi] (fun st =>
        { st with calls := st.calls ++ [c] })) } e.isNone e)
    (herr : ∀ e, P s false (some e)) : WhenOk (raceFuncStep s l) P := by
  unfold raceFuncStep
  split
  · rename_i c e hl
    by_cases hlt : s.gi < s.gs.length
    · rw [modifyAt_lt _ _ _ hlt]
      exact whenOk_ok (hfunc c e hlt hl)
    · rw [modifyAt, dif_neg hlt]
      exact whenOk_error
  · exact whenOk_ok (herr _)

/-- an unterminated line is not looked at while no dump is being read -/
theorem scan_noEOL {s : S} {l : Line} (he : l.hasEOL = false) (hs : s.st = .looking ∨ s.st = .done) :
    scan s l = .ok (s, false, none) := by
  unfold scan
  rcases hs with hs | hs <;> simp [he, hs]

/-- a line that has passed the first test and does not start with the prefix ends the dump -/
theorem scan_badIndent {s : S} {l : Line} (he : l.hasEOL = true ∨ (s.st ≠ .looking ∧ s.st ≠ .done))
    (hi : l.indentOK = false) :
    scan s l = .ok ({ s with st := .done, pfx := [] }, false, some .indent) := by
  unfold scan
  rcases he with he | he <;> simp [he, hi]

theorem scan_early (s : S) (l : Line) :
    scan s l = .ok (s, false, none) ∨
    scan s l = .ok ({ s with st := .done, pfx := [] }, false, some .indent) ∨
    (l.indentOK = true ∧ (l.hasEOL = true ∨ (s.st ≠ .looking ∧ s.st ≠ .done))) := by
  by_cases he : l.hasEOL = true ∨ (s.st ≠ .looking ∧ s.st ≠ .done)
  · cases hi : l.indentOK
    · exact Or.inr (Or.inl (scan_badIndent he hi))
    · exact Or.inr (Or.inr ⟨rfl, he⟩)
  · refine Or.inl (scan_noEOL ?_ ?_)
    · cases h : l.hasEOL
      · rfl
      · exact absurd (Or.inl h) he
    · apply Decidable.byContradiction
      intro h
      exact he (Or.inr ⟨fun h1 => h (Or.inl h1), fun h2 => h (Or.inr h2)⟩)

/-- both tests before the switch fail -/
private theorem scan_guards {b i : Bool} {st : St} {x y z : R}
    (h : (st == .looking || st == .done) = false ∨ b = true) (hi : i = true) :
    (if !b && (st == .looking || st == .done) then x else if !i then y else z) = z := by
  subst hi
  rcases h with h | h <;> simp [h]

/-! ### the switch, state by state (`hi`: the line starts with the prefix) -/

theorem scan_done {s : S} {l : Line} (hs : s.st = .done) (hi : l.indentOK = true) :
    scan s l = .ok (s, false, none) := by
  obtain ⟨st, gs, gi, pfx⟩ := s
  cases hs
  cases he : l.hasEOL
  · exact scan_noEOL he (Or.inr rfl)
  · exact scan_guards (Or.inr he) hi

theorem scan_looking {s : S} {l : Line} (hs : s.st = .looking) (he : l.hasEOL = true)
    (hi : l.indentOK = true) :
    scan s l =
      match l.header with
      | some h =>
        .ok ({ s with st := .gotRoutineHeader, gs := s.gs ++ [mkGoroutine h s.gs.isEmpty],
                      pfx := h.indent }, true, none)
      | none =>
        if l.sep then .ok ({ s with st := .gotRaceHeader1 }, true, none) else .ok (s, false, none) := by
  obtain ⟨st, gs, gi, pfx⟩ := s
  cases hs
  refine (scan_guards (Or.inr he) hi).trans ?_
  cases l.header <;> cases l.sep <;> rfl

theorem scan_betweenRoutine {s : S} {l : Line} (hs : s.st = .betweenRoutine) (hi : l.indentOK = true) :
    scan s l =
      match l.header with
      | some h =>
        .ok ({ s with st := .gotRoutineHeader, gs := s.gs ++ [mkGoroutine h s.gs.isEmpty] }, true, none)
      | none => .ok ({ s with st := .done }, false, none) := by
  obtain ⟨st, gs, gi, pfx⟩ := s
  cases hs
  refine (scan_guards (Or.inl rfl) hi).trans ?_
  cases l.header <;> rfl

theorem scan_gotRoutineHeader {s : S} {l : Line} (hs : s.st = .gotRoutineHeader) (hi : l.indentOK = true) :
    scan s l =
      if l.unavail then
        match modifyLast s.gs (fun g => setStack g (fun st => { st with calls := [{ remoteSrcPath := b!"<unavailable>" }] })) with
        | none => .error .nilCur
        | some gs => .ok ({ s with st := .gotUnavail, gs := gs }, true, none)
      else
        match s.gs.reverse with
        | [] => (match l.func with | some _ => .error .nilCur | none => .ok (s, false, some .funcAfterHeader))
        | _ => funcStep s l.func .gotFunc (.ok (s, false, some .funcAfterHeader)) := by
  obtain ⟨st, gs, gi, pfx⟩ := s
  cases hs
  exact scan_guards (Or.inl rfl) hi

theorem scan_gotFunc {s : S} {l : Line} (hs : s.st = .gotFunc) (hi : l.indentOK = true) :
    scan s l = fileStep s l .gotFileFunc .fileAfterFunc := by
  obtain ⟨st, gs, gi, pfx⟩ := s
  cases hs
  exact scan_guards (Or.inl rfl) hi

theorem scan_gotCreated {s : S} {l : Line} (hs : s.st = .gotCreated) (hi : l.indentOK = true) :
    scan s l =
      match needCreated0 s with
      | .error p => .error p
      | .ok () =>
        match l.file with
        | some (some pl) =>
          match modifyLast s.gs (fun g => setCreated g (fun st =>
              { st with calls := match st.calls with | c :: cs => c.init pl.1 pl.2 :: cs | [] => [] })) with
          | none => .error .nilCur
          | some gs => .ok ({ s with st := .gotFileCreated, gs := gs }, true, none)
        | some none => .ok (s, false, some .fileInt)
        | none => .ok (s, false, some .fileAfterCreated) := by
  obtain ⟨st, gs, gi, pfx⟩ := s
  cases hs
  exact scan_guards (Or.inl rfl) hi

theorem scan_gotFileFunc {s : S} {l : Line} (hs : s.st = .gotFileFunc) (hi : l.indentOK = true) :
    scan s l =
      match l.created with
      | some r => createdStep s r true
      | none =>
        if l.elidedMark then
          match modifyLast s.gs (fun g => setStack g (fun st => { st with elided := true })) with
          | none => .error .nilCur
          | some gs => .ok ({ s with gs := gs }, true, none)
        else
          funcStep s l.func .gotFunc
            (if l.empty then .ok ({ s with st := .betweenRoutine }, true, none)
             else .ok ({ s with st := .done }, false, none)) := by
  obtain ⟨st, gs, gi, pfx⟩ := s
  cases hs
  exact scan_guards (Or.inl rfl) hi

theorem scan_gotFileCreated {s : S} {l : Line} (hs : s.st = .gotFileCreated) (hi : l.indentOK = true) :
    scan s l =
      if l.empty then .ok ({ s with st := .betweenRoutine }, true, none)
      else .ok ({ s with st := .done }, false, none) := by
  obtain ⟨st, gs, gi, pfx⟩ := s
  cases hs
  exact scan_guards (Or.inl rfl) hi

theorem scan_gotUnavail {s : S} {l : Line} (hs : s.st = .gotUnavail) (hi : l.indentOK = true) :
    scan s l =
      if l.empty then .ok ({ s with st := .betweenRoutine }, true, none)
      else
        match l.created with
        | some r => createdStep s r false
        | none => .ok (s, false, some .emptyAfterUnavail) := by
  obtain ⟨st, gs, gi, pfx⟩ := s
  cases hs
  exact scan_guards (Or.inl rfl) hi

theorem scan_gotRaceHeader1 {s : S} {l : Line} (hs : s.st = .gotRaceHeader1) (hi : l.indentOK = true) :
    scan s l =
      if l.warn then .ok ({ s with st := .gotRaceHeader2 }, true, none)
      else .ok ({ s with st := .looking, pfx := [] }, false, none) := by
  obtain ⟨st, gs, gi, pfx⟩ := s
  cases hs
  exact scan_guards (Or.inl rfl) hi

theorem scan_gotRaceHeader2 {s : S} {l : Line} (hs : s.st = .gotRaceHeader2) (hi : l.indentOK = true) :
    scan s l =
      match l.raceOp with
      | some (.ok (w, addr, id)) =>
        if !s.gs.isEmpty then .error .goroutinesNotNil
        else .ok ({ s with st := .gotRaceOperationHeader,
                           gs := [{ id := id, first := true, raceWrite := w, raceAddr := addr }], gi := 0 }, true, none)
      | some (.error e) => .ok (s, false, some e)
      | none => .ok (s, false, some .raceExpected) := by
  obtain ⟨st, gs, gi, pfx⟩ := s
  cases hs
  exact scan_guards (Or.inl rfl) hi

theorem scan_gotRaceOperationHeader {s : S} {l : Line} (hs : s.st = .gotRaceOperationHeader)
    (hi : l.indentOK = true) :
    scan s l = funcStep s l.funcL .gotRaceOperationFunc (.ok (s, false, some .raceFunc)) := by
  obtain ⟨st, gs, gi, pfx⟩ := s
  cases hs
  exact scan_guards (Or.inl rfl) hi

theorem scan_gotRaceOperationFunc {s : S} {l : Line} (hs : s.st = .gotRaceOperationFunc)
    (hi : l.indentOK = true) :
    scan s l = fileStep s l .gotRaceOperationFile .raceFile := by
  obtain ⟨st, gs, gi, pfx⟩ := s
  cases hs
  exact scan_guards (Or.inl rfl) hi

theorem scan_gotRaceOperationFile {s : S} {l : Line} (hs : s.st = .gotRaceOperationFile)
    (hi : l.indentOK = true) :
    scan s l =
      if l.empty then .ok ({ s with st := .betweenRaceOperations }, true, none)
      else funcStep s l.funcL .gotRaceOperationFunc (.ok (s, false, some .raceEmptyAfterFile)) := by
  obtain ⟨st, gs, gi, pfx⟩ := s
  cases hs
  exact scan_guards (Or.inl rfl) hi

theorem scan_betweenRaceOperations {s : S} {l : Line} (hs : s.st = .betweenRaceOperations)
    (hi : l.indentOK = true) :
    scan s l =
      match l.racePrev with
      | some (.ok (w, addr, id)) =>
        .ok ({ s with st := .gotRaceOperationHeader,
                      gs := s.gs ++ [{ id := id, raceWrite := w, raceAddr := addr }], gi := s.gs.length }, true, none)
      | some (.error e) => .ok (s, false, some e)
      | none => raceGorStep s l := by
  obtain ⟨st, gs, gi, pfx⟩ := s
  cases hs
  refine (scan_guards (Or.inl rfl) hi).trans ?_
  rcases l.racePrev with _ | _ | ⟨w, addr, id⟩ <;> rfl

theorem scan_betweenRaceGoroutines {s : S} {l : Line} (hs : s.st = .betweenRaceGoroutines)
    (hi : l.indentOK = true) : scan s l = raceGorStep s l := by
  obtain ⟨st, gs, gi, pfx⟩ := s
  cases hs
  exact scan_guards (Or.inl rfl) hi

theorem scan_gotRaceGoroutineFunc {s : S} {l : Line} (hs : s.st = .gotRaceGoroutineFunc)
    (hi : l.indentOK = true) :
    scan s l =
      if h : s.gi < s.gs.length then
        if s.gs[s.gi].sig.createdBy.calls.isEmpty then .error .index
        else
          match l.file with
          | some (some pl) =>
            .ok ({ s with st := .gotRaceGoroutineFile,
                          gs := s.gs.set s.gi (setCreated s.gs[s.gi] (fun st => { st with calls := (initLast st.calls pl).getD st.calls })) }, true, none)
          | some none => .ok (s, false, some .fileInt)
          | none => .ok (s, false, some .raceFile)
      else .error .index := by
  obtain ⟨st, gs, gi, pfx⟩ := s
  cases hs
  exact scan_guards (Or.inl rfl) hi

theorem scan_gotRaceGoroutineFile {s : S} {l : Line} (hs : s.st = .gotRaceGoroutineFile)
    (hi : l.indentOK = true) :
    scan s l =
      if l.empty then .ok ({ s with st := .betweenRaceGoroutines }, true, none)
      else if l.sep then .ok ({ s with st := .done }, true, none)
      else raceFuncStep s l := by
  obtain ⟨st, gs, gi, pfx⟩ := s
  cases hs
  exact scan_guards (Or.inl rfl) hi

theorem scan_gotRaceGoroutineHeader {s : S} {l : Line} (hs : s.st = .gotRaceGoroutineHeader)
    (hi : l.indentOK = true) : scan s l = raceFuncStep s l := by
  obtain ⟨st, gs, gi, pfx⟩ := s
  cases hs
  exact scan_guards (Or.inl rfl) hi

end PP
