import PP.Lemmas.HtmlDocLits
/-
The content division: which literals each template writes and how often
(completeness), and that rendering adds no markup byte to them.
-/
namespace PP.Html
open PP PP.Bytes

/-- a `class` hole is inside the modelled fragment of `stripTags` when its value has no `<` -/
def Piece.wf : Piece → Bool
  | .hole .cls v => !v.contains 60
  | _ => true

@[simp] theorem wf_lit (b : Bytes) : Piece.wf (.lit b) = true := rfl
@[simp] theorem wf_tx (v : Bytes) : Piece.wf (tx v) = true := rfl
@[simp] theorem wf_txNat (n : Nat) : Piece.wf (txNat n) = true := rfl
@[simp] theorem wf_href (v : Bytes) : Piece.wf (.hole .href v) = true := rfl

/-- a piece list with literals from `S` and no holes other than text holes -/
def plainPart (S : List Bytes) (ps : List Piece) : Bool :=
  ps.all fun p => match p with | .lit a => S.contains a | .hole k _ => k == .text

theorem plainPart_append (S : List Bytes) (a b : List Piece) :
    plainPart S (a ++ b) = (plainPart S a && plainPart S b) := List.all_append

theorem plainPart_lit (S : List Bytes) (a : Bytes) (ps : List Piece) :
    plainPart S (.lit a :: ps) = (S.contains a && plainPart S ps) := rfl

theorem plainPart_mono {S T : List Bytes} {ps : List Piece} (h : plainPart S ps = true) (hST : S ⊆ T) :
    plainPart T ps = true := by
  simp only [plainPart, List.all_eq_true] at h ⊢
  intro p hp
  have := h p hp
  cases p with
  | lit a => exact List.contains_iff_mem.2 (hST (List.contains_iff_mem.1 this))
  | hole k v => exact this

theorem plainPart_lits {S : List Bytes} {ps : List Piece} (h : plainPart S ps = true) : inS S (litsOf ps) = true := by
  induction ps with
  | nil => rfl
  | cons p ps ih =>
    simp only [plainPart, List.all_cons, Bool.and_eq_true] at h
    cases p with
    | lit a =>
      have h1 : S.contains a = true := h.1
      rw [litsOf_lit, inS_cons, h1, ih h.2]; rfl
    | hole k v => rw [litsOf_hole]; exact ih h.2

theorem plainPart_wf {S : List Bytes} {ps : List Piece} (h : plainPart S ps = true) : ps.all Piece.wf = true := by
  simp only [plainPart, List.all_eq_true] at h ⊢
  intro p hp
  have := h p hp
  cases p with
  | lit a => rfl
  | hole k v => rw [beq_iff_eq.1 this]; rfl

theorem argItems_plain (e : Bool) (l : List Bytes) : plainPart [Lit.a1] (argItems e l) = true := by
  induction l with
  | nil => rfl
  | cons x xs ih =>
    cases xs with
    | nil => cases e <;> rfl
    | cons y ys => exact ih

theorem renderArgs_plain (a : Args) : plainPart argsLits (renderArgs a) = true := by
  have h1 : ∀ e l, plainPart argsLits (argItems e l) = true :=
    fun e l => plainPart_mono (argItems_plain e l) (by simp [argsLits])
  unfold renderArgs
  simp only [plainPart_append, Bool.and_eq_true]
  refine ⟨⟨⟨rfl, ?_⟩, ?_⟩, rfl⟩
  · split <;> exact h1 _ _
  · split <;> rfl

theorem srcPathPieces_plain (c : Call) : plainPart srcPathLits (srcPathPieces c) = true := by
  unfold srcPathPieces; split <;> rfl

theorem sleepPieces_plain (s : Signature) : plainPart headLits (sleepPieces s) = true := by
  unfold sleepPieces
  split
  · split <;> rfl
  · rfl

theorem lockedPieces_plain (s : Signature) : plainPart headLits (lockedPieces s) = true := by
  unfold lockedPieces; split <;> rfl

theorem racePieces_plain (g : Goroutine) : plainPart headLits (racePieces g) = true := by
  unfold racePieces
  split
  · cases g.raceWrite <;> rfl
  · rfl

/-! ### the loops of the template -/

/-- The shape of the three loops (`callRows`, `bucketBlocks`, `goroutineBlocks`): render each
element, with its index, stop at the first error, concatenate. -/
def concatMapIdx {α : Type} (f : Nat → α → Except HtmlErr (List Piece)) : Nat → List α → Except HtmlErr (List Piece)
  | _, [] => .ok []
  | i, a :: as =>
    match f i a with
    | .error e => .error e
    | .ok r =>
      match concatMapIdx f (i + 1) as with
      | .error e => .error e
      | .ok rs => .ok (r ++ rs)

theorem callRows_eq (ver : Bytes) (i : Nat) (cs : List Call) : callRows ver i cs = concatMapIdx (callRow ver) i cs := by
  induction cs generalizing i with
  | nil => rfl
  | cons c cs ih => unfold callRows concatMapIdx; rw [ih]; cases callRow ver i c <;> rfl

theorem bucketBlocks_eq (ver : Bytes) (i : Nat) (bs : List Bucket) :
    bucketBlocks ver i bs = concatMapIdx (bucketBlock ver) i bs := by
  induction bs generalizing i with
  | nil => rfl
  | cons b bs ih => unfold bucketBlocks concatMapIdx; rw [ih]; cases bucketBlock ver i b <;> rfl

theorem goroutineBlocks_eq (ver : Bytes) (i : Nat) (gs : List Goroutine) :
    goroutineBlocks ver gs = concatMapIdx (fun _ g => goroutineBlock ver g) i gs := by
  induction gs generalizing i with
  | nil => rfl
  | cons g gs ih => unfold goroutineBlocks concatMapIdx; rw [ih (i + 1)]; cases goroutineBlock ver g <;> rfl

section concatMapIdx
variable {α : Type} {f : Nat → α → Except HtmlErr (List Piece)}

theorem concatMapIdx_cons_ok {i : Nat} {a : α} {as : List α} {r : List Piece} (h : concatMapIdx f i (a :: as) = .ok r) :
    ∃ x xs, f i a = .ok x ∧ concatMapIdx f (i + 1) as = .ok xs ∧ r = x ++ xs := by
  unfold concatMapIdx at h
  split at h
  · cases h
  · rename_i x hx
    split at h
    · cases h
    · rename_i xs hxs
      injection h with h
      exact ⟨x, xs, hx, hxs, h.symm⟩

theorem concatMapIdx_closed (Q : List Piece → Prop) (h0 : Q []) (happ : ∀ a b, Q a → Q b → Q (a ++ b))
    (hf : ∀ i a x, f i a = .ok x → Q x) {i : Nat} {l : List α} {r : List Piece} (h : concatMapIdx f i l = .ok r) : Q r := by
  induction l generalizing i r with
  | nil => injection h with h; exact h ▸ h0
  | cons a as ih =>
    obtain ⟨x, xs, hx, hxs, rfl⟩ := concatMapIdx_cons_ok h
    exact happ _ _ (hf i a x hx) (ih hxs)

theorem concatMapIdx_ok (hf : ∀ i a, ∃ x, f i a = .ok x) (i : Nat) (l : List α) : ∃ r, concatMapIdx f i l = .ok r := by
  induction l generalizing i with
  | nil => exact ⟨_, rfl⟩
  | cons a as ih =>
    obtain ⟨x, hx⟩ := hf i a
    obtain ⟨xs, hxs⟩ := ih (i + 1)
    exact ⟨x ++ xs, by simp only [concatMapIdx, hx, hxs]⟩

end concatMapIdx

theorem contains_eq_false_of_all_ne (s : Bytes) (b : UInt8) (h : s.all (fun c => c != b) = true) :
    s.contains b = false := by
  rw [Bool.eq_false_iff]
  intro hc
  rw [List.contains_iff_mem] at hc
  rw [List.all_eq_true] at h
  simpa using h b hc

theorem funcClass_noLt (c : Call) : (funcClass c).contains 60 = false := by
  apply contains_eq_false_of_all_ne
  unfold funcClass
  split
  · decide +kernel
  · simp only [List.all_append, htmlEscapeString_noLt, Bool.and_true]; decide +kernel

@[simp] theorem wf_cls_funcClass (c : Call) : Piece.wf (.hole .cls (funcClass c)) = true := by
  show (!(funcClass c).contains 60) = true
  rw [funcClass_noLt]; rfl

theorem callRow_spec (ver : Bytes) (i : Nat) (c : Call) (r : List Piece) (h : callRow ver i c = .ok r) :
    (∃ rest, litsOf r = Lit.c1 :: rest ∧ inS rowInner rest = true) ∧ r.all Piece.wf = true := by
  unfold callRow at h
  split at h
  · injection h with h; subst h
    have hp := plainPart_wf (srcPathPieces_plain c)
    have ha := plainPart_wf (renderArgs_plain c.args)
    constructor
    · refine ⟨[Lit.c2, Lit.c3, Lit.c4] ++ litsOf (srcPathPieces c) ++
        [Lit.c8, Lit.c9, Lit.c10, Lit.c11, Lit.c12, Lit.c13, Lit.c14, Lit.c15, Lit.c16] ++ litsOf (renderArgs c.args) ++ [Lit.c17], ?_, ?_⟩
      · simp [litsOf_append]
      · have h1 := inS_mono (plainPart_lits (srcPathPieces_plain c)) (by decide +kernel : srcPathLits ⊆ rowInner)
        have h2 := inS_mono (plainPart_lits (renderArgs_plain c.args)) (by decide +kernel : argsLits ⊆ rowInner)
        simp only [inS_append, h1, h2, Bool.and_true]
        decide +kernel
    · simp [List.all_append, hp, ha]
  · cases h
  · cases h

theorem callRows_spec (ver : Bytes) (cs : List Call) (i : Nat) (r : List Piece) (h : callRows ver i cs = .ok r) :
    (litsOf r).count Lit.c1 = cs.length ∧ inS (Lit.c1 :: rowInner) (litsOf r) = true ∧ r.all Piece.wf = true := by
  rw [callRows_eq] at h
  induction cs generalizing i r with
  | nil => injection h with h; subst h; exact ⟨rfl, rfl, rfl⟩
  | cons c cs ih =>
    obtain ⟨row, rows, hrow, hrows, rfl⟩ := concatMapIdx_cons_ok h
    obtain ⟨⟨rest, hl, hin⟩, hwf⟩ := callRow_spec ver i c row hrow
    obtain ⟨h1, h2, h3⟩ := ih (i + 1) rows hrows
    refine ⟨?_, ?_, ?_⟩
    · rw [litsOf_append, List.count_append, h1, hl, List.count_cons_self,
        count_zero_of_inS rowInner rest Lit.c1 hin (by decide +kernel), List.length_cons]
      omega
    · rw [litsOf_append, inS_append, h2, hl, inS_cons, inS_mono hin (List.subset_cons_self _ _)]; rfl
    · rw [List.all_append, hwf, h3]; rfl

theorem renderCalls_spec (ver : Bytes) (s : Stack) (r : List Piece) (h : renderCalls ver s = .ok r) :
    (litsOf r).count Lit.c0 = 1 ∧ (litsOf r).count Lit.c1 = s.calls.length ∧
    (litsOf r).count Lit.c18 = (if s.elided then 1 else 0) ∧
    inS tableLits (litsOf r) = true ∧ r.all Piece.wf = true := by
  unfold renderCalls at h
  split at h
  · cases h
  · rename_i rows hrows
    injection h with h; subst h
    obtain ⟨h1, h2, h3⟩ := callRows_spec ver s.calls 0 rows hrows
    have z0 := count_zero_of_inS _ _ Lit.c0 h2 (by decide +kernel)
    have z18 := count_zero_of_inS _ _ Lit.c18 h2 (by decide +kernel)
    have hsub : Lit.c1 :: rowInner ⊆ tableLits :=
      fun _ hx => List.mem_cons_of_mem _ (List.mem_cons_of_mem _ (List.mem_cons_of_mem _ hx))
    have hin := inS_mono h2 hsub
    simp only [litsOf_append, litsOf_lit, litsOf_nil, List.count_append, z0, z18, h1, inS_append, hin, List.all_append, h3]
    have a1 : List.count Lit.c1 [Lit.c0] = 0 ∧ List.count Lit.c1 [Lit.c18] = 0 ∧ List.count Lit.c1 [Lit.c19] = 0 := by
      decide +kernel
    cases s.elided <;> exact ⟨by decide +kernel, by simp [a1], by decide +kernel, by decide +kernel, rfl⟩

theorem renderCreatedBy_spec (ver : Bytes) (c : Call) (r : List Piece) (h : renderCreatedBy ver c = .ok r) :
    inS createdLits (litsOf r) = true ∧ r.all Piece.wf = true := by
  unfold renderCreatedBy at h
  split at h
  · injection h with h; subst h
    constructor
    · have h1 := inS_mono (plainPart_lits (srcPathPieces_plain c)) (by decide +kernel : srcPathLits ⊆ createdLits)
      simp only [litsOf_append, litsOf_lit, litsOf_tx, litsOf_txNat, litsOf_hole, litsOf_nil, inS_append, h1,
        Bool.and_true]
      decide +kernel
    · simp [List.all_append, plainPart_wf (srcPathPieces_plain c)]
  · cases h
  · cases h

theorem createdPieces_spec (ver : Bytes) (s : Signature) (r : List Piece) (h : createdPieces ver s = .ok r) :
    inS createdLits (litsOf r) = true ∧ r.all Piece.wf = true := by
  unfold createdPieces at h
  split at h
  · injection h with h; subst h; exact ⟨rfl, rfl⟩
  · split at h
    · cases h
    · rename_i ps hps
      injection h with h; subst h
      obtain ⟨h1, h2⟩ := renderCreatedBy_spec ver _ ps hps
      constructor
      · simp only [litsOf_append, litsOf_lit, litsOf_nil, inS_append, h1, Bool.and_true]; decide +kernel
      · simp [List.all_append, h2]

/-! ### blocks -/

/-- One iteration of either loop of the content division: the `<h1>` opener `marker`, the rest
of the heading (literals of `headLits`, text holes), the creator, the stack table. -/
inductive BlockShape (ver marker : Bytes) (sig : Signature) : List Piece → Prop
  | mk (head cr calls : List Piece) (hhead : plainPart headLits head = true)
      (hcr : createdPieces ver sig = .ok cr) (hcalls : renderCalls ver sig.stack = .ok calls) :
      BlockShape ver marker sig (.lit marker :: head ++ cr ++ calls)

theorem goroutineBlock_shape (ver : Bytes) (g : Goroutine) (r : List Piece) (h : goroutineBlock ver g = .ok r) :
    BlockShape ver Lit.h1Goroutine g.sig r := by
  unfold goroutineBlock at h
  split at h
  · rename_i cr calls hcr hcalls
    injection h with h; subst h
    have := BlockShape.mk (marker := Lit.h1Goroutine)
      ([txNat g.id, .lit Lit.stateOpen, tx g.sig.state, .lit Lit.stateClose] ++ sleepPieces g.sig ++ [.lit Lit.h1Close] ++
        lockedPieces g.sig ++ racePieces g) cr calls
      (by simp only [plainPart_append, sleepPieces_plain, lockedPieces_plain, racePieces_plain, Bool.and_true]; rfl)
      hcr hcalls
    simpa only [List.cons_append, List.append_assoc] using this
  · cases h
  · cases h

theorem bucketBlock_shape (ver : Bytes) (i : Nat) (b : Bucket) (r : List Piece) (h : bucketBlock ver i b = .ok r) :
    BlockShape ver Lit.h1Bucket b.sig r := by
  unfold bucketBlock at h
  split at h
  · rename_i cr calls hcr hcalls
    injection h with h; subst h
    have := BlockShape.mk (marker := Lit.h1Bucket)
      ([txNat i, .lit Lit.b6, txNat b.ids.length, .lit Lit.b7] ++ (if (b.ids.length != 1) = true then [.lit Lit.b8] else []) ++
        [.lit Lit.stateOpen, tx b.sig.state, .lit Lit.stateClose] ++ sleepPieces b.sig ++ [.lit Lit.h1Close] ++
        lockedPieces b.sig) cr calls
      (by simp only [plainPart_append, sleepPieces_plain, lockedPieces_plain, Bool.and_true]; split <;> rfl)
      hcr hcalls
    simpa only [List.cons_append, List.append_assoc] using this
  · cases h
  · cases h

theorem contentOf_closed {ver : Bytes} (Q : List Piece → Prop) (h0 : Q []) (happ : ∀ a b, Q a → Q b → Q (a ++ b))
    (hblk : ∀ m sig r, m = Lit.h1Goroutine ∨ m = Lit.h1Bucket → BlockShape ver m sig r → Q r)
    {b : DocBody} {c : List Piece} (h : contentOf ver b = .ok c) : Q c := by
  cases b with
  | snapshot gs =>
    have h' : concatMapIdx (fun _ g => goroutineBlock ver g) 0 gs = .ok c := by rw [← goroutineBlocks_eq]; exact h
    exact concatMapIdx_closed Q h0 happ (fun _ g x hx => hblk _ _ x (Or.inl rfl) (goroutineBlock_shape ver g x hx)) h'
  | aggregated bs =>
    have h' : concatMapIdx (bucketBlock ver) 0 bs = .ok c := by rw [← bucketBlocks_eq]; exact h
    exact concatMapIdx_closed Q h0 happ (fun i b x hx => hblk _ _ x (Or.inr rfl) (bucketBlock_shape ver i b x hx)) h'

/-- the invariant of one block: one `<h1>`, one table, its rows -/
structure BlockSpec (marker : Bytes) (sig : Signature) (r : List Piece) : Prop where
  heading : (litsOf r).count marker = 1
  table : (litsOf r).count Lit.c0 = 1
  rows : (litsOf r).count Lit.c1 = sig.stack.calls.length
  elided : (litsOf r).count Lit.c18 = (if sig.stack.elided then 1 else 0)
  inner : inS (marker :: Lit.c0 :: blockInner) (litsOf r) = true
  wf : r.all Piece.wf = true

/-- `marker` occurs in none of heading, creator and table; the table opener, the row opener and
the elided row occur in the table only. -/
theorem BlockShape.spec {ver marker : Bytes} {sig : Signature} {r : List Piece} (hs : BlockShape ver marker sig r)
    (hm : (headLits ++ createdLits ++ tableLits).contains marker = false) : BlockSpec marker sig r := by
  obtain ⟨head, cr, calls, hhead, hcr, hcalls⟩ := hs
  obtain ⟨c1, c2⟩ := createdPieces_spec ver sig cr hcr
  obtain ⟨t0, t1, t18, tin, twf⟩ := renderCalls_spec ver sig.stack calls hcalls
  have hrest := plainPart_lits hhead
  simp only [List.contains_append, Bool.or_eq_false_iff] at hm
  have hcnt : ∀ b, (litsOf (.lit marker :: head ++ cr ++ calls)).count b =
      (if marker == b then 1 else 0) + (litsOf head).count b + (litsOf cr).count b + (litsOf calls).count b := by
    intro b
    simp only [List.cons_append, litsOf_lit, litsOf_append, List.count_append, List.count_cons]
    omega
  -- `b` is the marker or one of the three table literals: not in the heading, not in the creator
  have hcnt' : ∀ b, headLits.contains b = false → createdLits.contains b = false →
      (litsOf (.lit marker :: head ++ cr ++ calls)).count b = (if marker == b then 1 else 0) + (litsOf calls).count b := by
    intro b hb1 hb2
    rw [hcnt, count_zero_of_inS _ _ b hrest hb1, count_zero_of_inS _ _ b c1 hb2]; omega
  have hne : ∀ b, tableLits.contains b = true → (marker == b) = false := by
    intro b hb
    rw [beq_eq_false_iff_ne]; rintro rfl
    rw [hm.2] at hb; cases hb
  refine ⟨?_, ?_, ?_, ?_, ?_, ?_⟩
  · rw [hcnt' _ hm.1.1 hm.1.2, count_zero_of_inS _ _ _ tin hm.2]; simp
  · rw [hcnt' _ (by decide +kernel) (by decide +kernel), t0, hne _ (by decide +kernel)]; rfl
  · rw [hcnt' _ (by decide +kernel) (by decide +kernel), t1, hne _ (by decide +kernel)]; simp
  · rw [hcnt' _ (by decide +kernel) (by decide +kernel), t18, hne _ (by decide +kernel)]; simp
  · have hsub : ∀ S, S ⊆ blockInner → S ⊆ marker :: Lit.c0 :: blockInner :=
      fun S h => fun _ hx => List.mem_cons_of_mem _ (List.mem_cons_of_mem _ (h hx))
    simp only [List.cons_append, litsOf_lit, litsOf_append, inS_append, inS_cons, List.contains_cons, beq_self_eq_true,
      Bool.true_or, Bool.true_and, Bool.and_eq_true]
    refine ⟨⟨inS_mono hrest (hsub _ ?_), inS_mono c1 (hsub _ ?_)⟩, inS_mono tin ?_⟩
    · exact fun _ hx => List.mem_append_left _ (List.mem_append_left _ (List.mem_append_left _ hx))
    · exact fun _ hx => List.mem_append_left _ (List.mem_append_left _ (List.mem_append_right _ hx))
    · -- `tableLits` is the table opener, three literals of `blockInner`, and `rowInner`, the end of `blockInner`
      intro x hx
      simp only [tableLits, List.mem_cons] at hx
      simp only [blockInner, List.mem_cons, List.mem_append, List.not_mem_nil, or_false]
      rcases hx with rfl | rfl | rfl | rfl | hx <;> simp [*]
  · simp [List.all_append, plainPart_wf hhead, c2, twf]

theorem marker_fresh {m : Bytes} (hm : m = Lit.h1Goroutine ∨ m = Lit.h1Bucket) :
    (headLits ++ createdLits ++ tableLits).contains m = false := by
  rcases hm with rfl | rfl <;> decide +kernel

/-- what a whole content division satisfies, for the block marker `m` -/
structure ContentSpec (m : Bytes) (sigs : List Signature) (r : List Piece) : Prop where
  headings : (litsOf r).count m = sigs.length
  tables : (litsOf r).count Lit.c0 = sigs.length
  rows : (litsOf r).count Lit.c1 = (sigs.map fun s => s.stack.calls.length).sum
  elided : (litsOf r).count Lit.c18 = (sigs.filter fun s => s.stack.elided).length
  wf : r.all Piece.wf = true

theorem ContentSpec.nil (m : Bytes) : ContentSpec m [] [] := ⟨rfl, rfl, rfl, rfl, rfl⟩

theorem ContentSpec.cons (m : Bytes) (sig : Signature) (sigs : List Signature) (b bs : List Piece)
    (hb : BlockSpec m sig b) (hbs : ContentSpec m sigs bs) : ContentSpec m (sig :: sigs) (b ++ bs) := by
  refine ⟨?_, ?_, ?_, ?_, ?_⟩
  · rw [litsOf_append, List.count_append, hb.heading, hbs.headings]; simp; omega
  · rw [litsOf_append, List.count_append, hb.table, hbs.tables]; simp; omega
  · rw [litsOf_append, List.count_append, hb.rows, hbs.rows]; simp
  · rw [litsOf_append, List.count_append, hb.elided, hbs.elided]
    cases h : sig.stack.elided <;> simp [h]; omega
  · rw [List.all_append, hb.wf, hbs.wf]; rfl

theorem concatMapIdx_spec {α : Type} {f : Nat → α → Except HtmlErr (List Piece)} (m : Bytes) (sig : α → Signature)
    (hf : ∀ i a x, f i a = .ok x → BlockSpec m (sig a) x) {i : Nat} {l : List α} {r : List Piece}
    (h : concatMapIdx f i l = .ok r) : ContentSpec m (l.map sig) r := by
  induction l generalizing i r with
  | nil => injection h with h; subst h; exact ContentSpec.nil _
  | cons a as ih =>
    obtain ⟨x, xs, hx, hxs, rfl⟩ := concatMapIdx_cons_ok h
    exact ContentSpec.cons _ _ _ _ _ (hf i a x hx) (ih hxs)

theorem goroutineBlocks_spec (ver : Bytes) (gs : List Goroutine) (r : List Piece)
    (h : goroutineBlocks ver gs = .ok r) : ContentSpec Lit.h1Goroutine (gs.map (·.sig)) r :=
  concatMapIdx_spec _ _ (fun _ g x h => (goroutineBlock_shape ver g x h).spec (marker_fresh (.inl rfl))) (goroutineBlocks_eq ver 0 gs ▸ h)

theorem bucketBlocks_spec (ver : Bytes) (bk : List Bucket) (i : Nat) (r : List Piece)
    (h : bucketBlocks ver i bk = .ok r) : ContentSpec Lit.h1Bucket (bk.map (·.sig)) r :=
  concatMapIdx_spec _ _ (fun i b x h => (bucketBlock_shape ver i b x h).spec (marker_fresh (.inr rfl))) (bucketBlocks_eq ver i bk ▸ h)

/-! ### rendering: holes add no markup byte -/

/-- the subsequence of `<`, `>`, `"`, `'` and NUL bytes -/
def markup (s : Bytes) : Bytes := s.filter isMarkupByte

theorem markup_append (a b : Bytes) : markup (a ++ b) = markup a ++ markup b := by simp [markup]

theorem markup_nil_of_all (s : Bytes) (h : s.all (fun c => !isMarkupByte c) = true) : markup s = [] := by
  rw [markup, List.filter_eq_nil_iff]
  rw [List.all_eq_true] at h
  intro c hc; simpa using h c hc

theorem renderHole_spec (k : HoleKind) (v : Bytes) (hwf : Piece.wf (.hole k v) = true) :
    ∃ r, renderHole k v = .ok r ∧ markup r = [] := by
  cases k with
  | text => exact ⟨_, rfl, markup_nil_of_all _ (noMarkup_htmlReplacer v)⟩
  | href => exact ⟨_, rfl, markup_nil_of_all _ (all_mono urlSafe_noMarkup _ (hrefHole_all_safe v))⟩
  | cls =>
    have hv : v.contains 60 = false := by simpa [Piece.wf] using hwf
    refine ⟨htmlReplacer htmlNormReplacementTable v, ?_, markup_nil_of_all _ (noMarkup_htmlReplacerNorm v)⟩
    show attrEscaperHTML v = _
    unfold attrEscaperHTML stripTags
    rw [hv]; rfl

theorem renderPieces_cons_ok (p : Piece) (ps : List Piece) (b r : Bytes) (hp : p.render = .ok b)
    (hr : renderPieces ps = .ok r) : renderPieces (p :: ps) = .ok (b ++ r) := by
  simp only [renderPieces, hp, hr]

theorem renderPieces_cons_inv {p : Piece} {ps : List Piece} {r : Bytes} (h : renderPieces (p :: ps) = .ok r) :
    ∃ b r', p.render = .ok b ∧ renderPieces ps = .ok r' ∧ r = b ++ r' := by
  unfold renderPieces at h
  split at h
  · cases h
  · rename_i b hb
    split at h
    · cases h
    · rename_i r' hr'
      injection h with h
      exact ⟨b, r', hb, hr', h.symm⟩

theorem renderPieces_spec (ps : List Piece) (h : ps.all Piece.wf = true) :
    ∃ r, renderPieces ps = .ok r ∧ markup r = markup (litsOf ps).flatten := by
  induction ps with
  | nil => exact ⟨[], rfl, rfl⟩
  | cons p ps ih =>
    simp only [List.all_cons, Bool.and_eq_true] at h
    obtain ⟨r, hr, hm⟩ := ih h.2
    cases p with
    | lit b => exact ⟨b ++ r, renderPieces_cons_ok _ _ _ _ rfl hr, by simp [markup_append, hm]⟩
    | hole k v =>
      obtain ⟨x, hx, hxm⟩ := renderHole_spec k v h.1
      exact ⟨x ++ r, renderPieces_cons_ok _ _ _ _ hx hr, by simp [markup_append, hm, hxm]⟩

end PP.Html
