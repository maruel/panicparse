import PP.Model.AugmentGlue
/-
Lemmas for C19B: `lineToByteOffsets` against its structural description.
-/
namespace PP.AugGlue
open PP PP.Bytes

/-- the offsets just after each `'\n'` of `s`, `off` being the offset of `s`
in the file -/
def newlineEnds : Bytes → Nat → List Nat
  | [], _ => []
  | c :: t, off => if c = 10 then (off + 1) :: newlineEnds t (off + 1) else newlineEnds t (off + 1)

theorem indexByte_cons (c : UInt8) (t : Bytes) :
    indexByte (c :: t) 10 = if c = 10 then some 0 else (indexByte t 10).map (· + 1) := by
  unfold indexByte
  rw [List.idxOf?_cons]
  by_cases h : c = 10 <;> simp [h]

theorem newlineEnds_none (s : Bytes) (off : Nat) (h : indexByte s 10 = none) : newlineEnds s off = [] := by
  induction s generalizing off with
  | nil => rfl
  | cons c t ih =>
    rw [indexByte_cons] at h
    by_cases hc : c = 10
    · simp [hc] at h
    · simp only [hc, if_false, Option.map_eq_none_iff] at h
      simp only [newlineEnds, hc, if_false]
      exact ih _ h

theorem newlineEnds_some (s : Bytes) (off n : Nat) (h : indexByte s 10 = some n) :
    n < s.length ∧ newlineEnds s off = (off + n + 1) :: newlineEnds (s.drop (n + 1)) (off + n + 1) := by
  induction s generalizing off n with
  | nil => simp [indexByte] at h
  | cons c t ih =>
    rw [indexByte_cons] at h
    by_cases hc : c = 10
    · simp only [hc, if_true, Option.some.injEq] at h
      subst h
      simp [newlineEnds, hc]
    · rw [if_neg hc] at h
      obtain ⟨m, hi, rfl⟩ := Option.map_eq_some_iff.mp h
      obtain ⟨h1, h2⟩ := ih (off + 1) m hi
      rw [Nat.add_right_comm off 1 m] at h2
      refine ⟨Nat.succ_lt_succ h1, ?_⟩
      simp only [newlineEnds, hc, if_false, List.drop_succ_cons]
      exact h2

theorem lineOffsetsLoop_eq (fuel : Nat) (src : Bytes) (offset : Nat) (acc : List Nat)
    (hf : src.length < offset + fuel) :
    lineOffsetsLoop fuel src offset acc = acc ++ newlineEnds (src.drop offset) offset := by
  induction fuel generalizing offset acc with
  | zero =>
    have : src.drop offset = [] := List.drop_eq_nil_of_le (by omega)
    simp [lineOffsetsLoop, this, newlineEnds]
  | succ fuel ih =>
    simp only [lineOffsetsLoop]
    by_cases hlt : offset < src.length
    · simp only [hlt, if_true]
      cases hi : indexByte (src.drop offset) 10 with
      | none => simp [newlineEnds_none _ offset hi]
      | some n =>
        dsimp only
        obtain ⟨h1, h2⟩ := newlineEnds_some (src.drop offset) offset n hi
        rw [List.length_drop] at h1
        rw [ih (offset + n + 1) _ (by omega), h2, List.drop_drop]
        simp [Nat.add_assoc]
    · simp only [hlt, if_false]
      have : src.drop offset = [] := List.drop_eq_nil_of_le (by omega)
      simp [this, newlineEnds]

theorem lineToByteOffsets_eq (src : Bytes) : lineToByteOffsets src = 0 :: 0 :: newlineEnds src 0 := by
  unfold lineToByteOffsets
  rw [lineOffsetsLoop_eq _ _ _ _ (by omega)]
  simp

theorem newlineEnds_length (s : Bytes) (off : Nat) : (newlineEnds s off).length = s.count 10 := by
  induction s generalizing off with
  | nil => rfl
  | cons c t ih =>
    by_cases hc : c = 10 <;> simp [newlineEnds, hc, ih]

theorem newlineEnds_get (s : Bytes) (off i e : Nat) (h : (newlineEnds s off)[i]? = some e) :
    ∃ d, e = off + d + 1 ∧ d < s.length ∧ s[d]? = some 10 ∧ (s.take (d + 1)).count 10 = i + 1 := by
  induction s generalizing off i with
  | nil => cases h
  | cons c t ih =>
    -- an entry that comes from the tail: the newline stands one further in `c :: t`
    have tl : ∀ j, (newlineEnds t (off + 1))[j]? = some e → (if c = 10 then 1 else 0) + (j + 1) = i + 1 →
        ∃ d, e = off + d + 1 ∧ d < (c :: t).length ∧ (c :: t)[d]? = some 10 ∧ ((c :: t).take (d + 1)).count 10 = i + 1 := by
      intro j hj hi
      obtain ⟨d, rfl, h2, h3, h4⟩ := ih (off + 1) j hj
      refine ⟨d + 1, by omega, Nat.succ_lt_succ h2, h3, ?_⟩
      rw [List.take_succ_cons, List.count_cons, h4, ← hi, Nat.add_comm]
      by_cases hc : c = 10 <;> simp [hc]
    simp only [newlineEnds] at h
    by_cases hc : c = 10
    · rw [if_pos hc] at h
      cases i with
      | zero =>
        cases h
        exact ⟨0, rfl, Nat.succ_pos _, by rw [hc]; rfl, by simp [hc]⟩
      | succ i => exact tl i h (by rw [if_pos hc]; omega)
    · rw [if_neg hc] at h
      exact tl i h (by rw [if_neg hc]; omega)
end PP.AugGlue
