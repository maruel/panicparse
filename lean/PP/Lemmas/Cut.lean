import PP.Lemmas.LoopLemmas
import PP.Lemmas.ScanGs
/-
Helper lemmas for C10 (truncation and read-failure tolerance), at line level.
-/
namespace PP

/-! ### `splitLines` / `specLines` of a concatenation -/

/-- the complete lines of `a` are complete lines of `a ++ b`; the split continues from the
unterminated tail of `a` -/
theorem splitLines_append (a b : Bytes) :
    splitLines (a ++ b) =
      ((splitLines a).1 ++ (splitLines ((splitLines a).2 ++ b)).1,
       (splitLines ((splitLines a).2 ++ b)).2) := by
  induction a with
  | nil => simp [splitLines]
  | cons x xs ih =>
    simp only [List.cons_append, splitLines]
    rw [ih]
    by_cases hx : x = 10
    · simp [hx]
    · simp only [hx, if_false]
      cases h1 : (splitLines xs).1 with
      | nil =>
        simp only [List.nil_append, List.cons_append, splitLines, hx, if_false]
      | cons l ls' => simp

theorem specLines_append (a b : Bytes) (fin : RErr) :
    specLines (a ++ b) fin =
      (splitLines a).1.map (fun l => (l, none)) ++ specLines ((splitLines a).2 ++ b) fin := by
  simp only [specLines]
  rw [splitLines_append]
  simp

/-- the head item of the canonical split of `frag ++ b` when `frag` holds no newline: a line
that extends `frag`, or the whole unterminated rest -/
theorem specLines_frag_append (frag b : Bytes) (fin : RErr) (hf : (10 : UInt8) ∉ frag) :
    (∃ p r, (10 : UInt8) ∉ p ∧ b = p ++ [10] ++ r ∧
        specLines (frag ++ b) fin = (frag ++ p ++ [10], none) :: specLines r fin) ∨
    ((10 : UInt8) ∉ b ∧ specLines (frag ++ b) fin = [(frag ++ b, some fin)]) := by
  have hfn := (cutNL_none_iff frag).mpr hf
  cases hb : cutNL b with
  | none =>
    right
    refine ⟨(cutNL_none_iff b).mp hb, specLines_of_cutNL_none _ ?_⟩
    rw [cutNL_append_none _ hfn, hb]; rfl
  | some v =>
    obtain ⟨l, r⟩ := v
    obtain ⟨p, hp, rfl, hbb⟩ := cutNL_some_spec hb
    left
    refine ⟨p, r, hp, hbb, ?_⟩
    have : cutNL (frag ++ b) = some (frag ++ p ++ [10], r) := by
      rw [cutNL_append_none _ hfn, hb]; simp
    exact specLines_of_cutNL_some _ this

/-! ### the loop over a prefix of complete lines -/

/-- the loop of `scanL` over complete lines (items without reader error).  `some`: the loop
is still running after them, with this state; `none`: the loop ended inside them. -/
def prefixL : S → Bytes → List Bytes → List Bytes → Option (S × Bytes × List Bytes)
  | s, fwd, cons, [] => some (s, fwd, cons)
  | s, fwd, cons, d :: ds =>
    if s.st == .done then none
    else if d.length != 0 then
      match scanBytes s d with
      | .error _ => none
      | .ok (s', l, e1) =>
        if !l then
          if s'.st != .looking then none
          else if e1.isSome then none
          else prefixL s' (fwd ++ d) cons ds
        else if e1.isSome then none
        else prefixL s' fwd (cons ++ [d]) ds
    else prefixL s fwd cons ds

theorem combineErr_none (e1 : Option Err) : combineErr none e1 = e1.map LErr.parse := by
  cases e1 <;> rfl

theorem combineErr_none_isSome (e1 : Option Err) : (combineErr none e1).isSome = e1.isSome := by
  cases e1 <;> rfl

abbrev noErr (xs : List Bytes) : List (Bytes × Option RErr) := xs.map (fun l => (l, none))

/-- the loop runs through `xs`: it continues on `ys` from the state after `xs` -/
theorem scanL_prefix_some (s : S) (fwd : Bytes) (cons : List Bytes) (xs : List Bytes)
    (ys : List (Bytes × Option RErr)) (s₁ : S) (fwd₁ : Bytes) (cons₁ : List Bytes)
    (h : prefixL s fwd cons xs = some (s₁, fwd₁, cons₁)) :
    scanL s fwd cons (noErr xs ++ ys) = scanL s₁ fwd₁ cons₁ ys := by
  fun_induction prefixL s fwd cons xs
  case case1 => cases h; rfl
  case case6 ih | case8 ih | case9 ih =>
    rw [← ih h]
    simp [scanL_cons, noErr, combineErr_none_isSome, *]
  all_goals cases h

/-- the loop ends inside `xs`: what follows `xs` only shows up in `rest` -/
theorem scanL_prefix_none (s : S) (fwd : Bytes) (cons : List Bytes) (xs : List Bytes)
    (h : prefixL s fwd cons xs = none) :
    ∃ (o : OutL) (r : List (Bytes × Option RErr)),
      ((o.err = none ∧ (o.broke = true ∨ o.s.st = .done ∨ o.panicked.isSome)) ∨
        ∃ e, o.err = some (.parse e)) ∧
      ∀ ys, scanL s fwd cons (noErr xs ++ ys) = { o with rest := r ++ ys } := by
  induction xs generalizing s fwd cons with
  | nil => simp [prefixL] at h
  | cons d ds ih =>
    simp only [noErr, List.map_cons, List.cons_append]
    simp only [scanL_cons]
    rw [prefixL] at h
    by_cases hd : (s.st == .done) = true
    · simp only [if_pos hd]
      exact ⟨{ s := s, fwd := fwd, consumed := cons, err := none, rest := [], broke := false },
        (d, none) :: noErr ds, Or.inl ⟨rfl, Or.inr (Or.inl (by simpa using hd))⟩, fun ys => rfl⟩
    · rw [if_neg hd] at h
      simp only [if_neg hd]
      by_cases hlen : (d.length != 0) = true
      · rw [if_pos hlen] at h
        simp only [if_pos hlen]
        cases hsc : scanBytes s d with
        | error p =>
          exact ⟨{ s := s, fwd := fwd, consumed := cons, err := none, rest := [], broke := false,
                   panicked := some p }, (d, none) :: noErr ds, Or.inl ⟨rfl, Or.inr (Or.inr rfl)⟩,
                   fun ys => rfl⟩
        | ok v =>
          obtain ⟨s', l, e1⟩ := v
          rw [hsc] at h
          dsimp only at h ⊢
          simp only [combineErr_none_isSome]
          have hkind : ∀ o : OutL, o.err = combineErr none e1 → (e1 = none → o.broke = true) →
              ((o.err = none ∧ (o.broke = true ∨ o.s.st = .done ∨ o.panicked.isSome)) ∨
                ∃ e, o.err = some (.parse e)) := by
            intro o ho hb
            cases e1 with
            | none => exact Or.inl ⟨ho, Or.inl (hb rfl)⟩
            | some e => exact Or.inr ⟨e, ho⟩
          by_cases hl : (!l) = true
          · rw [if_pos hl] at h
            simp only [if_pos hl]
            by_cases hlk : (s'.st != .looking) = true
            · simp only [if_pos hlk]
              exact ⟨{ s := s', fwd := fwd, consumed := cons, err := combineErr none e1, rest := [],
                       broke := true }, (d, none) :: noErr ds, hkind _ rfl (fun _ => rfl), fun ys => rfl⟩
            · rw [if_neg hlk] at h
              simp only [if_neg hlk]
              by_cases herr : e1.isSome = true
              · simp only [if_pos herr]
                exact ⟨{ s := s', fwd := fwd ++ d, consumed := cons, err := combineErr none e1,
                         rest := [], broke := false }, noErr ds,
                       hkind _ rfl (fun h0 => by rw [h0] at herr; simp at herr), fun ys => rfl⟩
              · rw [if_neg herr] at h
                simp only [if_neg herr]
                exact ih _ _ _ h
          · rw [if_neg hl] at h
            simp only [if_neg hl]
            by_cases herr : e1.isSome = true
            · simp only [if_pos herr]
              exact ⟨{ s := s', fwd := fwd, consumed := cons ++ [d], err := combineErr none e1,
                         rest := [], broke := false }, noErr ds,
                       hkind _ rfl (fun h0 => by rw [h0] at herr; simp at herr), fun ys => rfl⟩
            · rw [if_neg herr] at h
              simp only [if_neg herr]
              exact ih _ _ _ h
      · rw [if_neg hlen] at h
        simp only [if_neg hlen]
        exact ih _ _ _ h

/-! ### the item that carries the reader error -/

theorem combineErr_some_kind (r : RErr) (e1 : Option Err) :
    (combineErr (some r) e1).isSome = true ∧
    (combineErr (some r) e1 = some (.reader r) ∨
      (r = .eof ∧ ∃ p, e1 = some p ∧ combineErr (some r) e1 = some (.parse p))) := by
  cases e1 with
  | none => exact ⟨rfl, Or.inl rfl⟩
  | some p =>
    cases r with
    | eof => exact ⟨rfl, Or.inr ⟨rfl, p, rfl, rfl⟩⟩
    | other t => exact ⟨rfl, Or.inl rfl⟩
    | noProgress => exact ⟨rfl, Or.inl rfl⟩

/-- a reader failure other than EOF is never replaced by a parse error -/
theorem combineErr_reader_ne_eof (r : RErr) (e1 : Option Err) (h : r ≠ .eof) :
    combineErr (some r) e1 = some (.reader r) := by
  rcases (combineErr_some_kind r e1).2 with h1 | ⟨h1, _⟩
  · exact h1
  · exact absurd h1 h

/-- what the loop does on the last item `(frag, some fin)` -/
theorem scanL_last (s : S) (fwd : Bytes) (cons : List Bytes) (frag : Bytes) (fin : RErr) :
    let o := scanL s fwd cons [(frag, some fin)]
    (o.err = none ∧ o.s = s ∧ o.fwd = fwd ∧ o.consumed = cons ∧ o.broke = false ∧
        o.rest = [(frag, some fin)] ∧ ((s.st = .done ∧ o.panicked = none) ∨ o.panicked.isSome)) ∨
    (o.panicked = none ∧ s.st ≠ .done ∧
      (o.err = some (.reader fin) ∨ (fin = .eof ∧ ∃ e, o.err = some (.parse e))) ∧
      ((frag = [] ∧ o.s = s ∧ o.fwd = fwd ∧ o.consumed = cons ∧ o.broke = false ∧ o.rest = []) ∨
       (frag ≠ [] ∧ ∃ b e1, scanBytes s frag = .ok (o.s, b, e1) ∧
          o.err = combineErr (some fin) e1 ∧
          ((b = true ∧ o.fwd = fwd ∧ o.consumed = cons ++ [frag] ∧ o.broke = false ∧ o.rest = []) ∨
           (b = false ∧ o.s.st ≠ .looking ∧ o.fwd = fwd ∧ o.consumed = cons ∧ o.broke = true ∧
              o.rest = [(frag, some fin)]) ∨
           (b = false ∧ o.s.st = .looking ∧ o.fwd = fwd ++ frag ∧ o.consumed = cons ∧
              o.broke = false ∧ o.rest = []))))) := by
  intro o
  have ho : o = scanL s fwd cons [(frag, some fin)] := rfl
  clear_value o
  rw [scanL_cons] at ho
  by_cases hd : (s.st == .done) = true
  · rw [if_pos hd] at ho
    left
    subst ho
    exact ⟨rfl, rfl, rfl, rfl, rfl, rfl, Or.inl ⟨by simpa using hd, rfl⟩⟩
  · rw [if_neg hd] at ho
    have hd' : s.st ≠ .done := by simpa using hd
    by_cases hlen : (frag.length != 0) = true
    · rw [if_pos hlen] at ho
      have hne : frag ≠ [] := by intro h0; subst h0; simp at hlen
      cases hsc : scanBytes s frag with
      | error p =>
        rw [hsc] at ho
        dsimp only at ho
        left
        subst ho
        exact ⟨rfl, rfl, rfl, rfl, rfl, rfl, Or.inr rfl⟩
      | ok v =>
        obtain ⟨s', l, e1⟩ := v
        rw [hsc] at ho
        dsimp only at ho
        obtain ⟨hsome, hkind⟩ := combineErr_some_kind fin e1
        have hkind' : combineErr (some fin) e1 = some (.reader fin) ∨
            (fin = .eof ∧ ∃ e, combineErr (some fin) e1 = some (.parse e)) := by
          rcases hkind with h | ⟨h1, p, _, h2⟩
          · exact Or.inl h
          · exact Or.inr ⟨h1, p, h2⟩
        right
        cases l with
        | false =>
          simp only [Bool.not_false, if_true] at ho
          by_cases hlk : (s'.st != .looking) = true
          · rw [if_pos hlk] at ho
            subst ho
            refine ⟨rfl, hd', hkind', Or.inr ⟨hne, false, e1, rfl, rfl, Or.inr (Or.inl ?_)⟩⟩
            exact ⟨rfl, by simpa using hlk, rfl, rfl, rfl, rfl⟩
          · rw [if_neg hlk, if_pos hsome] at ho
            subst ho
            refine ⟨rfl, hd', hkind', Or.inr ⟨hne, false, e1, rfl, rfl, Or.inr (Or.inr ?_)⟩⟩
            exact ⟨rfl, by simpa using hlk, rfl, rfl, rfl, rfl⟩
        | true =>
          simp only [Bool.not_true, Bool.false_eq_true, if_false] at ho
          rw [if_pos hsome] at ho
          subst ho
          exact ⟨rfl, hd', hkind', Or.inr ⟨hne, true, e1, rfl, rfl, Or.inl ⟨rfl, rfl, rfl, rfl, rfl⟩⟩⟩
    · rw [if_neg hlen] at ho
      have h0 := length_eq_nil hlen
      right
      subst ho
      exact ⟨rfl, hd', Or.inl rfl, Or.inl ⟨h0, rfl, rfl, rfl, rfl, rfl⟩⟩

/-- the loop only ever appends to what was forwarded -/
theorem scanL_fwd_prefix (s : S) (fwd : Bytes) (cons : List Bytes) (items : List (Bytes × Option RErr)) :
    fwd <+: (scanL s fwd cons items).fwd := by
  rw [(scanL_traceL s fwd cons items).1]
  exact List.prefix_append _ _

/-! ### vocabulary for a stream cut after `k` bytes -/

/-- the complete lines before the cut -/
def cutCommon (bs : Bytes) (k : Nat) : List Bytes := (splitLines (bs.take k)).1
/-- the unterminated fragment the cut leaves (possibly empty) -/
def cutFrag (bs : Bytes) (k : Nat) : Bytes := (splitLines (bs.take k)).2
/-- the loop state after the complete lines before the cut; `none` when the loop has already
ended inside them -/
def afterCommon (bs : Bytes) (k : Nat) : Option (S × Bytes × List Bytes) :=
  prefixL {} [] [] (cutCommon bs k)

theorem specLines_cut (bs : Bytes) (k : Nat) (fin' : RErr) :
    specLines (bs.take k) fin' = noErr (cutCommon bs k) ++ [(cutFrag bs k, some fin')] := rfl

theorem specLines_uncut (bs : Bytes) (k : Nat) (fin : RErr) :
    specLines bs fin = noErr (cutCommon bs k) ++ specLines (cutFrag bs k ++ bs.drop k) fin := by
  have := specLines_append (bs.take k) (bs.drop k) fin
  rw [List.take_append_drop] at this
  exact this

/-! ### how `scan` changes the goroutine list -/

/-- the states of a race report: `gotRaceHeader1` and all that follow it in the numbering
`St.toNat` -/
def St.isRace (st : St) : Bool := decide (9 ≤ st.toNat)

/-- only the last element may differ, or elements are appended -/
def LastOnly (gs gs' : List Goroutine) : Prop :=
  gs.length ≤ gs'.length ∧ ∀ i, i + 1 < gs.length → gs'[i]? = gs[i]?

theorem LastOnly.refl (gs : List Goroutine) : LastOnly gs gs := ⟨Nat.le_refl _, fun _ _ => rfl⟩

theorem LastOnly.trans {a b c : List Goroutine} (h1 : LastOnly a b) (h2 : LastOnly b c) : LastOnly a c :=
  ⟨Nat.le_trans h1.1 h2.1, fun i hi => by
    rw [h2.2 i (by have := h1.1; omega), h1.2 i hi]⟩

theorem LastOnly.append (gs : List Goroutine) (g : Goroutine) : LastOnly gs (gs ++ [g]) :=
  ⟨by simp, fun i hi => by rw [List.getElem?_append_left (by omega)]⟩

theorem LastOnly.snoc (init : List Goroutine) (g g' : Goroutine) : LastOnly (init ++ [g]) (init ++ [g']) :=
  ⟨by simp, fun i hi => by
    simp only [List.length_append, List.length_singleton] at hi
    rw [List.getElem?_append_left (by omega), List.getElem?_append_left (by omega)]⟩

theorem GsEffect.length_le {s s' : S} {l : Line} (h : GsEffect s l s') :
    s.gs.length ≤ s'.gs.length ∧ s'.gs.length ≤ s.gs.length + 1 := by
  cases h with
  | keep hgs => rw [hgs]; omega
  | push g hgs => rw [hgs]; simp
  | last init g ed _ hgs hgs' => rw [hgs, hgs']; simp
  | «at» ed _ _ _ hgs' => rw [hgs']; simp

/-- outside a race report a step touches at most the last goroutine -/
theorem GsEffect.lastOnly {s s' : S} {l : Line} (h : GsEffect s l s') (hr : s.st.isRace = false) :
    LastOnly s.gs s'.gs ∧ (s'.gs.length = s.gs.length ∨ ∃ g, s'.gs = s.gs ++ [g]) := by
  cases h with
  | keep hgs => rw [hgs]; exact ⟨LastOnly.refl _, Or.inl rfl⟩
  | push g hgs => rw [hgs]; exact ⟨LastOnly.append _ _, Or.inr ⟨g, rfl⟩⟩
  | last init g ed _ hgs hgs' => rw [hgs, hgs']; exact ⟨LastOnly.snoc _ _ _, Or.inl (by simp)⟩
  | «at» ed _ h9 => rw [St.isRace, decide_eq_true h9] at hr; cases hr

/-- a goroutine dump (not a race report) is being parsed, or the scan is finished -/
def NR (st : St) : Prop := st.isRace = false ∧ st ≠ .looking

theorem Step_NR {st st' : St} {l : Line} {b : Bool} (h : Step st l b st') (hn : NR st) : NR st' := by
  rcases h with ⟨_, rfl | rfl⟩ | h
  · exact hn
  · exact ⟨rfl, nofun⟩
  · obtain ⟨h1, h2⟩ := hn
    -- the table entries of the eight goroutine-dump states other than `looking`
    cases st <;> first | cases h1 | exact absurd rfl h2 | skip
    all_goals (dsimp only at h <;> grind [NR, St.isRace, St.toNat])

/-- an invariant `P` of `scanBytes` steps and a reflexive-transitive relation `R` they satisfy
carry over to the loop -/
theorem scanL_state_induct (P : S → Prop) (R : S → S → Prop) (hrefl : ∀ s, R s s)
    (htrans : ∀ a b c, R a b → R b c → R a c)
    (hstep : ∀ s d s' l e1, P s → scanBytes s d = .ok (s', l, e1) → P s' ∧ R s s')
    (s : S) (fwd : Bytes) (cons : List Bytes) (items : List (Bytes × Option RErr)) (hP : P s) :
    P (scanL s fwd cons items).s ∧ R s (scanL s fwd cons items).s :=
  scanL_induct (fun s' => P s' ∧ R s s') items
    (fun s1 d s2 l e1 _ h1 hsc =>
      ⟨(hstep s1 d s2 l e1 h1.1 hsc).1, htrans _ _ _ h1.2 (hstep s1 d s2 l e1 h1.1 hsc).2⟩)
    s fwd cons ⟨hP, hrefl s⟩

/-- while a goroutine dump is being parsed, the loop only modifies the last goroutine or
appends new ones -/
theorem scanL_lastOnly (s : S) (fwd : Bytes) (cons : List Bytes) (items : List (Bytes × Option RErr))
    (h : NR s.st) : NR (scanL s fwd cons items).s.st ∧ LastOnly s.gs (scanL s fwd cons items).s.gs :=
  scanL_state_induct (fun s => NR s.st) (fun s s' => LastOnly s.gs s'.gs)
    (fun _ => LastOnly.refl _) (fun _ _ _ h1 h2 => h1.trans h2)
    (fun _ _ _ _ _ hP hsc =>
      ⟨Step_NR (scan_step hsc) hP, ((scan_gsEffect hsc).lastOnly hP.1).1⟩) s fwd cons items h

end PP
