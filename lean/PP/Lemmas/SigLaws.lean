import PP.Model.Sig
/-
Laws of similar / equal / merge on Arg … Signature (stack.go:178-730).

* `similar l a b ↔ key l a = key l b` for a reference key, hence `similar l`
  is an equivalence relation at every level;
* what holds of similar arguments is proved by one simultaneous induction over two similar
  arguments / argument lists (`Arg.similar_induct`), of similar stacks by `callsSimilar_induct`;
* `merge` stays in the similarity class of its left operand when both operands
  are well-formed (`WF`), and preserves `WF`;
* `similar` implies the shape condition under which `merge` never indexes out
  of range;
* the four levels form a refinement chain; sleep bounds are irrelevant to
  `similar`; `equal` implies `similar` at every level.
-/
namespace PP

/-! ### reference keys -/

/-- what `Arg.similar l` looks at -/
inductive ArgKey where
  | exact (name : Bytes) (value : Nat) (isPtr otl : Bool)
  | ptr (otl isPtr : Bool) (value : Nat)
  | any
  | agg (fields : List ArgKey) (elided : Bool)

mutual
def Arg.key (l : Lvl) : Arg → ArgKey
  | .scalar n v p o _ =>
    match l with
    | .exactFlags | .exactLines => .exact n v p o
    | .anyValue => .any
    | .anyPointer => .ptr o p (if p then 0 else v)
  | .agg fs e => .agg (Arg.keyL l fs) e
def Arg.keyL (l : Lvl) : List Arg → List ArgKey
  | [] => []
  | a :: as => Arg.key l a :: Arg.keyL l as
end

structure CallKey where
  line : Nat
  fn : Bytes
  src : Bytes
  elided : Bool
  args : List ArgKey

structure StackKey where
  elided : Bool
  calls : List CallKey

structure SigKey where
  state : Bytes
  createdBy : StackKey
  /-- `locked` is compared at `.exactFlags` only -/
  locked : Bool
  stack : StackKey

def callKey (l : Lvl) (c : Call) : CallKey :=
  { line := c.line, fn := c.fn.complete, src := c.remoteSrcPath, elided := c.args.elided,
    args := Arg.keyL l c.args.values }

def callsKey (l : Lvl) : List Call → List CallKey
  | [] => []
  | c :: cs => callKey l c :: callsKey l cs

def stackKey (l : Lvl) (s : Stack) : StackKey := { elided := s.elided, calls := callsKey l s.calls }

def sigKey (l : Lvl) (s : Signature) : SigKey :=
  { state := s.state, createdBy := stackKey l s.createdBy,
    locked := (l == .exactFlags) && s.locked, stack := stackKey l s.stack }

/-! ### similar ⇔ equal keys -/

mutual
theorem Arg.similar_iff_key (l : Lvl) :
    ∀ a b : Arg, Arg.similar l a b = true ↔ Arg.key l a = Arg.key l b
  | .scalar n v p o i, .scalar n' v' p' o' i' => by
    cases l <;> simp [Arg.similar, Arg.key] <;> (try grind)
  | .agg fs e, .agg fs' e' => by
    simp [Arg.similar, Arg.key, Arg.similarL_iff_keyL l fs fs']
    grind
  | .scalar .., .agg .. => by cases l <;> simp [Arg.similar, Arg.key]
  | .agg .., .scalar .. => by cases l <;> simp [Arg.similar, Arg.key]
theorem Arg.similarL_iff_keyL (l : Lvl) :
    ∀ as bs : List Arg, Arg.similarL l as bs = true ↔ Arg.keyL l as = Arg.keyL l bs
  | [], [] => by simp [Arg.similarL, Arg.keyL]
  | a :: as, b :: bs => by
    simp [Arg.similarL, Arg.keyL, Arg.similar_iff_key l a b, Arg.similarL_iff_keyL l as bs]
  | [], _ :: _ => by simp [Arg.similarL, Arg.keyL]
  | _ :: _, [] => by simp [Arg.similarL, Arg.keyL]
end

theorem Call.similar_iff_key (l : Lvl) (a b : Call) :
    Call.similar l a b = true ↔ callKey l a = callKey l b := by
  simp [Call.similar, Args.similar, callKey, Arg.similarL_iff_keyL, Bool.and_eq_true]
  grind

theorem callsSimilar_iff_key (l : Lvl) :
    ∀ as bs : List Call, callsSimilar l as bs = true ↔ callsKey l as = callsKey l bs
  | [], [] => by simp [callsSimilar, callsKey]
  | a :: as, b :: bs => by
    simp [callsSimilar, callsKey, Call.similar_iff_key l a b, callsSimilar_iff_key l as bs]
  | [], _ :: _ => by simp [callsSimilar, callsKey]
  | _ :: _, [] => by simp [callsSimilar, callsKey]

theorem Stack.similar_iff_key (l : Lvl) (a b : Stack) :
    Stack.similar l a b = true ↔ stackKey l a = stackKey l b := by
  simp [Stack.similar, stackKey, callsSimilar_iff_key, Bool.and_eq_true]

theorem Signature.similar_iff_key (l : Lvl) (a b : Signature) :
    Signature.similar l a b = true ↔ sigKey l a = sigKey l b := by
  -- the level enters only through the test `l == .exactFlags` in front of `locked`
  cases h : (l == .exactFlags) <;>
    simp [Signature.similar, sigKey, Stack.similar_iff_key, Bool.and_eq_true, bne, h] <;> grind

/-! ### induction over similar arguments and over similar call lists -/

/-- the cases of a simultaneous induction over two similar arguments (`P`) and two similar
argument lists (`Q`): only the diagonal ones are left -/
structure Arg.SimilarCases (l : Lvl) (P : Arg → Arg → Prop) (Q : List Arg → List Arg → Prop) :
    Prop where
  scalar : ∀ n v p o i n' v' p' o' i',
    Arg.similar l (.scalar n v p o i) (.scalar n' v' p' o' i') = true →
      P (.scalar n v p o i) (.scalar n' v' p' o' i')
  agg : ∀ fs fs' e, Arg.similarL l fs fs' = true → Q fs fs' → P (.agg fs e) (.agg fs' e)
  nil : Q [] []
  cons : ∀ a b as bs, Arg.similar l a b = true → Arg.similarL l as bs = true → P a b → Q as bs →
    Q (a :: as) (b :: bs)

section
variable {l : Lvl} {P : Arg → Arg → Prop} {Q : List Arg → List Arg → Prop}

mutual
private theorem similar_induct_arg (c : Arg.SimilarCases l P Q) :
    ∀ a b, Arg.similar l a b = true → P a b
  | .scalar .., .scalar .., h => c.scalar _ _ _ _ _ _ _ _ _ _ h
  | .agg fs e, .agg fs' e', h => by
    simp only [Arg.similar, Bool.and_eq_true, beq_iff_eq] at h
    obtain ⟨rfl, h⟩ := h
    exact c.agg fs fs' e h (similar_induct_list c fs fs' h)
  | .scalar .., .agg .., h => by cases l <;> simp [Arg.similar] at h
  | .agg .., .scalar .., h => by cases l <;> simp [Arg.similar] at h
private theorem similar_induct_list (c : Arg.SimilarCases l P Q) :
    ∀ as bs, Arg.similarL l as bs = true → Q as bs
  | [], [], _ => c.nil
  | a :: as, b :: bs, h => by
    simp only [Arg.similarL, Bool.and_eq_true] at h
    exact c.cons a b as bs h.1 h.2 (similar_induct_arg c a b h.1) (similar_induct_list c as bs h.2)
  | [], _ :: _, h => by simp [Arg.similarL] at h
  | _ :: _, [], h => by simp [Arg.similarL] at h
end

theorem Arg.similar_induct (c : Arg.SimilarCases l P Q) :
    (∀ a b, Arg.similar l a b = true → P a b) ∧ (∀ as bs, Arg.similarL l as bs = true → Q as bs) :=
  ⟨similar_induct_arg c, similar_induct_list c⟩
end

theorem Arg.similarL_length (l : Lvl) :
    ∀ as bs : List Arg, Arg.similarL l as bs = true → as.length = bs.length :=
  (Arg.similar_induct (P := fun _ _ => True) (Q := fun as bs => as.length = bs.length)
    { scalar := fun _ _ _ _ _ _ _ _ _ _ _ => trivial
      agg := fun _ _ _ _ _ => trivial
      nil := rfl
      cons := fun _ _ _ _ _ _ _ ih => congrArg (· + 1) ih }).2

theorem callsSimilar_induct {l : Lvl} {P : List Call → List Call → Prop} (nil : P [] [])
    (cons : ∀ a b as bs, Call.similar l a b = true → callsSimilar l as bs = true → P as bs →
      P (a :: as) (b :: bs)) : ∀ as bs, callsSimilar l as bs = true → P as bs
  | [], [], _ => nil
  | a :: as, b :: bs, h => by
    simp only [callsSimilar, Bool.and_eq_true] at h
    exact cons a b as bs h.1 h.2 (callsSimilar_induct nil cons as bs h.2)
  | [], _ :: _, h => by simp [callsSimilar] at h
  | _ :: _, [], h => by simp [callsSimilar] at h

theorem Call.similar_args {l : Lvl} {a b : Call} (h : Call.similar l a b = true) :
    Arg.similarL l a.args.values b.args.values = true := by
  simp only [Call.similar, Args.similar, Bool.and_eq_true] at h; exact h.2.2

theorem Signature.similar_calls {l : Lvl} {a b : Signature} (h : Signature.similar l a b = true) :
    callsSimilar l a.stack.calls b.stack.calls = true := by
  simp only [Signature.similar, Stack.similar, Bool.and_eq_true] at h; exact h.2.2

theorem callsSimilar_length (l : Lvl) :
    ∀ as bs : List Call, callsSimilar l as bs = true → as.length = bs.length :=
  callsSimilar_induct rfl fun _ _ _ _ _ _ ih => congrArg Nat.succ ih

/-! ### `similar l` is an equivalence relation -/

theorem Signature.similar_refl (l : Lvl) (a : Signature) : Signature.similar l a a = true :=
  (Signature.similar_iff_key l a a).2 rfl

theorem Signature.similar_symm (l : Lvl) (a b : Signature) :
    Signature.similar l a b = true → Signature.similar l b a = true := fun h =>
  (Signature.similar_iff_key l b a).2 ((Signature.similar_iff_key l a b).1 h).symm

theorem Signature.similar_trans (l : Lvl) (a b c : Signature) :
    Signature.similar l a b = true → Signature.similar l b c = true →
      Signature.similar l a c = true := fun h₁ h₂ =>
  (Signature.similar_iff_key l a c).2
    (((Signature.similar_iff_key l a b).1 h₁).trans ((Signature.similar_iff_key l b c).1 h₂))

/-! ### well-formedness and merge -/

mutual
/-- well-formedness produced by parseArgs: a too-large argument (`_`) carries no
value, is not a pointer and has no name -/
def Arg.WF : Arg → Bool
  | .scalar n v p o _ => !o || (v == 0 && !p && n == [])
  | .agg fs _ => Arg.WFL fs
def Arg.WFL : List Arg → Bool
  | [] => true
  | a :: as => Arg.WF a && Arg.WFL as
end

def callsWF : List Call → Bool
  | [] => true
  | c :: cs => Arg.WFL c.args.values && callsWF cs

def Signature.WF (s : Signature) : Bool := callsWF s.stack.calls

theorem Arg.merge_similar_both (l : Lvl) :
    (∀ a b, Arg.similar l a b = true → Arg.WF a = true → Arg.WF b = true →
      Arg.similar l (Arg.merge a b) a = true) ∧
    (∀ as bs, Arg.similarL l as bs = true → Arg.WFL as = true → Arg.WFL bs = true →
      Arg.similarL l (Arg.mergeL as bs) as = true) :=
  Arg.similar_induct {
    scalar := fun n v p o i n' v' p' o' i' hs hwf hwb => by
      simp only [Arg.merge]
      split
      · exact (Arg.similar_iff_key l _ _).2 rfl
      · rename_i hne
        cases l
        -- at the exact levels `similar` on scalars is `equal`
        · exact absurd hs hne
        · exact absurd hs hne
        · -- a too-large argument has no value, pointer flag or name: two such are `equal`
          have ho : o = false := by
            cases o with
            | false => rfl
            | true => exfalso; simp_all [Arg.equal, Arg.similar, Arg.WF]
          simp [Arg.similar, ho]
        · rfl
    agg := fun fs fs' e _ ih hwf hwb => by
      simp only [Arg.WF] at hwf hwb
      simpa [Arg.merge, Arg.similar] using ih hwf hwb
    nil := fun _ _ => rfl
    cons := fun a b as bs _ _ iha ihs hwf hwb => by
      simp only [Arg.WFL, Bool.and_eq_true] at hwf hwb
      simp only [Arg.mergeL, Arg.similarL, Bool.and_eq_true]
      exact ⟨iha hwf.1 hwb.1, ihs hwf.2 hwb.2⟩ }

theorem Arg.merge_similar (l : Lvl) : ∀ a b : Arg, Arg.WF a = true → Arg.WF b = true →
    Arg.similar l a b = true → Arg.similar l (Arg.merge a b) a = true :=
  fun a b hwa hwb hs => (Arg.merge_similar_both l).1 a b hs hwa hwb

theorem Arg.mergeL_nil (as : List Arg) : Arg.mergeL as [] = as := by
  cases as <;> simp [Arg.mergeL]

mutual
theorem Arg.merge_WF : ∀ a b : Arg, Arg.WF a = true → Arg.WF (Arg.merge a b) = true
  | .scalar n v p o i, b, hwf => by
    simp only [Arg.merge]
    split
    · exact hwf
    · simp [Arg.WF]
  | .agg fs e, .agg fs' e', hwf => by
    simp only [Arg.merge, Arg.WF] at hwf ⊢
    exact Arg.mergeL_WF fs fs' hwf
  | .agg fs e, .scalar .., hwf => by
    simp only [Arg.merge, Arg.WF, Arg.mergeL_nil] at hwf ⊢
    exact hwf
theorem Arg.mergeL_WF : ∀ as bs : List Arg, Arg.WFL as = true → Arg.WFL (Arg.mergeL as bs) = true
  | [], _, _ => by simp [Arg.mergeL, Arg.WFL]
  | a :: as, [], hwf => by simpa [Arg.mergeL] using hwf
  | a :: as, b :: bs, hwf => by
    simp only [Arg.WFL, Bool.and_eq_true] at hwf
    simp only [Arg.mergeL, Arg.WFL, Bool.and_eq_true]
    exact ⟨Arg.merge_WF a b hwf.1, Arg.mergeL_WF as bs hwf.2⟩
end

theorem Call.merge_similar (l : Lvl) (a b : Call) (hwa : Arg.WFL a.args.values = true)
    (hwb : Arg.WFL b.args.values = true) (hs : Call.similar l a b = true) :
    Call.similar l (Call.merge a b) a = true := by
  simp only [Call.similar, Args.similar, Bool.and_eq_true] at hs
  simp only [Call.similar, Args.similar, Call.merge, Args.merge, Bool.and_eq_true,
    beq_self_eq_true, true_and]
  exact (Arg.merge_similar_both l).2 _ _ hs.2.2 hwa hwb

theorem callsMerge_similar (l : Lvl) : ∀ as bs : List Call, callsSimilar l as bs = true →
    callsWF as = true → callsWF bs = true → callsSimilar l (callsMerge as bs) as = true :=
  callsSimilar_induct (fun _ _ => rfl) fun a b as bs hab _ ih hwa hwb => by
    simp only [callsWF, Bool.and_eq_true] at hwa hwb
    simp only [callsMerge, callsSimilar, Bool.and_eq_true]
    exact ⟨Call.merge_similar l a b hwa.1 hwb.1 hab, ih hwa.2 hwb.2⟩

theorem callsMerge_WF : ∀ as bs : List Call, callsWF as = true → callsWF (callsMerge as bs) = true
  | [], _, _ => by simp [callsMerge, callsWF]
  | a :: as, [], hwf => by simpa [callsMerge] using hwf
  | a :: as, b :: bs, hwf => by
    simp only [callsWF, Bool.and_eq_true] at hwf
    simp only [callsMerge, callsWF, Bool.and_eq_true, Call.merge, Args.merge]
    exact ⟨Arg.mergeL_WF _ _ hwf.1, callsMerge_WF as bs hwf.2⟩

theorem Stack.similar_refl (l : Lvl) (s : Stack) : Stack.similar l s s = true :=
  (Stack.similar_iff_key l s s).2 rfl

/-- `merge` stays in the similarity class of the key (both sides well-formed). -/
theorem Signature.merge_similar (l : Lvl) (k r : Signature) :
    k.WF = true → r.WF = true → Signature.similar l k r = true →
      Signature.similar l (Signature.merge k r) k = true := by
  intro hk hr hs
  simp only [Signature.similar, Bool.and_eq_true, Stack.similar] at hs
  obtain ⟨⟨⟨_, _⟩, hlock⟩, _, hcalls⟩ := hs
  have hc := callsMerge_similar l _ _ hcalls hk hr
  simp only [Signature.similar, Signature.merge, Stack.merge, Bool.and_eq_true, beq_self_eq_true,
    Stack.similar_refl, true_and]
  refine ⟨?_, ?_⟩
  · cases h : (l == Lvl.exactFlags) <;> simp_all [bne]
  · simpa [Stack.similar] using hc

theorem Signature.merge_WF (k r : Signature) :
    k.WF = true → r.WF = true → (Signature.merge k r).WF = true := by
  intro hk _
  simpa [Signature.WF, Signature.merge, Stack.merge] using callsMerge_WF _ r.stack.calls hk

/-! ### similar ⇒ merge stays in range -/

theorem Arg.similar_shapeOK_both (l : Lvl) :
    (∀ a b, Arg.similar l a b = true → Arg.shapeOK a b = true) ∧
    (∀ as bs, Arg.similarL l as bs = true → Arg.shapeOKL as bs = true) :=
  Arg.similar_induct {
    scalar := fun _ _ _ _ _ _ _ _ _ _ _ => rfl
    agg := fun _ _ _ _ ih => ih
    nil := rfl
    cons := fun _ _ _ _ _ _ iha ihs => by simp only [Arg.shapeOKL, iha, ihs, Bool.and_self] }

theorem Arg.similar_shapeOK (l : Lvl) : ∀ a b : Arg, Arg.similar l a b = true → Arg.shapeOK a b = true :=
  (Arg.similar_shapeOK_both l).1

theorem callsSimilar_shapeOK (l : Lvl) :
    ∀ as bs : List Call, callsSimilar l as bs = true → callsShapeOK as bs = true :=
  callsSimilar_induct rfl fun a b _ _ hab _ ih => by
    simp only [callsShapeOK, (Arg.similar_shapeOK_both l).2 _ _ (Call.similar_args hab), ih, Bool.and_self]

theorem Signature.similar_shapeOK (l : Lvl) (a b : Signature) :
    Signature.similar l a b = true → Signature.shapeOK a b = true :=
  fun hs => callsSimilar_shapeOK l _ _ (Signature.similar_calls hs)

/-! ### refinement chain -/

/-- `l₂` is the level one step coarser than `l₁` (the three successor pairs; neither
reflexive nor transitive) -/
inductive Lvl.Step : Lvl → Lvl → Prop
  | fl : Lvl.Step .exactFlags .exactLines
  | lp : Lvl.Step .exactLines .anyPointer
  | pv : Lvl.Step .anyPointer .anyValue

theorem Arg.similar_step_both {l₁ l₂ : Lvl} (st : Lvl.Step l₁ l₂) :
    (∀ a b, Arg.similar l₁ a b = true → Arg.similar l₂ a b = true) ∧
    (∀ as bs, Arg.similarL l₁ as bs = true → Arg.similarL l₂ as bs = true) :=
  Arg.similar_induct {
    scalar := fun n v p o i n' v' p' o' i' hs => by
      cases st
      · exact hs
      · simp only [Arg.similar, Bool.and_eq_true, beq_iff_eq] at hs ⊢
        simp [hs.1.1.2, hs.1.2, hs.2]
      · rfl
    agg := fun fs fs' e _ ih => by simpa [Arg.similar] using ih
    nil := rfl
    cons := fun _ _ _ _ _ _ iha ihs => by simp only [Arg.similarL, iha, ihs, Bool.and_self] }

theorem Arg.similar_step {l₁ l₂ : Lvl} (st : Lvl.Step l₁ l₂) :
    ∀ a b : Arg, Arg.similar l₁ a b = true → Arg.similar l₂ a b = true :=
  (Arg.similar_step_both st).1

theorem callsSimilar_step {l₁ l₂ : Lvl} (st : Lvl.Step l₁ l₂) :
    ∀ as bs : List Call, callsSimilar l₁ as bs = true → callsSimilar l₂ as bs = true :=
  callsSimilar_induct rfl fun a b _ _ hab _ ih => by
    simp only [Call.similar, Args.similar, Bool.and_eq_true] at hab
    simp only [callsSimilar, Call.similar, Args.similar, Bool.and_eq_true]
    exact ⟨⟨hab.1, hab.2.1, (Arg.similar_step_both st).2 _ _ hab.2.2⟩, ih⟩

theorem Signature.similar_step {l₁ l₂ : Lvl} (st : Lvl.Step l₁ l₂) (a b : Signature) :
    Signature.similar l₁ a b = true → Signature.similar l₂ a b = true := by
  intro hs
  simp only [Signature.similar, Stack.similar, Bool.and_eq_true] at hs ⊢
  obtain ⟨⟨⟨h1, h2, h3⟩, _⟩, h5, h6⟩ := hs
  refine ⟨⟨⟨h1, h2, callsSimilar_step st _ _ h3⟩, ?_⟩, h5, callsSimilar_step st _ _ h6⟩
  cases st <;> simp

/-! ### sleep bounds are irrelevant to `similar`; `equal` implies `similar` -/

theorem similar_sleep_irrelevant (l : Lvl) (a b : Signature) (m₁ M₁ m₂ M₂ : Nat) :
    Signature.similar l { a with sleepMin := m₁, sleepMax := M₁ }
      { b with sleepMin := m₂, sleepMax := M₂ } = Signature.similar l a b := rfl

theorem equal_implies_similar (l : Lvl) (a b : Signature) :
    Signature.equal a b = true → Signature.similar l a b = true := by
  intro h
  have h0 : Signature.similar .exactFlags a b = true := by
    simp only [Signature.equal, Stack.equal, Bool.and_eq_true] at h
    simp only [Signature.similar, Bool.and_eq_true]
    exact ⟨⟨⟨h.1.1.1.1.1, h.1.1.1.1.2⟩, by simp [h.1.1.1.2]⟩, h.2⟩
  have h1 := Signature.similar_step .fl a b h0
  have h2 := Signature.similar_step .lp a b h1
  have h3 := Signature.similar_step .pv a b h2
  cases l <;> assumption

end PP
