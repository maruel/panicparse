import PP.Model.Web
/-
Lemmas for C20: the handler's status as a cascade over the parameter classes, what
reaches `Aggregate`, and the buffer growth loop of `snapshot`.
-/
namespace PP
open Bytes

theorem parseMaxmem_isSome (s : Bytes) : (parseMaxmem s).isSome = maxmemOK s := by
  unfold parseMaxmem maxmemOK
  cases s == [] <;> rfl

theorem parseAugment_isSome (s : Bytes) : (parseAugment s).isSome = augmentOK s := by
  unfold parseAugment augmentOK
  cases s == []
  · cases atoi s with
    | none => rfl
    | some v =>
      by_cases h0 : v = 0
      · subst h0; rfl
      by_cases h1 : v = 1
      · subst h1; rfl
      have : (v < 0 || v > 1) = true := by
        simp only [Bool.or_eq_true, decide_eq_true_eq]; omega
      simp [this, h0, h1]
  · rfl

theorem parseSimilarity_isSome (s : Bytes) : (parseSimilarity s).isSome = similarityOK s := by
  unfold parseSimilarity similarityOK
  cases s == b!"exactflags"
  · cases s == b!"exactlines"
    · cases s == b!"anypointer"
      · cases s == []
        · cases s == b!"anyvalue" <;> rfl
        · rfl
      · rfl
    · rfl
  · rfl

/-- the status of a GET as a function of the parameter classes and of whether `snapshot`
succeeded, in the order of the code: maxmem, augment, snapshot, similarity -/
def statusOfGet (maxmem augment snapOK similarity : Bool) : Nat :=
  if maxmem = false then 400 else if augment = false then 400 else if snapOK = false then 500
  else if similarity = false then 400 else 200

theorem handlerStatus_eq (m mm au si : Bytes) (ok : Bool) :
    handlerStatus m mm au si ok =
      if m ≠ methodGET then 405 else statusOfGet (maxmemOK mm) (augmentOK au) ok (similarityOK si) := by
  rw [← parseMaxmem_isSome, ← parseAugment_isSome, ← parseSimilarity_isSome]
  unfold handlerStatus handlerPlan
  by_cases hm : m = methodGET
  · subst hm
    cases parseMaxmem mm with
    | none => rfl
    | some _ =>
      cases parseAugment au with
      | none => rfl
      | some _ =>
        cases ok with
        | false => rfl
        | true => cases parseSimilarity si <;> rfl
  · rw [if_pos hm, if_pos (bne_iff_ne.2 hm)]

theorem handlerStatus_get_iff {m mm au si : Bytes} {ok : Bool} {st : Nat} (h : st ≠ 405) :
    handlerStatus m mm au si ok = st ↔
      m = methodGET ∧ statusOfGet (maxmemOK mm) (augmentOK au) ok (similarityOK si) = st := by
  rw [handlerStatus_eq]
  split
  · next hm => exact iff_of_false (fun e => h e.symm) (fun e => hm e.1)
  · next hm => exact (and_iff_right (Classical.not_not.1 hm)).symm

/-! the decision table of a GET, read off `statusOfGet` (sixteen rows) -/

theorem statusOfGet_mem : ∀ a b c d, statusOfGet a b c d ∈ [200, 400, 405, 500] := by decide
theorem statusOfGet_ne_405 : ∀ a b c d, statusOfGet a b c d ≠ 405 := by decide
theorem statusOfGet_400 : ∀ a b c d, statusOfGet a b c d = 400 ↔
    (a = false ∨ (a = true ∧ b = false) ∨ (a = true ∧ b = true ∧ c = true ∧ d = false)) := by decide
theorem statusOfGet_500 : ∀ a b c d, statusOfGet a b c d = 500 ↔ (a = true ∧ b = true ∧ c = false) := by decide
theorem statusOfGet_200 : ∀ a b c d, statusOfGet a b c d = 200 ↔
    (a = true ∧ b = true ∧ d = true ∧ c = true) := by decide

theorem parseAugment_eq_some {au : Bytes} {a : Bool} (h : parseAugment au = some a) :
    a = !(atoi au == some 0) := by
  unfold parseAugment at h
  split at h
  · next he => cases h; rw [beq_iff_eq.1 he]; rfl
  · split at h
    · cases h
    · next z hz =>
      split at h
      · cases h
      · cases h; rw [hz]; by_cases h0 : z = 0 <;> simp [h0, bne]

theorem handlerPlan_eq_ok (mm au : Bytes) (p : WebPlan) :
    handlerPlan methodGET mm au = .ok p ↔
      parseMaxmem mm = some p.maxmem ∧ parseAugment au = some p.analyzeSources := by
  unfold handlerPlan
  obtain ⟨v, a⟩ := p
  cases parseMaxmem mm with
  | none => simp [methodGET]
  | some v' => cases parseAugment au <;> simp [methodGET]

theorem handlerOpts_eq_some (mm au si : Bytes) (p : WebPlan) (l : Lvl) :
    handlerOpts mm au si = some (p, l) ↔
      handlerPlan methodGET mm au = .ok p ∧ parseSimilarity si = some l := by
  unfold handlerOpts
  cases handlerPlan methodGET mm au <;> cases parseSimilarity si <;> simp

theorem growNext_pos {mm len : Nat} (h : 0 < len) (hmm : ¬ mm ≤ len) :
    0 < (if mm < len * 2 then mm else len * 2) := by
  split <;> omega

theorem growLoop_head (mm : Nat) (need : Nat → Nat) (i len : Nat) (h : 0 < len) :
    (growLoop mm need i len h).head? = some len := by
  unfold growLoop
  split
  · rfl
  · split <;> rfl

theorem growLoop_ne_nil (mm : Nat) (need : Nat → Nat) (i len : Nat) (h : 0 < len) :
    growLoop mm need i len h ≠ [] := fun e => by
  have := growLoop_head mm need i len h
  rw [e] at this
  cases this

theorem growLoop_at_limit (mm : Nat) (need : Nat → Nat) (i len : Nat) (h : 0 < len) (hmm : mm ≤ len) :
    growLoop mm need i len h = [len] := by
  unfold growLoop
  split <;> rfl

theorem growLoop_mem (mm : Nat) (need : Nat → Nat) (i len : Nat) (h : 0 < len) (hle : len ≤ mm) :
    ∀ x ∈ growLoop mm need i len h, len ≤ x ∧ x ≤ mm := by
  fun_induction growLoop mm need i len h with
  | case1 | case2 =>
    intro x hx
    rw [List.mem_singleton.1 hx]
    exact ⟨Nat.le_refl _, hle⟩
  | case3 i len h hfit hmm l ih =>
    have hl : len ≤ l ∧ l ≤ mm := by unfold l; split <;> omega
    intro x hx
    rcases List.mem_cons.1 hx with rfl | hx
    · exact ⟨Nat.le_refl _, hle⟩
    · exact ⟨Nat.le_trans hl.1 (ih hl.2 x hx).1, (ih hl.2 x hx).2⟩

theorem growLoop_increasing (mm : Nat) (need : Nat → Nat) (i len : Nat) (h : 0 < len) :
    (growLoop mm need i len h).Pairwise (· < ·) := by
  fun_induction growLoop mm need i len h with
  | case1 | case2 => exact List.pairwise_singleton _ _
  | case3 i len h hfit hmm l ih =>
    have hl : len < l ∧ l ≤ mm := by unfold l; split <;> omega
    exact List.pairwise_cons.2
      ⟨fun x hx => Nat.lt_of_lt_of_le hl.1 (growLoop_mem mm need (i + 1) l _ hl.2 x hx).1, ih⟩

theorem growLoop_length (mm : Nat) (need : Nat → Nat) (i len : Nat) (h : 0 < len) :
    ∀ k, mm ≤ len * 2 ^ k → (growLoop mm need i len h).length ≤ k + 1 := by
  fun_induction growLoop mm need i len h with
  | case1 | case2 => exact fun k _ => Nat.succ_le_succ (Nat.zero_le k)
  | case3 i len h hfit hmm l ih =>
    intro k hk
    cases k with
    | zero => omega
    | succ k =>
      refine Nat.succ_le_succ (ih k ?_)
      unfold l
      split
      · exact Nat.le_mul_of_pos_right _ (Nat.pow_pos (by decide))
      · rwa [Nat.pow_succ, Nat.mul_comm (2 ^ k) 2, ← Nat.mul_assoc] at hk

theorem growLoop_last (mm : Nat) (need : Nat → Nat) (i len : Nat) (h : 0 < len) :
    ∃ lst, (growLoop mm need i len h).getLast? = some lst ∧
      (need (i + (growLoop mm need i len h).length - 1) < lst ∨ mm ≤ lst) := by
  fun_induction growLoop mm need i len h with
  | case1 i len h hfit => exact ⟨len, rfl, Or.inl hfit⟩
  | case2 i len h hfit hmm => exact ⟨len, rfl, Or.inr hmm⟩
  | case3 i len h hfit hmm l ih =>
    obtain ⟨lst, hl, hc⟩ := ih
    refine ⟨lst, ?_, ?_⟩
    · rw [List.getLast?_cons_of_ne_nil (growLoop_ne_nil _ _ _ _ _)]
      exact hl
    · rw [List.length_cons, show ∀ n, i + (n + 1) - 1 = i + 1 + n - 1 by omega]
      exact hc

theorem growLoop_sum (mm : Nat) (need : Nat → Nat) (i len : Nat) (h : 0 < len) (hle : len ≤ mm) :
    (growLoop mm need i len h).sum + len ≤ 3 * mm := by
  fun_induction growLoop mm need i len h with
  | case1 | case2 => rw [List.sum_singleton]; omega
  | case3 i len h hfit hmm l ih =>
    rw [List.sum_cons]
    by_cases h2 : mm < len * 2
    · -- the next buffer is the limit itself: the loop stops there
      have hlm : l = mm := if_pos h2
      rw [growLoop_at_limit _ _ _ _ _ (Nat.le_of_eq hlm.symm), List.sum_singleton]
      omega
    · have hlm : l = len * 2 := if_neg h2
      have := ih (by omega)
      omega

end PP
