import PP.Lemmas.HtmlDocUrl
/-
The head of the rendered document (favicon link), what the URL holes of a piece
list with good values render to, and sample data for the examples of
PP/Props/C17.lean.
-/
namespace PP.Html
open PP PP.Bytes

theorem renderPieces_lit (a : Bytes) (ps : List Piece) (r : Bytes) (hr : renderPieces ps = .ok r) :
    renderPieces (.lit a :: ps) = .ok (a ++ r) :=
  renderPieces_cons_ok _ ps a r rfl hr

theorem docPieces_head (d : DocData) (ps : List Piece) (h : docPieces d = .ok ps) (r : Bytes)
    (hr : renderPieces ps = .ok r) :
    ∃ rest, r = Lit.t0 ++ Lit.t1 ++ attrEscaper (urlNormalizer d.favicon) ++ Lit.t2 ++ rest := by
  obtain ⟨_, hwf⟩ := docPieces_spec d ps h
  obtain ⟨c, hc, rfl⟩ := docPieces_eq d ps h
  -- the pieces after the first four render to some `rr`
  have hwf' : ([Piece.lit Lit.t3, .lit Lit.t4] ++ c ++ metaPieces d.ver d.toDocMeta).all Piece.wf = true := by
    simp only [List.all_append, Bool.and_eq_true] at hwf ⊢
    exact ⟨⟨rfl, hwf.1.2⟩, hwf.2⟩
  obtain ⟨rr, hrr, _⟩ := renderPieces_spec _ hwf'
  refine ⟨rr, ?_⟩
  have e := hr.symm.trans (renderPieces_lit Lit.t0 _ _ (renderPieces_lit Lit.t1 _ _
    (renderPieces_cons_ok _ _ _ _ (faviconHole_render d.favicon) (renderPieces_lit Lit.t2 _ _ hrr))))
  rw [Except.ok.inj e]; simp only [List.append_assoc]

theorem hrefs_of_goodHole (ps : List Piece) (h : ps.all goodHole = true) :
    ∀ kv ∈ (holesOf ps).filter (fun kv => kv.1 == .href),
      ∃ r, renderHole .href kv.2 = .ok r ∧ startsWithOneOf allSchemes r = true := by
  induction ps with
  | nil => intro kv hkv; simp at hkv
  | cons p ps ih =>
    simp only [List.all_cons, Bool.and_eq_true] at h
    cases p with
    | lit b => simpa using ih h.2
    | hole k v =>
      intro kv hkv
      simp only [holesOf_hole, List.filter_cons] at hkv
      split at hkv
      · rename_i hk
        have hk' : k = .href := by simpa using hk
        subst hk'
        rcases List.mem_cons.1 hkv with rfl | hmem
        · exact ⟨_, rfl, hrefHole_prefix allSchemes allSchemes_plain v h.1⟩
        · exact ih h.2 kv hmem
      · exact ih h.2 kv hkv

/-! ### sample data for the non-vacuity examples of PP/Props/C17.lean -/

/-- hostile metadata -/
def hostileMeta : DocMeta := {
  favicon := b!"R0lGOD+/=",
  now := b!"2026-09-29 12:00:00 +0000 UTC",
  gomaxprocs := 8,
  remoteGOROOT := b!"</script><script>alert(1)</script>",
  localGOROOT := b!"/usr/local/go\" onmouseover=\"alert(1)",
  localGOPATHs := [b!"/home/u/go", b!"' onload='x", b!"<!--"],
  localGomods := [(b!"javascript:alert(1)", b!"<img src=x onerror=alert(1)>"), (b!"/p&q", b!"data:text/html,<b>")],
  footer := b!"<p class=\"footer\">bye</p>" }

/-- the same shape with harmless values -/
def benignMeta : DocMeta := {
  favicon := b!"R0lGOD+/=", now := b!"now", gomaxprocs := 8,
  remoteGOROOT := b!"/goroot", localGOROOT := b!"/usr/local/go",
  localGOPATHs := [b!"/home/u/go", b!"/b", b!"/c"], localGomods := [(b!"/m", b!"example.com/m"), (b!"/n", b!"n")],
  footer := b!"<p class=\"footer\">bye</p>" }

def hostileGs : List Goroutine :=
  [{ id := 1, sig := { state := b!"\"><script>", stack := { calls := [{ fn := { name := b!"<b>" },
                                                                         remoteSrcPath := b!"/x/data:y.go", line := 3 }] } } }]
def benignGs : List Goroutine :=
  [{ id := 1, sig := { state := b!"running", stack := { calls := [{ fn := { name := b!"f" },
                                                                     remoteSrcPath := b!"/x/y.go", line := 3 }] } } }]

end PP.Html
