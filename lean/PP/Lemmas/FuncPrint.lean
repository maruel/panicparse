import PP.Spec.WF
import PP.Lemmas.PrintLemmas
import PP.Lemmas.FuncInitLemmas
/-
For C01 (round trip), function symbols.  `Func.Init` (model: `funcInit`) applied to
the symbol the traceback printer writes (`escapePkg pkg ++ "." ++ name`, or a
C-like `name`, optionally followed by ` in goroutine N`) recovers the
description (`expFunc`).  Also: `url.PathUnescape` undoes `objabi.PathToPrefix`,
and an escaped package path consists of printable non-blank bytes.
-/
namespace PP.Spec
open PP Bytes

theorem hexDigitLower_spec :
    ∀ n, n < 16 → isLowerHex (hexDigitLower n) = true ∧ hexVal (hexDigitLower n) = n := by
  decide

theorem pathUnescape_escByte (c : UInt8) (rest : Bytes) :
    pathUnescape (escByte c ++ rest) = (pathUnescape rest).map (c :: ·) := by
  have hd := hexDigitLower_spec (c.toNat / 16) (by have := c.toNat_lt; omega)
  have hm := hexDigitLower_spec (c.toNat % 16) (by omega)
  have hc : (c.toNat / 16 * 16 + c.toNat % 16).toUInt8 = c := by rw [Nat.div_add_mod']; simp
  simp [escByte, pathUnescape, isHex, hd, hm, hc]

theorem needsEsc_37 : needsEsc 37 = true := by decide

theorem pathUnescape_escWith (dots : Bool) (p r : Bytes) :
    pathUnescape (escWith dots p ++ r) = (pathUnescape r).map (p ++ ·) := by
  induction p with
  | nil => simp [escWith]
  | cons c t ih =>
    simp only [escWith]
    split
    · rw [List.append_assoc, pathUnescape_escByte, ih]
      simp [Option.map_map, Function.comp_def]
    · rename_i h
      have hc : c ≠ 37 := by
        intro hc; subst hc; simp [needsEsc_37] at h
      rw [List.append_assoc, List.singleton_append, pathUnescape_cons _ _ hc, ih]
      simp [Option.map_map, Function.comp_def]

theorem pathUnescape_escapePkg (p r : Bytes) :
    pathUnescape (escapePkg p ++ r) = (pathUnescape r).map (p ++ ·) := by
  unfold escapePkg
  split
  · rw [List.append_assoc, pathUnescape_escWith, pathUnescape_escWith]
    simp [Option.map_map, Function.comp_def, ← List.append_assoc]
  · exact pathUnescape_escWith _ _ _

theorem pathUnescape_plain (s : Bytes) (h : (37 : UInt8) ∉ s) : pathUnescape s = some s := by
  induction s with
  | nil => simp [pathUnescape]
  | cons c t ih =>
    simp only [List.mem_cons, not_or] at h
    rw [pathUnescape_cons _ _ (fun e => h.1 e.symm), ih h.2]; rfl

theorem mem_escByte {c x : UInt8} (h : x ∈ escByte c) : x = 37 ∨ isLowerHex x = true := by
  have := c.toNat_lt
  simp only [escByte, List.mem_cons, List.not_mem_nil, or_false] at h
  rcases h with h | h | h
  · exact Or.inl h
  · subst h; exact Or.inr (hexDigitLower_spec _ (by omega)).1
  · subst h; exact Or.inr (hexDigitLower_spec _ (by omega)).1

theorem mem_escWith {d : Bool} {s : Bytes} {x : UInt8} (h : x ∈ escWith d s) :
    (x ∈ s ∧ needsEsc x = false ∧ (d = true → x ≠ 46)) ∨ x = 37 ∨ isLowerHex x = true := by
  induction s with
  | nil => simp [escWith] at h
  | cons c t ih =>
    simp only [escWith, List.mem_append] at h
    rcases h with h | h
    · split at h
      · exact Or.inr (mem_escByte h)
      · rename_i hc
        simp only [List.mem_singleton] at h
        subst h
        left
        simp only [Bool.or_eq_true, Bool.and_eq_true, not_or, not_and, beq_iff_eq] at hc
        refine ⟨List.mem_cons_self, by simpa using hc.1, hc.2⟩
    · rcases ih h with ⟨h1, h2⟩ | h'
      · exact Or.inl ⟨List.mem_cons_of_mem _ h1, h2⟩
      · exact Or.inr h'

theorem not_mem_escWith_dot (s : Bytes) : (46 : UInt8) ∉ escWith true s := by
  intro h
  rcases mem_escWith h with ⟨_, _, h3⟩ | h | h
  · exact h3 rfl rfl
  · exact absurd h (by decide)
  · exact absurd h (by decide)

theorem slash_of_mem_escWith {d : Bool} {s : Bytes} (h : (47 : UInt8) ∈ escWith d s) : (47 : UInt8) ∈ s := by
  rcases mem_escWith h with ⟨h1, _⟩ | h | h
  · exact h1
  · exact absurd h (by decide)
  · exact absurd h (by decide)

theorem printable_aux (x : UInt8) (h : needsEsc x = false ∨ x = 37 ∨ isLowerHex x = true) :
    32 < x ∧ x < 127 ∧ x ≠ 34 := by
  simp only [needsEsc, isLowerHex, isDigit, Bool.or_eq_false_iff, Bool.or_eq_true, Bool.and_eq_true,
    decide_eq_true_eq, decide_eq_false_iff_not, beq_eq_false_iff_ne, ← UInt8.toNat_inj, UInt8.le_iff_toNat_le,
    UInt8.lt_iff_toNat_lt, ne_eq] at h ⊢
  simp at h ⊢
  omega

theorem escWith_bytes (d : Bool) (p : Bytes) : ∀ c ∈ escWith d p, (32 < c ∧ c < 127 ∧ c ≠ 34) := by
  intro c h
  apply printable_aux
  rcases mem_escWith h with ⟨_, h2, _⟩ | h | h
  · exact Or.inl h2
  · exact Or.inr (Or.inl h)
  · exact Or.inr (Or.inr h)

/-- every byte of an escaped package is > 0x20, < 0x7f, not '"': no blank, no newline, no control byte -/
theorem escapePkg_bytes (p : Bytes) : ∀ c ∈ escapePkg p, (32 < c ∧ c < 127 ∧ c ≠ 34) := by
  intro c h
  unfold escapePkg at h
  split at h
  · rcases List.mem_append.1 h with h | h <;> exact escWith_bytes _ _ _ h
  · exact escWith_bytes _ _ _ h

theorem escWith_append (d : Bool) (a b : Bytes) : escWith d (a ++ b) = escWith d a ++ escWith d b := by
  induction a with
  | nil => simp [escWith]
  | cons c t ih => simp [escWith, ih]

theorem escWith_slash (d : Bool) (t : Bytes) : escWith d (47 :: t) = 47 :: escWith d t := by
  have : needsEsc 47 = false := by decide
  simp [escWith, this]

theorem escapePkg_split {p : Bytes} {i : Nat} (h : lastIndexByte p 47 = some i) :
    escapePkg p = escWith false (p.take i) ++ 47 :: escWith true (p.drop (i + 1)) ∧
      (47 : UInt8) ∉ p.drop (i + 1) := by
  obtain ⟨hp, hno, hi⟩ := lastIndexByte_eq_some h
  refine ⟨?_, hno⟩
  have ht := take_succ_append_cons (p.take i) (p.drop (i + 1)) 47
  rw [← hp, List.length_take, Nat.min_eq_left (Nat.le_of_lt hi)] at ht
  simp only [escapePkg, h, ht, escWith_append, escWith_slash]
  simp [escWith]

/-- the name cut of `funcFinish` -/
def cutName (name0 : Bytes) : Bytes :=
  match lastIndexByte name0 32 with
  | some idx =>
    if hasSuffix (name0.take idx) inGoroutineSuffix then
      (name0.take idx).take ((name0.take idx).length - inGoroutineSuffix.length) else name0
  | none => name0

theorem funcFinish_some (complete : Bytes) (e : Nat) (h : e + 1 ≤ complete.length) :
    funcFinish complete (some e) = .ok
      { complete := complete, importPath := complete.take e, dirName := lastElem (complete.take e),
        name := cutName (complete.drop (e + 1)),
        isExported := expExported (complete.take e) (cutName (complete.drop (e + 1))),
        isPkgMain := complete.take e == b!"main" } := by
  simp only [funcFinish, h, decide_true, Bool.not_true, Bool.false_eq_true, if_false]
  rfl

theorem funcFinish_none (complete : Bytes) :
    funcFinish complete none = .ok
      { complete := complete, importPath := [], dirName := [],
        name := cutName complete,
        isExported := expExported [] (cutName complete),
        isPkgMain := false } := by
  simp only [funcFinish]
  rfl

theorem funcInit_slash (raw complete pk : Bytes) (ls r : Nat)
    (hl : lastIndexByte raw 47 = some ls) (hi : indexByte (raw.drop (ls + 1)) 46 = some r)
    (h2 : pathUnescape raw = some complete) (h3 : pathUnescape (raw.take (ls + r + 1)) = some pk) :
    funcInit raw = funcFinish complete (some pk.length) := by
  simp [funcInit, hl, hi, h2, h3]

theorem funcInit_noslash (raw complete pk : Bytes) (e : Nat)
    (hl : lastIndexByte raw 47 = none) (hi : indexByte raw 46 = some e) (he : e > 0)
    (h2 : pathUnescape raw = some complete) (h3 : pathUnescape (raw.take e) = some pk) :
    funcInit raw = funcFinish complete (some pk.length) := by
  simp [funcInit, hl, hi, h2, h3, he]

theorem funcInit_nodot (raw complete : Bytes)
    (hl : lastIndexByte raw 47 = none) (hi : indexByte raw 46 = none)
    (h2 : pathUnescape raw = some complete) :
    funcInit raw = funcFinish complete none := by
  simp [funcInit, hl, hi, h2]

theorem cutName_parent (name : Bytes) (parent : Option Nat)
    (hform : parent = none → inGorForm name = false) :
    cutName (name ++ parentText parent) = name := by
  cases parent with
  | none =>
    have hf := hform rfl
    simp only [parentText, List.append_nil]
    unfold cutName
    unfold inGorForm at hf
    split
    · rename_i idx hidx
      rw [hidx] at hf
      simp only at hf
      simp [hf]
    · rfl
  | some p =>
    have h32 : (32 : UInt8) ∉ natToDec p := not_mem_natToDec p 32 (by decide)
    have hsplit : name ++ parentText (some p) = (name ++ inGoroutineSuffix) ++ 32 :: natToDec p := by
      simp [parentText, inGoroutineSuffix]
    have hl := lastIndexByte_append_cons (name ++ inGoroutineSuffix) (natToDec p) 32 h32
    rw [hsplit]
    unfold cutName
    rw [hl]
    simp only [List.take_left', hasSuffix_append, if_true]
    simp

theorem not_mem_append_parentText {c : UInt8} {name : Bytes} (hd : isDigit c = false)
    (hc : c ∉ b!" in goroutine ") (h : c ∉ name) (parent : Option Nat) : c ∉ name ++ parentText parent := by
  cases parent with
  | none => simpa [parentText] using h
  | some p =>
    simp only [parentText, List.mem_append, not_or]
    exact ⟨h, hc, not_mem_natToDec p c hd⟩

theorem funcFinish_print (pkg name : Bytes) (parent : Option Nat) (hpkg : pkg ≠ [])
    (hform : parent = none → inGorForm name = false) :
    funcFinish (pkg ++ 46 :: (name ++ parentText parent)) (some pkg.length) =
      .ok (expFunc pkg name parent) := by
  rw [funcFinish_some _ _ (by simp)]
  rw [drop_succ_append_cons, List.take_left' rfl, cutName_parent name parent hform]
  simp [expFunc, hpkg]

/-- Func.Init recovers package and name from the printed symbol of a Go function -/
theorem funcInit_print (pkg name : Bytes) (parent : Option Nat)
    (hpkg : pkg ≠ []) (hslash : (47 : UInt8) ∉ name) (hpct : (37 : UInt8) ∉ name)
    (hform : parent = none → inGorForm name = false) :
    funcInit (escapePkg pkg ++ b!"." ++ name ++ parentText parent) = .ok (expFunc pkg name parent) := by
  have hraw : escapePkg pkg ++ b!"." ++ name ++ parentText parent =
      escapePkg pkg ++ 46 :: (name ++ parentText parent) := by simp
  rw [hraw]
  have hs' := not_mem_append_parentText (by decide) (by decide) hslash parent
  have hp' := not_mem_append_parentText (by decide) (by decide) hpct parent
  generalize hn : name ++ parentText parent = name' at hs' hp'
  have hun : pathUnescape (escapePkg pkg ++ 46 :: name') = some (pkg ++ 46 :: name') := by
    rw [pathUnescape_escapePkg, pathUnescape_plain]
    · rfl
    · simp only [List.mem_cons, not_or]; exact ⟨by decide, hp'⟩
  have hesc : pathUnescape (escapePkg pkg) = some pkg := by
    simpa [pathUnescape] using pathUnescape_escapePkg pkg []
  have hne : escapePkg pkg ≠ [] := by
    intro h
    rw [h, pathUnescape] at hesc
    exact hpkg (Option.some.inj hesc).symm
  have htake : (escapePkg pkg ++ 46 :: name').take (escapePkg pkg).length = escapePkg pkg :=
    List.take_left' rfl
  rw [← hn, ← funcFinish_print pkg name parent hpkg hform, hn]
  cases hli : lastIndexByte pkg 47 with
  | none =>
    have hnos : (47 : UInt8) ∉ pkg := lastIndexByte_eq_none hli
    have hE : escapePkg pkg = escWith true pkg := by simp [escapePkg, hli]
    have h47 : (47 : UInt8) ∉ escapePkg pkg ++ 46 :: name' := by
      simp only [List.mem_append, List.mem_cons, not_or]
      refine ⟨?_, by decide, hs'⟩
      rw [hE]; exact fun h => hnos (slash_of_mem_escWith h)
    have h46 : (46 : UInt8) ∉ escapePkg pkg := by rw [hE]; exact not_mem_escWith_dot _
    apply funcInit_noslash _ _ pkg (escapePkg pkg).length (lastIndexByte_none _ _ h47)
      (indexByte_append_cons _ _ _ h46) _ hun
    · rw [htake]; exact hesc
    · exact List.length_pos_iff.2 hne
  | some i =>
    obtain ⟨hE, hnos⟩ := escapePkg_split hli
    generalize hA : escWith false (pkg.take i) = A at hE
    generalize hL : escWith true (pkg.drop (i + 1)) = L at hE
    have hL47 : (47 : UInt8) ∉ L := by
      rw [← hL]; exact fun h => hnos (slash_of_mem_escWith h)
    have hL46 : (46 : UInt8) ∉ L := by rw [← hL]; exact not_mem_escWith_dot _
    have hr : escapePkg pkg ++ 46 :: name' = A ++ 47 :: (L ++ 46 :: name') := by
      rw [hE]; simp
    have h47 : (47 : UInt8) ∉ L ++ 46 :: name' := by
      simp only [List.mem_append, List.mem_cons, not_or]
      exact ⟨hL47, by decide, hs'⟩
    have hlen : (escapePkg pkg).length = A.length + L.length + 1 := by
      rw [hE, List.length_append, List.length_cons]; omega
    apply funcInit_slash _ _ pkg A.length L.length
    · rw [hr]; exact lastIndexByte_append_cons _ _ _ h47
    · rw [hr, drop_succ_append_cons]
      exact indexByte_append_cons _ _ _ hL46
    · exact hun
    · rw [← hlen, htake]; exact hesc

/-- … and of a C-like symbol without a package -/
theorem funcInit_print_c (name : Bytes) (parent : Option Nat)
    (hdot : (46 : UInt8) ∉ name) (hslash : (47 : UInt8) ∉ name) (hpct : (37 : UInt8) ∉ name)
    (hform : parent = none → inGorForm name = false) :
    funcInit (name ++ parentText parent) = .ok (expFunc [] name parent) := by
  have hs' := not_mem_append_parentText (by decide) (by decide) hslash parent
  have hp' := not_mem_append_parentText (by decide) (by decide) hpct parent
  have hd' := not_mem_append_parentText (by decide) (by decide) hdot parent
  rw [funcInit_nodot _ _ (lastIndexByte_none _ _ hs') (indexByte_none _ _ hd') (pathUnescape_plain _ hp'),
    funcFinish_none, cutName_parent name parent hform]
  simp [expFunc, lastElem, lastIndexByte]

theorem funcInit_symbol (f : FrameSpec) (parent : Option Nat)
    (hname : (47 : UInt8) ∉ f.name ∧ (37 : UInt8) ∉ f.name)
    (hc : f.pkg = [] → (46 : UInt8) ∉ f.name)
    (hform : parent = none → inGorForm f.name = false) :
    funcInit (f.symbol ++ parentText parent) = .ok (expFunc f.pkg f.name parent) := by
  unfold FrameSpec.symbol
  by_cases hp : f.pkg = []
  · rw [if_pos hp, hp]
    exact funcInit_print_c f.name parent (hc hp) hname.1 hname.2 hform
  · rw [if_neg hp]
    exact funcInit_print f.pkg f.name parent hp hname.1 hname.2 hform

#print axioms funcInit_symbol
#print axioms pathUnescape_escapePkg

end PP.Spec
