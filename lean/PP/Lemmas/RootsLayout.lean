import PP.Lemmas.RootsFind
import PP.Lemmas.RootsUpd
/-
Lemmas for the (partial) layout theorem of C18: monotonicity of the roots found
by the loop of `findRoots`, the step that detects a GOPATH root, the walk that
picks the only matching key.
-/
namespace PP
open Bytes

/-! ### monotonicity of the loop -/

structure Mono (st st' : RootsState) : Prop where
  goroot : st.goroot ≠ [] → st'.goroot = st.goroot
  gopaths : ∀ k ∈ st.gopaths.keys, k ∈ st'.gopaths.keys
  gomods : ∀ k ∈ st.gomods.keys, k ∈ st'.gomods.keys

theorem Mono.refl (st : RootsState) : Mono st st := ⟨fun _ => rfl, fun _ h => h, fun _ h => h⟩

theorem Mono.trans {a b c : RootsState} (h1 : Mono a b) (h2 : Mono b c) : Mono a c :=
  ⟨fun h => by rw [h2.goroot (by rw [h1.goroot h]; exact h), h1.goroot h],
   fun k h => h2.gopaths k (h1.gopaths k h), fun k h => h2.gomods k (h1.gomods k h)⟩

theorem findRootsMod_mono (fs : FS) (st : RootsState) (f : Bytes) (parts : List Bytes) :
    Mono st (findRootsMod fs st f parts) := by
  rcases findRootsMod_cases fs st f parts with ⟨_, e⟩ | ⟨_, _, e⟩ | ⟨_, _, e⟩ <;> rw [e]
  · exact ⟨fun _ => rfl, fun _ h => h, fun _ h => AMap.keys_insert_mono h⟩
  · exact ⟨fun _ => rfl, fun _ h => h, fun _ h => AMap.keys_insert_mono h⟩
  · exact ⟨fun _ => rfl, fun _ h => h, fun _ h => h⟩

theorem findRootsStep_mono {fs : FS} {lg : Bytes} {lgs : List Bytes} {st st' : RootsState} {f : Bytes}
    (h : findRootsStep fs lg lgs st f = .ok st') : Mono st st' := by
  cases findRootsStep_outcome h with
  | skip => exact Mono.refl _
  | goroot hg => exact ⟨fun hne => absurd hg hne, fun _ h => h, fun _ h => h⟩
  | gopath => exact ⟨fun _ => rfl, fun _ h => AMap.keys_insert_mono h, fun _ h => h⟩
  | mod => exact findRootsMod_mono fs st f _

theorem findRootsLoop_mono {fs : FS} {lg : Bytes} {lgs : List Bytes} (todo : List Bytes)
    {st st' : RootsState} (h : findRootsLoop fs lg lgs st todo = .ok st') : Mono st st' :=
  findRootsLoop_induct (P := Mono st) todo (fun _ _ _ _ hm hs => hm.trans (findRootsStep_mono hs)) (Mono.refl st) h

theorem findRootsLoop_append {fs : FS} {lg : Bytes} {lgs : List Bytes} (pre : List Bytes) {f : Bytes}
    {post : List Bytes} {st fin : RootsState}
    (h : findRootsLoop fs lg lgs st (pre ++ f :: post) = .ok fin) :
    ∃ st1 st2, findRootsLoop fs lg lgs st pre = .ok st1 ∧ findRootsStep fs lg lgs st1 f = .ok st2 ∧
      findRootsLoop fs lg lgs st2 post = .ok fin := by
  induction pre generalizing st with
  | nil =>
    simp only [List.nil_append, findRootsLoop] at h
    split at h
    · cases h
    · rename_i st2 h2
      exact ⟨st, st2, rfl, h2, h⟩
  | cons a t ih =>
    simp only [List.cons_append, findRootsLoop] at h
    split at h
    · cases h
    · rename_i sa ha
      obtain ⟨st1, st2, h1, h2, h3⟩ := ih h
      refine ⟨st1, st2, ?_, h2, h3⟩
      simp only [findRootsLoop, ha, h1]

/-! ### one frame file under a single-GOPATH layout -/

/-- What is assumed about one frame file `f` whose parts are `pR`, `src`, `pRel`
(remote root `R = pR` joined, relative path `rel = pRel` joined), for a local
GOPATH `L` and local GOROOT `lg`. -/
structure LayoutHyp (fs : FS) (lg L f : Bytes) (pR pRel : List Bytes) : Prop where
  split : splitPath f = pR ++ b!"src" :: pRel
  pR_ne : pR ≠ []
  pRel_ne : pRel ≠ []
  /-- `splitPath` loses nothing: no empty element, no trailing `/`, valid UTF-8 -/
  clean : pathJoin (splitPath f) = f
  /-- the file exists under the local GOPATH -/
  present : fs.isFile (L ++ srcDir ++ b!"/" ++ pathJoin pRel) = true
  /-- no proper suffix of the path longer than `rel` exists under `L/src` -/
  noSpurious : ∀ j, 0 < j → j ≤ pR.length →
    fs.isFile (L ++ srcDir ++ b!"/" ++ pathJoin ((splitPath f).drop j)) = false
  /-- GOROOT does not claim it: no suffix of the path exists under `lg/src` -/
  noGoroot : ∀ j, 0 < j → j < (splitPath f).length →
    fs.isFile (lg ++ srcDir ++ b!"/" ++ pathJoin ((splitPath f).drop j)) = false

/-- no detected root other than `R` claims `f` -/
structure NoOtherClaim (st : RootsState) (f R : Bytes) : Prop where
  goroot : st.goroot = [] ∨ hasPrefix f (st.goroot ++ srcSep) = false
  gopaths : ∀ k ∈ st.gopaths.keys, k ≠ R →
    hasPrefix f (k ++ srcSep) = false ∧ hasPrefix f (k ++ pkgmodSep) = false
  gomods : ∀ k ∈ st.gomods.keys, hasPrefix f (k ++ b!"/") = false

theorem NoOtherClaim.of_mono {st fin : RootsState} {f R : Bytes} (hm : Mono st fin)
    (h : NoOtherClaim fin f R) : NoOtherClaim st f R := by
  refine ⟨?_, fun k hk hne => h.gopaths k (hm.gopaths k hk) hne, fun k hk => h.gomods k (hm.gomods k hk)⟩
  by_cases hg : st.goroot = []
  · exact Or.inl hg
  · have e := hm.goroot hg
    rcases h.goroot with h1 | h1
    · exact absurd (e ▸ h1) hg
    · exact Or.inr (e ▸ h1)

variable {fs : FS} {lg L f : Bytes} {pR pRel : List Bytes}

theorem LayoutHyp.f_eq (h : LayoutHyp fs lg L f pR pRel) :
    f = pathJoin pR ++ srcSep ++ pathJoin pRel := by
  have e := h.clean
  rw [h.split] at e
  unfold pathJoin at e ⊢
  rw [join_append b!"/" h.pR_ne (by simp), join_cons_ne b!"/" b!"src" h.pRel_ne] at e
  rw [← e]
  simp [srcSep]

theorem LayoutHyp.rooted (h : LayoutHyp fs lg L f pR pRel) :
    isRootedIn fs (L ++ srcDir) (splitPath f) = pathJoin pR ++ srcDir :=
  (isRootedIn_of_present (pDir := [b!"src"]) (by rw [h.split]; simp) h.pR_ne (by simp) h.pRel_ne rfl h.present
    fun j h1 h2 => h.noSpurious j h1 (Nat.le_of_lt_succ h2)).trans (List.append_assoc _ _ _)

theorem LayoutHyp.findGopath (h : LayoutHyp fs lg L f pR pRel) :
    findGopath fs (splitPath f) [L] = .ok (some (pathJoin pR, L)) :=
  findGopath_src_hit [] h.rooted

theorem LayoutHyp.step (h : LayoutHyp fs lg L f pR pRel) {st1 st2 : RootsState}
    (hn : NoOtherClaim st1 f (pathJoin pR))
    (hs : findRootsStep fs lg [L] st1 f = .ok st2) : pathJoin pR ∈ st2.gopaths.keys := by
  cases findRootsStep_outcome hs with
  | skip hsk =>
    -- only `R` itself can make the loop pass over `f`
    simp only [skips, Bool.or_eq_true, Bool.and_eq_true, bne_iff_ne, ne_eq] at hsk
    rcases hsk with (⟨hg, hp⟩ | hc) | hc
    · rcases hn.goroot with h1 | h1
      · exact absurd h1 hg
      · rw [h1] at hp; cases hp
    · obtain ⟨k, hk, hm⟩ := hasSrcPrefix_exists hc
      by_cases hkr : k = pathJoin pR
      · exact hkr ▸ hk
      · have := hn.gopaths k hk hkr
        rcases hm with hm | hm
        · rw [this.1] at hm; cases hm
        · rw [this.2] at hm; cases hm
    · obtain ⟨k, hk, hm⟩ := mapHasPrefix_exists hc
      rw [hn.gomods k hk] at hm
      cases hm
  | goroot _ hr =>
    rw [isRootedIn_none h.noGoroot, hasSuffix_nil_false srcDir_ne] at hr
    cases hr
  | gopath k l _ _ hg =>
    rw [h.findGopath] at hg
    cases hg
    exact AMap.keys_insert_self _ _ _
  | mod _ _ hg =>
    rw [h.findGopath] at hg
    cases hg

theorem LayoutHyp.final (h : LayoutHyp fs lg L f pR pRel) {files : List Bytes} {st0 fin : RootsState}
    (hsound : Sound fs lg [L] files st0.goroot st0) (hf : f ∈ files)
    (hloop : findRootsLoop fs lg [L] st0 files = .ok fin)
    (hn : NoOtherClaim fin f (pathJoin pR)) :
    pathJoin pR ∈ fin.gopaths.keys ∧ fin.gopaths.get (pathJoin pR) = L := by
  obtain ⟨pre, post, e⟩ := List.append_of_mem hf
  rw [e] at hloop
  obtain ⟨st1, st2, h1, h2, h3⟩ := findRootsLoop_append pre hloop
  have m2 : Mono st2 fin := findRootsLoop_mono post h3
  have m1 : Mono st1 fin := (findRootsStep_mono h2).trans m2
  have hk : pathJoin pR ∈ fin.gopaths.keys := m2.gopaths _ (h.step (hn.of_mono m1) h2)
  refine ⟨hk, ?_⟩
  have hsf : Sound fs lg [L] files st0.goroot fin :=
    findRootsLoop_sound _ (fun x hx => e ▸ hx) hsound (e ▸ hloop)
  have := (hsf.gopaths _ (AMap.get_of_mem_keys hk)).1
  simpa using this

theorem LayoutHyp.update (h : LayoutHyp fs lg L f pR pRel) {fin : RootsState} {c : Call}
    (hc : c.remoteSrcPath = f) (hl : c.location = .unknown)
    (hn : NoOtherClaim fin f (pathJoin pR))
    (hk : pathJoin pR ∈ fin.gopaths.keys) (hv : fin.gopaths.get (pathJoin pR) = L) :
    c.updateLocations fin.goroot lg fin.gomods fin.gopaths =
      ({ c with relSrcPath := pathJoin pRel, localSrcPath := pathJoin [L, b!"src", pathJoin pRel],
                importPath := importOfRel (pathJoin pRel) c.importPath, location := .gopath }, true) := by
  have hr : c.remoteSrcPath = pathJoin pR ++ srcSep ++ pathJoin pRel := hc.trans h.f_eq
  have hgr : c.tryGoroot fin.goroot lg = none := tryGoroot_eq_none.mpr (hc ▸ hn.goroot)
  have hloop : c.gopathLoop fin.gopaths (sortedByLen fin.gopaths) = c.tryGopath (pathJoin pR) L := by
    rw [gopathLoop_eq, findSome?_unique (mem_sortedByLen.mpr hk), hv]
    intro k hk' hne'
    exact tryGopath_eq_none.mpr (hc ▸ hn.gopaths k (mem_sortedByLen.mp hk') hne')
  rw [updateLocations_true.mpr (updateLocations?_cases.mpr ⟨by rw [hr]; simp [srcSep], Or.inr (Or.inl ⟨hgr, hloop.trans (tryGopath_src hr)⟩)⟩),
    pathJoin_src, setLoc, if_pos (by rw [hl]; rfl)]

end PP
