import PP.Model.AugmentGlue
import PP.Props.C19
/-
Lemmas for C19B: the glue around `augmentCall`.
-/
namespace PP.AugGlue
open PP PP.Bytes PP.Aug

/-! ### definitions used by the statements -/

/-- forget `Args.Processed` of a call -/
def eraseCall (c : Call) : Call := { c with args := { c.args with processed := [] } }

/-- forget `Args.Processed` of the calls of `Stack.Calls`; everything else of
the goroutine (id, flags, state, `CreatedBy` with its own `Processed`, every
other field of every frame, the order and number of frames) is kept -/
def eraseProcessed (g : Goroutine) : Goroutine :=
  Goroutine.setCalls g (g.sig.stack.calls.map eraseCall)

/-- the hypothesis on the parser oracle: `extractArgumentsType` never answers
"no type, ellipsis" -/
def FuncAtOk (p : Parsed) : Prop := ∀ n l, p.funcAt n l ≠ some ([], true)

def OracleOk (o : Oracle) : Prop := ∀ src p, o.parse src = some p → FuncAtOk p

def CacheOk (c : Cache) : Prop := ∀ k pf, c.get k = some pf → FuncAtOk pf.parsed

/-- every successfully loaded entry of the cache is what the oracles answer
for its key -/
def CacheSound (o : Oracle) (c : Cache) : Prop :=
  ∀ k pf, c.get k = some pf →
    hasSuffix k b!".go" = true ∧
    ∃ src p, o.readFile k = some src ∧ o.parse src = some p ∧
      pf.lineToByteOffset = lineToByteOffsets src ∧ pf.parsed = p

/-- the sources do not describe this call: the file is not a `.go` file, or
cannot be read, or cannot be parsed, or is shorter than the line, or has no
function around the line -/
def Mismatch (o : Oracle) (call : Call) : Prop :=
  ∀ src p, hasSuffix call.localSrcPath b!".go" = true → o.readFile call.localSrcPath = some src →
    o.parse src = some p →
    (lineToByteOffsets src).length ≤ call.line ∨ p.funcAt call.fn.name call.line = none

theorem lookup_cons_ite (k k0 : Bytes) (v : Option ParsedFile) (t : Cache) :
    List.lookup k ((k0, v) :: t) = if k = k0 then some v else List.lookup k t := by
  rw [List.lookup_cons]
  by_cases h : k = k0
  · rw [if_pos h, beq_iff_eq.mpr h]
  · rw [if_neg h, beq_eq_false_iff_ne.mpr h]

theorem Cache.lookup_insert (c : Cache) (k k' : Bytes) (v : Option ParsedFile) :
    (c.insert k v).lookup k' = if k' = k then some v else c.lookup k' := by
  induction c with
  | nil => exact lookup_cons_ite k' k v []
  | cons hd t ih =>
    obtain ⟨k0, v0⟩ := hd
    simp only [Cache.insert]
    by_cases hk : k = k0
    · subst hk
      rw [if_pos rfl, lookup_cons_ite, lookup_cons_ite]
      by_cases h : k' = k
      · rw [if_pos h, if_pos h]
      · rw [if_neg h, if_neg h, if_neg h]
    · rw [if_neg hk, lookup_cons_ite, lookup_cons_ite, ih]
      by_cases h : k' = k
      · rw [if_pos h, if_pos h, if_neg (h ▸ hk)]
      · rw [if_neg h, if_neg h]

theorem Cache.get_insert (c : Cache) (k k' : Bytes) (v : Option ParsedFile) :
    (c.insert k v).get k' = if k' = k then v else c.get k' := by
  unfold Cache.get
  rw [Cache.lookup_insert]
  by_cases h : k' = k <;> simp [h]

theorem Cache.has_insert (c : Cache) (k k' : Bytes) (v : Option ParsedFile) :
    (c.insert k v).has k' = (decide (k' = k) || c.has k') := by
  unfold Cache.has
  rw [Cache.lookup_insert]
  by_cases h : k' = k <;> simp [h]

theorem Cache.get_of_not_has (c : Cache) (k : Bytes) (h : c.has k = false) : c.get k = none := by
  unfold Cache.has at h
  unfold Cache.get
  cases hl : c.lookup k with
  | none => rfl
  | some v => simp [hl] at h

theorem loadFile_empty (o : Oracle) (c : Cache) : loadFile o c [] = (c, none) := by
  simp [loadFile]

theorem loadFile_cases (o : Oracle) (c : Cache) (k : Bytes) :
    ((k = [] ∨ c.has k = true) ∧ loadFile o c k = (c, none)) ∨
    (c.has k = false ∧ k ≠ [] ∧
      ((∃ e, loadFile o c k = (c.insert k none, some e)) ∨
       (∃ src p, hasSuffix k b!".go" = true ∧ o.readFile k = some src ∧ o.parse src = some p ∧
          loadFile o c k = ((c.insert k none).insert k (some ⟨lineToByteOffsets src, p⟩), none)))) := by
  unfold loadFile
  by_cases hk : k = []
  · exact .inl ⟨.inl hk, by rw [if_pos hk]⟩
  · rw [if_neg hk]
    cases hh : c.has k with
    | true => exact .inl ⟨.inr rfl, rfl⟩
    | false =>
      refine .inr ⟨rfl, hk, ?_⟩
      rw [if_neg Bool.false_ne_true]
      cases hs : hasSuffix k b!".go" with
      | false => exact .inl ⟨_, rfl⟩
      | true =>
        rw [if_neg (by decide)]
        cases hr : o.readFile k with
        | none => exact .inl ⟨_, rfl⟩
        | some src =>
          dsimp only
          cases hp : o.parse src with
          | none => exact .inl ⟨_, rfl⟩
          | some p => exact .inr ⟨src, p, rfl, rfl, hp, rfl⟩

theorem loadFile_has_mono (o : Oracle) (c : Cache) (k k' : Bytes) (h : c.has k' = true) :
    (loadFile o c k).1.has k' = true := by
  rcases loadFile_cases o c k with ⟨_, h1⟩ | ⟨_, _, ⟨e, h1⟩ | ⟨src, p, _, _, _, h1⟩⟩
  · rw [h1]; exact h
  · rw [h1]; simp [Cache.has_insert, h]
  · rw [h1]; simp [Cache.has_insert, h]

theorem loadFile_has_false (o : Oracle) (c : Cache) (k k' : Bytes) (h : (loadFile o c k).1.has k' = false) :
    c.has k' = false := by
  cases hc : c.has k' with
  | false => rfl
  | true => rw [loadFile_has_mono o c k k' hc] at h; cases h

theorem loadFile_get (o : Oracle) (c : Cache) (k k' : Bytes) (pf : ParsedFile)
    (h : (loadFile o c k).1.get k' = some pf) :
    c.get k' = some pf ∨
    (k' = k ∧ ∃ src p, hasSuffix k b!".go" = true ∧ o.readFile k = some src ∧ o.parse src = some p ∧
      pf = ⟨lineToByteOffsets src, p⟩) := by
  rcases loadFile_cases o c k with ⟨_, h1⟩ | ⟨_, _, ⟨e, h1⟩ | ⟨src, p, hs, hr, hp, h1⟩⟩
  · rw [h1] at h; exact .inl h
  · rw [h1, Cache.get_insert] at h
    by_cases hk : k' = k
    · simp [hk] at h
    · rw [if_neg hk] at h; exact .inl h
  · rw [h1, Cache.get_insert, Cache.get_insert] at h
    by_cases hk : k' = k
    · rw [if_pos hk] at h
      exact .inr ⟨hk, src, p, hs, hr, hp, (Option.some.inj h).symm⟩
    · rw [if_neg hk, if_neg hk] at h; exact .inl h

theorem loadFile_cacheOk (o : Oracle) (c : Cache) (k : Bytes) (ho : OracleOk o) (hc : CacheOk c) :
    CacheOk (loadFile o c k).1 := by
  intro k' pf hg
  rcases loadFile_get o c k k' pf hg with h | ⟨_, src, p, _, _, hp, rfl⟩
  · exact hc k' pf h
  · exact ho src p hp

theorem loadFile_cacheSound (o : Oracle) (c : Cache) (k : Bytes) (hc : CacheSound o c) :
    CacheSound o (loadFile o c k).1 := by
  intro k' pf hg
  rcases loadFile_get o c k k' pf hg with h | ⟨rfl, src, p, hs, hr, hp, rfl⟩
  · exact hc k' pf h
  · exact ⟨hs, src, p, hr, hp, rfl, rfl⟩

theorem cacheOk_nil : CacheOk [] := by
  intro k pf h; cases h

theorem cacheSound_nil (o : Oracle) : CacheSound o [] := by
  intro k pf h; cases h

theorem loadFile_congr (o o' : Oracle) (c : Cache) (k : Bytes)
    (hr : ∀ k, c.has k = false → o.readFile k = o'.readFile k) (hp : o.parse = o'.parse) :
    loadFile o c k = loadFile o' c k := by
  unfold loadFile
  by_cases hk : k = []
  · simp [hk]
  · by_cases hh : c.has k = true
    · simp [hk, hh]
    · have hh' : c.has k = false := by simpa using hh
      simp only [hk, if_false, hh', Bool.false_eq_true, hr k hh', hp]

/-- `Forall2 R as bs`: same length and `R` holds position by position -/
inductive Forall2 {α β : Type} (R : α → β → Prop) : List α → List β → Prop
  | nil : Forall2 R [] []
  | cons {a b as bs} : R a b → Forall2 R as bs → Forall2 R (a :: as) (b :: bs)

theorem Forall2.length_eq {α β : Type} {R : α → β → Prop} {as : List α} {bs : List β}
    (h : Forall2 R as bs) : as.length = bs.length := by
  induction h with
  | nil => rfl
  | cons _ _ ih => simp [ih]

theorem Forall2.get {α β : Type} {R : α → β → Prop} {as : List α} {bs : List β}
    (h : Forall2 R as bs) (i : Nat) (a : α) (b : β) (ha : as[i]? = some a) (hb : bs[i]? = some b) : R a b := by
  induction h generalizing i with
  | nil => simp at ha
  | cons hr _ ih =>
    cases i with
    | zero => simp at ha hb; rw [← ha, ← hb]; exact hr
    | succ i => simp only [List.getElem?_cons_succ] at ha hb; exact ih i ha hb

theorem Forall2.map_eq {α β : Type} {f : α → β} {as bs : List α}
    (h : Forall2 (fun a b => f b = f a) as bs) : bs.map f = as.map f := by
  induction h with
  | nil => rfl
  | cons hr _ ih => rw [List.map_cons, List.map_cons, hr, ih]

/-! ### the two loops are one fold -/

/-- the shape shared by the loop of `augmentGoroutine` over the calls and the
loop of `Snapshot.augment` over the goroutines: the cache is threaded through,
the last error is kept, a panic ends it -/
def foldE {α : Type} (step : Cache → α → Except AugErr (Cache × α × Option ErrKind)) :
    Cache → Option ErrKind → List α → Except AugErr (Cache × List α × Option ErrKind)
  | c, err, [] => .ok (c, [], err)
  | c, err, x :: rest =>
    match step c x with
    | .error pe => .error pe
    | .ok s =>
      match foldE step s.1 (lastErr err s.2.2) rest with
      | .error pe => .error pe
      | .ok r => .ok (r.1, s.2.1 :: r.2.1, r.2.2)

theorem augmentCalls_eq (ff : FloatFmt) (o : Oracle) (c : Cache) (err : Option ErrKind) (calls : List Call) :
    augmentCalls ff o c err calls = foldE (augmentStep ff o) c err calls := by
  induction calls generalizing c err with
  | nil => rfl
  | cons call rest ih =>
    simp only [augmentCalls, foldE, ih]
    cases augmentStep ff o c call with
    | error e => rfl
    | ok s => dsimp only; cases foldE (augmentStep ff o) s.1 (lastErr err s.2.2) rest <;> rfl

theorem augmentGs_eq (ff : FloatFmt) (o : Oracle) (c : Cache) (err : Option ErrKind) (gs : List Goroutine) :
    augmentGs ff o c err gs = foldE (augmentGoroutine ff o) c err gs := by
  induction gs generalizing c err with
  | nil => rfl
  | cons g rest ih =>
    simp only [augmentGs, foldE, ih]
    cases augmentGoroutine ff o c g with
    | error e => rfl
    | ok s => dsimp only; cases foldE (augmentGoroutine ff o) s.1 (lastErr err s.2.2) rest <;> rfl

section fold
variable {α : Type} (step : Cache → α → Except AugErr (Cache × α × Option ErrKind))

theorem foldE_inv (Inv : Cache → Prop) (R : α → α → Prop)
    (hstep : ∀ c x s, Inv c → step c x = .ok s → Inv s.1 ∧ R x s.2.1)
    (c : Cache) (err : Option ErrKind) (xs : List α) (r : Cache × List α × Option ErrKind)
    (hi : Inv c) (h : foldE step c err xs = .ok r) : Inv r.1 ∧ Forall2 R xs r.2.1 := by
  induction xs generalizing c err r with
  | nil => cases h; exact ⟨hi, .nil⟩
  | cons x rest ih =>
    simp only [foldE] at h
    cases hs : step c x with
    | error e => rw [hs] at h; cases h
    | ok s =>
      simp only [hs] at h
      have h1 := hstep c x s hi hs
      cases hr : foldE step s.1 (lastErr err s.2.2) rest with
      | error e => rw [hr] at h; cases h
      | ok r' =>
        rw [hr] at h; cases h
        have h2 := ih _ _ _ h1.1 hr
        exact ⟨h2.1, .cons h1.2 h2.2⟩

theorem foldE_total (Inv : Cache → Prop) (hstep : ∀ c x, Inv c → ∃ s, step c x = .ok s ∧ Inv s.1)
    (c : Cache) (err : Option ErrKind) (xs : List α) (hi : Inv c) :
    ∃ r, foldE step c err xs = .ok r ∧ Inv r.1 := by
  induction xs generalizing c err with
  | nil => exact ⟨_, rfl, hi⟩
  | cons x rest ih =>
    obtain ⟨s, hs, his⟩ := hstep c x hi
    obtain ⟨r, hr, hir⟩ := ih s.1 (lastErr err s.2.2) his
    exact ⟨(r.1, s.2.1 :: r.2.1, r.2.2), by simp only [foldE, hs, hr], hir⟩

theorem foldE_congr (step' : Cache → α → Except AugErr (Cache × α × Option ErrKind)) (P : Cache → Prop)
    (hstep : ∀ c x, P c → step c x = step' c x ∧ ∀ s, step c x = .ok s → P s.1)
    (c : Cache) (err : Option ErrKind) (xs : List α) (hp : P c) :
    foldE step c err xs = foldE step' c err xs := by
  induction xs generalizing c err with
  | nil => rfl
  | cons x rest ih =>
    obtain ⟨he, hk⟩ := hstep c x hp
    simp only [foldE, ← he]
    cases hs : step c x with
    | error e => rfl
    | ok s => simp only [ih s.1 _ (hk s hs)]

end fold

theorem augmentStep_ok (ff : FloatFmt) (o : Oracle) (c : Cache) (call : Call)
    (s : Cache × Call × Option ErrKind) (h : augmentStep ff o c call = .ok s) :
    s = (c, call, none) ∨
    ∃ r, lookupAndAugment ff (loadFile o c call.localSrcPath).1 (loadFile o c call.localSrcPath).2 call = .ok r ∧
      s = ((loadFile o c call.localSrcPath).1, r.1, r.2) := by
  unfold augmentStep at h
  by_cases hv : call.args.values.length = 0
  · rw [if_pos hv] at h; cases h; exact .inl rfl
  · rw [if_neg hv] at h
    cases hl : lookupAndAugment ff (loadFile o c call.localSrcPath).1 (loadFile o c call.localSrcPath).2 call with
    | error x => rw [hl] at h; cases h
    | ok r => rw [hl] at h; cases h; exact .inr ⟨r, rfl, rfl⟩

theorem lookupAndAugment_ok (ff : FloatFmt) (c1 : Cache) (e1 : Option ErrKind) (call : Call)
    (r : Call × Option ErrKind) (h : lookupAndAugment ff c1 e1 call = .ok r) :
    r.1 = call ∨
    ∃ p te, c1.get call.localSrcPath = some p ∧ p.getFuncAST call.fn.name call.line = .ok (some te) ∧
      applyAugment ff call te.1 te.2 = .ok r.1 := by
  unfold lookupAndAugment at h
  cases hg : c1.get call.localSrcPath with
  | none => rw [hg] at h; cases h; exact .inl rfl
  | some p =>
    simp only [hg] at h
    cases hf : p.getFuncAST call.fn.name call.line with
    | error x => rw [hf] at h; cases h; exact .inl rfl
    | ok ot =>
      cases ot with
      | none => rw [hf] at h; cases h; exact .inl rfl
      | some te =>
        simp only [hf] at h
        cases ha : applyAugment ff call te.1 te.2 with
        | error x => rw [ha] at h; cases h
        | ok call' => rw [ha] at h; cases h; exact .inr ⟨p, te, rfl, hf, ha⟩

theorem augmentGoroutine_ok (ff : FloatFmt) (o : Oracle) (c : Cache) (g : Goroutine)
    (s : Cache × Goroutine × Option ErrKind) (h : augmentGoroutine ff o c g = .ok s) :
    ∃ r, augmentCalls ff o c none g.sig.stack.calls = .ok r ∧ s = (r.1, Goroutine.setCalls g r.2.1, r.2.2) := by
  unfold augmentGoroutine at h
  cases hc : augmentCalls ff o c none g.sig.stack.calls with
  | error x => rw [hc] at h; cases h
  | ok r => rw [hc] at h; cases h; exact ⟨r, rfl, rfl⟩

section inv
variable (ff : FloatFmt) (o : Oracle) (Inv : Cache → Prop) (R : Call → Call → Prop)
  (hstep : ∀ c call s, Inv c → augmentStep ff o c call = .ok s → Inv s.1 ∧ R call s.2.1)
include hstep

theorem augmentCalls_inv (c : Cache) (err : Option ErrKind) (calls : List Call)
    (r : Cache × List Call × Option ErrKind) (hi : Inv c) (h : augmentCalls ff o c err calls = .ok r) :
    Inv r.1 ∧ Forall2 R calls r.2.1 :=
  foldE_inv _ Inv R hstep c err calls r hi (augmentCalls_eq ff o c err calls ▸ h)

theorem augmentGoroutine_inv (c : Cache) (g : Goroutine) (s : Cache × Goroutine × Option ErrKind)
    (hi : Inv c) (h : augmentGoroutine ff o c g = .ok s) :
    Inv s.1 ∧ Forall2 R g.sig.stack.calls s.2.1.sig.stack.calls := by
  obtain ⟨r, hc, rfl⟩ := augmentGoroutine_ok ff o c g s h
  exact augmentCalls_inv ff o Inv R hstep c none _ r hi hc

theorem augmentGs_inv (c : Cache) (err : Option ErrKind) (gs : List Goroutine)
    (r : Cache × List Goroutine × Option ErrKind) (hi : Inv c) (h : augmentGs ff o c err gs = .ok r) :
    Inv r.1 ∧ Forall2 (fun g g' => Forall2 R g.sig.stack.calls g'.sig.stack.calls) gs r.2.1 :=
  foldE_inv _ Inv _ (augmentGoroutine_inv ff o Inv R hstep) c err gs r hi (augmentGs_eq ff o c err gs ▸ h)

end inv

/-! ### values unchanged -/

theorem applyAugment_erase (ff : FloatFmt) (call call' : Call) (t : List Bytes) (e : Bool)
    (h : applyAugment ff call t e = .ok call') : eraseCall call' = eraseCall call := by
  unfold applyAugment at h
  cases ha : augmentCall ff t e call.args with
  | error x => rw [ha] at h; cases h
  | ok ps => rw [ha] at h; cases h; rfl

theorem augmentStep_erase (ff : FloatFmt) (o : Oracle) (c : Cache) (call : Call)
    (s : Cache × Call × Option ErrKind) (h : augmentStep ff o c call = .ok s) :
    eraseCall s.2.1 = eraseCall call := by
  rcases augmentStep_ok ff o c call s h with rfl | ⟨r, hl, rfl⟩
  · rfl
  · rcases lookupAndAugment_ok ff _ _ call r hl with h1 | ⟨_, te, _, _, ha⟩
    · exact congrArg eraseCall h1
    · exact applyAugment_erase ff call r.1 _ _ ha

theorem augmentGoroutine_erase (ff : FloatFmt) (o : Oracle) (c : Cache) (g : Goroutine)
    (s : Cache × Goroutine × Option ErrKind) (h : augmentGoroutine ff o c g = .ok s) :
    eraseProcessed s.2.1 = eraseProcessed g := by
  obtain ⟨r, hc, rfl⟩ := augmentGoroutine_ok ff o c g s h
  have hm := (augmentCalls_inv ff o (fun _ => True) _
    (fun c call s _ hs => ⟨trivial, augmentStep_erase ff o c call s hs⟩) c none _ r trivial hc).2.map_eq
  simp only [eraseProcessed, Goroutine.setCalls, hm]

/-! ### mismatch leaves unaugmented -/

theorem augmentStep_mismatch (ff : FloatFmt) (o : Oracle) (c : Cache) (call : Call)
    (s : Cache × Call × Option ErrKind) (hc : CacheSound o c) (h : augmentStep ff o c call = .ok s) :
    CacheSound o s.1 ∧ (Mismatch o call → s.2.1 = call) := by
  have hc1 := loadFile_cacheSound o c call.localSrcPath hc
  rcases augmentStep_ok ff o c call s h with rfl | ⟨r, hl, rfl⟩
  · exact ⟨hc, fun _ => rfl⟩
  · refine ⟨hc1, fun hm => ?_⟩
    rcases lookupAndAugment_ok ff _ _ call r hl with h1 | ⟨p, te, hg, hf, _⟩
    · exact h1
    · -- the entry is what the oracles answer, and they do not describe the call
      obtain ⟨hs, src, pa, hr, hp, hlen, hpp⟩ := hc1 _ _ hg
      unfold ParsedFile.getFuncAST at hf
      rw [hlen, hpp] at hf
      rcases hm src pa hs hr hp with h1 | h1
      · rw [if_pos h1] at hf; cases hf
      · split at hf
        · cases hf
        · rw [h1] at hf; cases hf

/-! ### the cache only grows; present keys are never read again -/

theorem augmentStep_has_mono (ff : FloatFmt) (o : Oracle) (k : Bytes) (c : Cache) (call : Call)
    (s : Cache × Call × Option ErrKind) (hc : c.has k = true) (h : augmentStep ff o c call = .ok s) :
    s.1.has k = true := by
  rcases augmentStep_ok ff o c call s h with rfl | ⟨r, _, rfl⟩
  · exact hc
  · exact loadFile_has_mono o c _ k hc

theorem augmentGoroutine_has_mono (ff : FloatFmt) (o : Oracle) (k : Bytes) (c : Cache) (g : Goroutine)
    (s : Cache × Goroutine × Option ErrKind) (hc : c.has k = true) (h : augmentGoroutine ff o c g = .ok s) :
    s.1.has k = true :=
  (augmentGoroutine_inv ff o (fun c => c.has k = true) (fun _ _ => True)
    (fun c call s hi hs => ⟨augmentStep_has_mono ff o k c call s hi hs, trivial⟩) c g s hc h).1

/-- the property under which two oracles give the same run: they agree on the
keys the cache does not have yet -/
def AgreeOff (o o' : Oracle) (c : Cache) : Prop := ∀ k, c.has k = false → o.readFile k = o'.readFile k

theorem augmentStep_congr (ff : FloatFmt) (o o' : Oracle) (hp : o.parse = o'.parse) (c : Cache) (call : Call)
    (hr : AgreeOff o o' c) :
    augmentStep ff o c call = augmentStep ff o' c call ∧
      ∀ s, augmentStep ff o c call = .ok s → AgreeOff o o' s.1 := by
  refine ⟨?_, fun s hs k hk => hr k ?_⟩
  · unfold augmentStep
    rw [loadFile_congr o o' c _ hr hp]
  · cases hc : c.has k with
    | false => rfl
    | true => rw [augmentStep_has_mono ff o k c call s hc hs] at hk; cases hk

theorem augmentGoroutine_congr (ff : FloatFmt) (o o' : Oracle) (hp : o.parse = o'.parse) (c : Cache) (g : Goroutine)
    (hr : AgreeOff o o' c) :
    augmentGoroutine ff o c g = augmentGoroutine ff o' c g ∧
      ∀ s, augmentGoroutine ff o c g = .ok s → AgreeOff o o' s.1 := by
  refine ⟨?_, fun s hs k hk => hr k ?_⟩
  · unfold augmentGoroutine
    rw [augmentCalls_eq, augmentCalls_eq,
      foldE_congr _ _ (AgreeOff o o') (augmentStep_congr ff o o' hp) c none _ hr]
  · cases hc : c.has k with
    | false => rfl
    | true => rw [augmentGoroutine_has_mono ff o k c g s hc hs] at hk; cases hk

/-! ### totality -/

theorem applyAugment_total (ff : FloatFmt) (call : Call) (t : List Bytes) (e : Bool)
    (h : t ≠ [] ∨ e = false) : ∃ call', applyAugment ff call t e = .ok call' := by
  obtain ⟨ps, hps⟩ := PP.Spec.augmentCall_total ff t e call.args h
  exact ⟨{ call with args := { call.args with processed := call.args.processed ++ ps } }, by
    simp only [applyAugment, hps]⟩

theorem lookupAndAugment_total (ff : FloatFmt) (c1 : Cache) (e1 : Option ErrKind) (call : Call)
    (hc : CacheOk c1) : ∃ r, lookupAndAugment ff c1 e1 call = .ok r := by
  unfold lookupAndAugment
  cases hg : c1.get call.localSrcPath with
  | none => exact ⟨_, rfl⟩
  | some p =>
    dsimp only
    unfold ParsedFile.getFuncAST
    by_cases hlen : p.lineToByteOffset.length ≤ call.line
    · rw [if_pos hlen]; exact ⟨_, rfl⟩
    · rw [if_neg hlen]
      cases hf : p.parsed.funcAt call.fn.name call.line with
      | none => exact ⟨_, rfl⟩
      | some te =>
        dsimp only
        have hne : te.1 ≠ [] ∨ te.2 = false := by
          obtain ⟨t, e⟩ := te
          cases t with
          | nil =>
            cases e with
            | false => exact .inr rfl
            | true => exact absurd hf (hc _ _ hg _ _)
          | cons a t => exact .inl (List.cons_ne_nil a t)
        obtain ⟨call', hc'⟩ := applyAugment_total ff call te.1 te.2 hne
        rw [hc']; exact ⟨_, rfl⟩

theorem augmentStep_total (ff : FloatFmt) (o : Oracle) (ho : OracleOk o) (c : Cache) (call : Call)
    (hc : CacheOk c) : ∃ s, augmentStep ff o c call = .ok s ∧ CacheOk s.1 := by
  unfold augmentStep
  split
  · exact ⟨_, rfl, hc⟩
  · have hc1 := loadFile_cacheOk o c call.localSrcPath ho hc
    obtain ⟨r, hr⟩ := lookupAndAugment_total ff (loadFile o c call.localSrcPath).1
      (loadFile o c call.localSrcPath).2 call hc1
    rw [hr]; exact ⟨_, rfl, hc1⟩

theorem augmentGoroutine_total (ff : FloatFmt) (o : Oracle) (ho : OracleOk o) (c : Cache) (g : Goroutine)
    (hc : CacheOk c) : ∃ s, augmentGoroutine ff o c g = .ok s ∧ CacheOk s.1 := by
  obtain ⟨r, hr, hcr⟩ := foldE_total _ CacheOk (augmentStep_total ff o ho) c none g.sig.stack.calls hc
  rw [← augmentCalls_eq] at hr
  exact ⟨(r.1, Goroutine.setCalls g r.2.1, r.2.2), by simp only [augmentGoroutine, hr], hcr⟩

/-! ### example data for the non-vacuity checks of PP/Props/C19b.lean -/

/-- a source tree: `/s/a.go` holds `F(a int, b string)` on lines 3-5 and
nothing else on lines 1-2 and 6; `/s/bad.go` does not parse; `/s/c.c` exists;
`/s/gone.go` does not. -/
def exSrc : Bytes := b!"package p\n\nfunc F(a int, b string) {\n\tpanic(1)\n}\n"

def exOracle : Oracle where
  readFile k :=
    if k = b!"/s/a.go" then some exSrc
    else if k = b!"/s/bad.go" then some b!"package"
    else if k = b!"/s/c.c" then some exSrc
    else none
  parse src :=
    if src = exSrc then
      some { funcAt := fun _ l => if 4 ≤ l ∧ l ≤ 5 then some ([b!"int", b!"string"], false) else none }
    else none

def exCall (path : Bytes) (line : Nat) : Call :=
  { fn := { name := b!"F" }, localSrcPath := path, line := line,
    args := { values := [.scalar [] 0xfffffffffffffff9 false false false,
                         .agg [.scalar [] 0xc000012345 true false false, .scalar [] 5 false false false] false] } }

def exCallNoArgs (path : Bytes) (line : Nat) : Call :=
  { fn := { name := b!"F" }, localSrcPath := path, line := line }

def exG (id : Nat) (calls created : List Call) : Goroutine :=
  { id := id, sig := { stack := { calls := calls }, createdBy := { calls := created } } }

def exGs : List Goroutine :=
  [exG 1 [exCall b!"/s/a.go" 4, exCall b!"/s/gone.go" 4, exCall b!"/s/a.go" 7, exCall b!"/s/a.go" 1,
          exCallNoArgs b!"/s/a.go" 4] [exCall b!"/s/a.go" 4],
   exG 2 [exCall b!"/s/bad.go" 4, exCall b!"/s/c.c" 4, exCall b!"/s/a.go" 5, exCall b!"/s/gone.go" 4,
          exCall b!"" 4] []]

end PP.AugGlue
