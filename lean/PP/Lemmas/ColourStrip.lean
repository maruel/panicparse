import PP.Lemmas.StripAnsi
/-
Colour independence: every rendering function "strips to" its emptyPalette
version, whatever text follows.  `StripsTo` is compatible with `++` and `if`,
so each proof follows the definition of its renderer piece by piece.
-/
namespace PP.Console
open PP PP.Bytes

/-- `x` with its escape sequences removed is `y`, in any context to the right -/
def StripsTo (x y : Bytes) : Prop := ∀ rest : Bytes, stripGo .out (x ++ rest) = y ++ stripGo .out rest

theorem StripsTo.text {a : Bytes} (h : NoEsc a) : StripsTo a a := fun rest => strip_text h rest
theorem StripsTo.code {a : Bytes} (h : AnsiCodes a) : StripsTo a [] := fun rest => strip_codes h rest
theorem StripsTo.append {a a' b b' : Bytes} (h1 : StripsTo a a') (h2 : StripsTo b b') :
    StripsTo (a ++ b) (a' ++ b') := by
  intro rest
  rw [List.append_assoc, h1, h2, List.append_assoc]
theorem StripsTo.nil : StripsTo [] [] := fun _ => rfl
theorem StripsTo.ite {a a' b b' : Bytes} (c : Prop) [Decidable c] (h1 : StripsTo a a') (h2 : StripsTo b b') :
    StripsTo (if c then a else b) (if c then a' else b') := by
  split
  · exact h1
  · exact h2
/-- a literal of the renderer -/
theorem StripsTo.lit (s : Bytes) (h : ESC ∉ s := by decide) : StripsTo s s := .text h

theorem StripsTo.strip {x y : Bytes} (h : StripsTo x y) : stripAnsi x = y := by
  have := h []
  rwa [List.append_nil, stripGo_out_nil, List.append_nil] at this

theorem noEsc_join {sep : Bytes} (hsep : NoEsc sep) : ∀ (l : List Bytes), (∀ x ∈ l, NoEsc x) → NoEsc (join sep l)
  | [], _ => noEsc_nil
  | [x], h => h x (by simp)
  | x :: y :: ys, h =>
    noEsc_append (noEsc_append (h x (by simp)) hsep)
      (noEsc_join hsep (y :: ys) (fun z hz => h z (List.mem_cons_of_mem _ hz)))

/-- the list handed to `join`, with the `...` of an elided tail -/
theorem noEsc_withDots {l : List Bytes} (h : ∀ x ∈ l, NoEsc x) (el : Bool) :
    ∀ x ∈ l ++ (if el then [b!"..."] else []), NoEsc x := by
  intro x hx
  rcases List.mem_append.1 hx with hx | hx
  · exact h x hx
  · cases el
    · cases hx
    · rw [List.mem_singleton.1 hx]; exact noEsc_lit _

mutual
theorem noEsc_argString : ∀ (a : Arg), ArgNoEsc a → NoEsc (argString a)
  | .scalar name v _ otl _, (h : NoEsc name) => by
    unfold argString
    refine noEsc_ite _ h (noEsc_ite _ (noEsc_lit _) ?_)
    split
    · next hv =>
      have : (48 + v).toUInt8.toNat ≠ 27 := by rw [Nat.toUInt8_eq, UInt8.toNat_ofNat']; omega
      intro hm
      exact this (congrArg UInt8.toNat (List.mem_singleton.1 hm)).symm
    · exact noEsc_append (noEsc_lit _) (noEsc_fmtHex v)
  | .agg fs el, (h : ArgsNoEsc fs) =>
    noEsc_append (noEsc_append (noEsc_lit _)
      (noEsc_join (noEsc_lit _) _ (noEsc_withDots (noEsc_argStrings fs h) el))) (noEsc_lit _)
theorem noEsc_argStrings : ∀ (as : List Arg), ArgsNoEsc as → ∀ x ∈ argStrings as, NoEsc x
  | [], _, _, hx => nomatch hx
  | a :: as, (h : ArgNoEsc a ∧ ArgsNoEsc as), x, hx => by
    rcases List.mem_cons.1 hx with e | hm
    · rw [e]; exact noEsc_argString a h.1
    · exact noEsc_argStrings as h.2 x hm
end

theorem noEsc_argsString {c : Call} (hc : CallNoEsc c) : NoEsc (argsString c.args) := by
  have hbase : ∀ y ∈ (if c.args.processed.length ≠ 0 then c.args.processed else argStrings c.args.values),
      NoEsc y := by
    split
    · exact hc.processed
    · exact noEsc_argStrings _ hc.values
  unfold argsString
  cases c.args.elided
  · exact noEsc_join (noEsc_lit _) _ hbase
  · exact noEsc_join (noEsc_lit _) _ (noEsc_withDots hbase true)

theorem noEsc_pathLine {path : Bytes} (h : NoEsc path) (n : Nat) : NoEsc (pathLine path n) :=
  noEsc_append (noEsc_append h (noEsc_lit _)) (noEsc_fmtDec n)

theorem noEsc_formatCall (pf : PathFormat) {c : Call} (hc : CallNoEsc c) : NoEsc (formatCall pf c) := by
  have full := noEsc_ite (c.localSrcPath ≠ []) (noEsc_pathLine hc.loc c.line) (noEsc_pathLine hc.remote c.line)
  cases pf
  · exact full
  · exact noEsc_ite _ (noEsc_pathLine hc.rel _) full
  · exact noEsc_pathLine hc.srcName _

theorem noEsc_createdByString (pf : PathFormat) {s : Signature} (hs : SigNoEsc s) : NoEsc (createdByString pf s) := by
  unfold createdByString
  split
  · exact noEsc_nil
  · next c _ heq =>
    have hc : CallNoEsc c := hs.created c (by rw [heq]; exact List.mem_cons_self)
    exact noEsc_append (noEsc_append (noEsc_append (noEsc_append hc.dirName (noEsc_lit _)) hc.name) (noEsc_lit _))
      (noEsc_formatCall pf hc)

theorem noEsc_sleepString (s : Signature) : NoEsc (sleepString s) :=
  noEsc_ite _ noEsc_nil (noEsc_ite _
    (noEsc_append (noEsc_append (noEsc_append (noEsc_fmtDec _) (noEsc_lit _)) (noEsc_fmtDec _)) (noEsc_lit _))
    (noEsc_append (noEsc_fmtDec _) (noEsc_lit _)))

theorem funcColor_strips {p : Palette} (hp : PaletteIsAnsi p) (l : Loc) (main exported : Bool) :
    StripsTo (funcColor p l main exported) (funcColor emptyPalette l main exported) := by
  refine .ite _ (.code hp.funcMain) ?_
  cases l
  · exact .ite _ (.code hp.funcLocationUnknownExported) (.code hp.funcLocationUnknown)
  · exact .ite _ (.code hp.funcGoModExported) (.code hp.funcGoMod)
  · exact .ite _ (.code hp.funcGOPATHExported) (.code hp.funcGOPATH)
  · exact .ite _ (.code hp.funcGoPkgExported) (.code hp.funcGoPkg)
  · exact .ite _ (.code hp.funcStdLibExported) (.code hp.funcStdLib)

theorem callLine_strips {p : Palette} (hp : PaletteIsAnsi p) {c : Call} (hc : CallNoEsc c)
    (srcLen pkgLen : Nat) (pf : PathFormat) :
    StripsTo (callLine p c srcLen pkgLen pf) (callLine emptyPalette c srcLen pkgLen pf) :=
  (StripsTo.lit _)
    |>.append (.code hp.pkg)
    |>.append (.text (noEsc_fmtPadRight _ hc.dirName))
    |>.append (.lit _)
    |>.append (.code hp.srcFile)
    |>.append (.text (noEsc_fmtPadRight _ (noEsc_formatCall pf hc)))
    |>.append (.lit _)
    |>.append (funcColor_strips hp _ _ _)
    |>.append (.text hc.name)
    |>.append (.code hp.arguments)
    |>.append (.lit _)
    |>.append (.text (noEsc_argsString hc))
    |>.append (.lit _)
    |>.append (.code hp.eolReset)

/-- pointwise `StripsTo` on two lists of lines -/
inductive StripsTo₂ : List Bytes → List Bytes → Prop
  | nil : StripsTo₂ [] []
  | cons {x y : Bytes} {t t' : List Bytes} : StripsTo x y → StripsTo₂ t t' → StripsTo₂ (x :: t) (y :: t')

theorem join_strips {sep sep' : Bytes} (hsep : StripsTo sep sep') :
    ∀ {l l' : List Bytes}, StripsTo₂ l l' → StripsTo (join sep l) (join sep' l')
  | _, _, .nil => .nil
  | _, _, .cons h .nil => h
  | _, _, .cons h (.cons h2 ht) => (h.append hsep).append (join_strips hsep (.cons h2 ht))

theorem stripsTo₂_map {α : Type} (f g : α → Bytes) : ∀ (l : List α), (∀ x ∈ l, StripsTo (f x) (g x)) →
    StripsTo₂ (l.map f) (l.map g)
  | [], _ => .nil
  | x :: t, h => .cons (h x (by simp)) (stripsTo₂_map f g t (fun y hy => h y (List.mem_cons_of_mem _ hy)))

theorem stripsTo₂_append : ∀ {a a' b b' : List Bytes},
    StripsTo₂ a a' → StripsTo₂ b b' → StripsTo₂ (a ++ b) (a' ++ b')
  | _, _, _, _, .nil, h => h
  | _, _, _, _, .cons h t, h2 => .cons h (stripsTo₂_append t h2)

theorem stackLines_strips {p : Palette} (hp : PaletteIsAnsi p) {s : Signature} (hs : SigNoEsc s)
    (srcLen pkgLen : Nat) (pf : PathFormat) :
    StripsTo (stackLines p s srcLen pkgLen pf) (stackLines emptyPalette s srcLen pkgLen pf) := by
  refine .append (join_strips (.lit _) ?_) (.lit _)
  have hmap := stripsTo₂_map (fun c => callLine p c srcLen pkgLen pf)
    (fun c => callLine emptyPalette c srcLen pkgLen pf) s.stack.calls
    (fun c hc => callLine_strips hp (hs.calls c hc) srcLen pkgLen pf)
  unfold stackLineList
  cases s.stack.elided
  · exact hmap
  · exact stripsTo₂_append hmap (.cons (.lit _) .nil)

theorem headerExtra_strips {p : Palette} (hp : PaletteIsAnsi p) {s : Signature} (hs : SigNoEsc s) (pf : PathFormat) :
    StripsTo (headerExtra p s pf) (headerExtra emptyPalette s pf) :=
  have sleep := StripsTo.ite (sleepString s ≠ [])
    (StripsTo.nil |>.append (.lit _) |>.append (.text (noEsc_sleepString s)) |>.append (.lit _)) .nil
  have locked := StripsTo.ite (s.locked = true) (sleep.append (.lit _)) sleep
  .ite _ (locked |>.append (.code hp.createdBy) |>.append (.lit _)
    |>.append (.text (noEsc_createdByString pf hs)) |>.append (.lit _)) locked

theorem routineColor_strips {p : Palette} (hp : PaletteIsAnsi p) (first multiple : Bool) :
    StripsTo (routineColor p first multiple) (routineColor emptyPalette first multiple) :=
  .ite _ (.code hp.routineFirst) (.code hp.routine)

theorem bucketHeader_strips {p : Palette} (hp : PaletteIsAnsi p) {b : Bucket} (hs : SigNoEsc b.sig)
    (pf : PathFormat) (multi : Bool) :
    StripsTo (bucketHeader p b pf multi) (bucketHeader emptyPalette b pf multi) :=
  (routineColor_strips hp _ _)
    |>.append (.text (noEsc_fmtDec _))
    |>.append (.lit _)
    |>.append (.text hs.state)
    |>.append (headerExtra_strips hp hs pf)
    |>.append (.code hp.eolReset)
    |>.append (.lit _)

theorem goroutineHeader_strips {p : Palette} (hp : PaletteIsAnsi p) {g : Goroutine} (hs : SigNoEsc g.sig)
    (pf : PathFormat) (multi : Bool) :
    StripsTo (goroutineHeader p g pf multi) (goroutineHeader emptyPalette g pf multi) :=
  have extra := headerExtra_strips hp hs pf
  have race := StripsTo.ite (g.raceAddr ≠ 0)
    (extra |>.append (.code hp.eolReset) |>.append (.code hp.race) |>.append (.lit _)
      |>.append (.ite _ (.lit _) (.lit _)) |>.append (.lit _) |>.append (.text (noEsc_fmtHex08 _))) extra
  (routineColor_strips hp _ _)
    |>.append (.text (noEsc_fmtDec _))
    |>.append (.lit _)
    |>.append (.text hs.state)
    |>.append race
    |>.append (.code hp.eolReset)
    |>.append (.lit _)

theorem writeLoop_strips {α : Type} (hdr body hdr' body' : α → Bytes) : ∀ (xs : List α),
    (∀ e ∈ xs, StripsTo (hdr e) (hdr' e)) → (∀ e ∈ xs, StripsTo (body e) (body' e)) →
    StripsTo (writeLoop hdr body none none xs) (writeLoop hdr' body' none none xs)
  | [], _, _ => .nil
  | e :: rest, h1, h2 =>
    ((h1 e (by simp)).append (h2 e (by simp))).append
      (writeLoop_strips hdr body hdr' body' rest (fun x hx => h1 x (List.mem_cons_of_mem _ hx))
        (fun x hx => h2 x (List.mem_cons_of_mem _ hx)))

theorem banner_strips (needsEnv : Bool) :
    StripsTo (if needsEnv then banner else []) (if needsEnv then banner else []) :=
  .ite _ (.lit _) .nil

end PP.Console
