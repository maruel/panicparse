import PP.Lemmas.RootsLemmas
/-
`Call.updateLocations`: what a successful update did (`Resolved`), the first
match of the sorted walk, independence of the order of the maps.
-/
namespace PP
open Bytes

/-- The four ways `updateLocations` can succeed. -/
inductive Resolved (c : Call) (goroot lg : Bytes) (gomods gopaths : AMap) (c' : Call) : Prop
  | goroot (rel : Bytes) (hg : goroot ≠ []) (hr : c.remoteSrcPath = goroot ++ srcSep ++ rel)
      (hc : c' = { c with relSrcPath := rel, localSrcPath := pathJoin [lg, b!"src", rel],
                          importPath := importOfRel rel c.importPath, location := setLoc c .stdlib })
  | src (k rel : Bytes) (hk : k ∈ gopaths.keys) (hr : c.remoteSrcPath = k ++ srcSep ++ rel)
      (hc : c' = { c with relSrcPath := rel, localSrcPath := pathJoin [gopaths.get k, b!"src", rel],
                          importPath := importOfRel rel c.importPath, location := setLoc c .gopath })
  | pkgmod (k rel : Bytes) (hk : k ∈ gopaths.keys) (hr : c.remoteSrcPath = k ++ pkgmodSep ++ rel)
      (hc : c' = { c with relSrcPath := rel, localSrcPath := pathJoin [gopaths.get k, b!"pkg/mod", rel],
                          importPath := importOfRel rel c.importPath, location := setLoc c .goPkg })
  | gomod (k rel : Bytes) (hk : k ∈ gomods.keys) (hr : c.remoteSrcPath = k ++ b!"/" ++ rel)
      (hc : c' = { c with relSrcPath := rel, localSrcPath := c.remoteSrcPath,
                          importPath := gomodImport (gomods.get k) rel, location := setLoc c .goMod })

theorem tryGoroot_some {c c' : Call} {goroot lg : Bytes} (h : c.tryGoroot goroot lg = some c') :
    goroot ≠ [] ∧ ∃ rel, c.remoteSrcPath = goroot ++ srcSep ++ rel ∧
      c' = { c with relSrcPath := rel, localSrcPath := pathJoin [lg, b!"src", rel],
                    importPath := importOfRel rel c.importPath, location := setLoc c .stdlib } := by
  unfold Call.tryGoroot at h
  split at h
  · rename_i hc
    simp only [Bool.and_eq_true, bne_iff_ne, ne_eq] at hc
    refine ⟨hc.1, _, eq_append_of_hasPrefix hc.2, ?_⟩
    simpa using h.symm
  · cases h

theorem tryGoroot_eq_none {c : Call} {goroot lg : Bytes} :
    c.tryGoroot goroot lg = none ↔ goroot = [] ∨ hasPrefix c.remoteSrcPath (goroot ++ srcSep) = false := by
  unfold Call.tryGoroot
  by_cases hg : goroot = [] <;> cases hp : hasPrefix c.remoteSrcPath (goroot ++ srcSep) <;> simp [hg]

theorem tryGopath_some {c c' : Call} {k dest : Bytes} (h : c.tryGopath k dest = some c') :
    (∃ rel, c.remoteSrcPath = k ++ srcSep ++ rel ∧
      c' = { c with relSrcPath := rel, localSrcPath := pathJoin [dest, b!"src", rel],
                    importPath := importOfRel rel c.importPath, location := setLoc c .gopath }) ∨
    (∃ rel, c.remoteSrcPath = k ++ pkgmodSep ++ rel ∧
      c' = { c with relSrcPath := rel, localSrcPath := pathJoin [dest, b!"pkg/mod", rel],
                    importPath := importOfRel rel c.importPath, location := setLoc c .goPkg }) := by
  unfold Call.tryGopath at h
  split at h
  · rename_i hc
    left
    refine ⟨_, eq_append_of_hasPrefix hc, ?_⟩
    simpa using h.symm
  · split at h
    · rename_i hc
      right
      refine ⟨_, eq_append_of_hasPrefix hc, ?_⟩
      simpa using h.symm
    · cases h

theorem tryGopath_eq_none {c : Call} {k dest : Bytes} :
    c.tryGopath k dest = none ↔
      hasPrefix c.remoteSrcPath (k ++ srcSep) = false ∧ hasPrefix c.remoteSrcPath (k ++ pkgmodSep) = false := by
  unfold Call.tryGopath
  cases hasPrefix c.remoteSrcPath (k ++ srcSep) <;> cases hasPrefix c.remoteSrcPath (k ++ pkgmodSep) <;> simp

theorem tryGomod_some {c c' : Call} {k pkg : Bytes} (h : c.tryGomod k pkg = some c') :
    ∃ rel, c.remoteSrcPath = k ++ b!"/" ++ rel ∧
      c' = { c with relSrcPath := rel, localSrcPath := c.remoteSrcPath,
                    importPath := gomodImport pkg rel, location := setLoc c .goMod } := by
  unfold Call.tryGomod at h
  split at h
  · rename_i hc
    have e := eq_append_of_hasPrefix hc
    have hl : (k ++ b!"/").length = k.length + 1 := by simp
    rw [hl] at e
    refine ⟨_, e, ?_⟩
    simpa using h.symm
  · cases h

theorem tryGomod_eq_none {c : Call} {k pkg : Bytes} :
    c.tryGomod k pkg = none ↔ hasPrefix c.remoteSrcPath (k ++ b!"/") = false := by
  unfold Call.tryGomod
  cases hasPrefix c.remoteSrcPath (k ++ b!"/") <;> simp

/-! ### a frame under a root, resolved through it -/

theorem pathJoin_src (a rel : Bytes) : pathJoin [a, b!"src", rel] = a ++ srcSep ++ rel := by
  simp [pathJoin_triple, srcSep]

theorem pathJoin_pkgmod (a rel : Bytes) : pathJoin [a, b!"pkg/mod", rel] = a ++ pkgmodSep ++ rel := by
  simp [pathJoin_triple, pkgmodSep]

/-- `/pkg/mod/` and `/src/` under the same root do not overlap -/
theorem pkgmod_not_src (R rel : Bytes) : hasPrefix (R ++ pkgmodSep ++ rel) (R ++ srcSep) = false := by
  induction R with
  | nil => simp [hasPrefix, pkgmodSep, srcSep]
  | cons x t ih => simpa [hasPrefix] using ih

theorem tryGoroot_of {c : Call} {goroot lg rel : Bytes} (hne : goroot ≠ [])
    (hc : c.remoteSrcPath = goroot ++ srcSep ++ rel) :
    c.tryGoroot goroot lg =
      some { c with relSrcPath := rel, localSrcPath := lg ++ srcSep ++ rel,
                    importPath := importOfRel rel c.importPath, location := setLoc c .stdlib } := by
  have hg : (goroot != []) = true := by simpa using hne
  have hp : hasPrefix c.remoteSrcPath (goroot ++ srcSep) = true := by rw [hc]; exact hasPrefix_append _ _
  have hd : c.remoteSrcPath.drop (goroot ++ srcSep).length = rel := by rw [hc]; exact List.drop_left' rfl
  simp only [Call.tryGoroot, hg, hp, Bool.and_self, if_true, hd, pathJoin_src]

theorem tryGopath_src {c : Call} {k dest rel : Bytes} (hc : c.remoteSrcPath = k ++ srcSep ++ rel) :
    c.tryGopath k dest =
      some { c with relSrcPath := rel, localSrcPath := dest ++ srcSep ++ rel,
                    importPath := importOfRel rel c.importPath, location := setLoc c .gopath } := by
  have hp : hasPrefix c.remoteSrcPath (k ++ srcSep) = true := by rw [hc]; exact hasPrefix_append _ _
  have hd : c.remoteSrcPath.drop (k ++ srcSep).length = rel := by rw [hc]; exact List.drop_left' rfl
  simp only [Call.tryGopath, hp, if_true, hd, pathJoin_src]

theorem tryGopath_pkgmod {c : Call} {k dest rel : Bytes} (hc : c.remoteSrcPath = k ++ pkgmodSep ++ rel) :
    c.tryGopath k dest =
      some { c with relSrcPath := rel, localSrcPath := dest ++ pkgmodSep ++ rel,
                    importPath := importOfRel rel c.importPath, location := setLoc c .goPkg } := by
  have hn : hasPrefix c.remoteSrcPath (k ++ srcSep) = false := by rw [hc]; exact pkgmod_not_src _ _
  have hp : hasPrefix c.remoteSrcPath (k ++ pkgmodSep) = true := by rw [hc]; exact hasPrefix_append _ _
  have hd : c.remoteSrcPath.drop (k ++ pkgmodSep).length = rel := by rw [hc]; exact List.drop_left' rfl
  simp only [Call.tryGopath, hn, Bool.false_eq_true, if_false, hp, if_true, hd, pathJoin_pkgmod]

theorem tryGomod_of {c : Call} {k pkg rel : Bytes} (hc : c.remoteSrcPath = k ++ b!"/" ++ rel) :
    c.tryGomod k pkg =
      some { c with relSrcPath := rel, localSrcPath := c.remoteSrcPath,
                    importPath := gomodImport pkg rel, location := setLoc c .goMod } := by
  have hd : c.remoteSrcPath.drop (k.length + 1) = rel := by rw [hc]; exact List.drop_left' (by simp)
  have hp : hasPrefix c.remoteSrcPath (k ++ b!"/") = true := by rw [hc]; exact hasPrefix_append _ _
  simp only [Call.tryGomod, hp, if_true, hd]

/-! ### the walks return the first key that matches -/

theorem gopathLoop_eq (c : Call) (m : AMap) (ks : List Bytes) :
    c.gopathLoop m ks = ks.findSome? fun k => c.tryGopath k (m.get k) := by
  induction ks with
  | nil => rfl
  | cons a t ih =>
    rw [Call.gopathLoop, List.findSome?_cons, ih]
    cases c.tryGopath a (m.get a) <;> rfl

theorem gomodLoop_eq (c : Call) (m : AMap) (ks : List Bytes) :
    c.gomodLoop m ks = ks.findSome? fun k => c.tryGomod k (m.get k) := by
  induction ks with
  | nil => rfl
  | cons a t ih =>
    rw [Call.gomodLoop, List.findSome?_cons, ih]
    cases c.tryGomod a (m.get a) <;> rfl

theorem findSome?_unique {α β : Type} {f : α → Option β} {a : α} {l : List α} (ha : a ∈ l)
    (h : ∀ x ∈ l, x ≠ a → f x = none) : l.findSome? f = f a := by
  induction l with
  | nil => simp at ha
  | cons b t ih =>
    rw [List.findSome?_cons]
    by_cases hb : b = a
    · subst hb
      cases hf : f b with
      | some _ => rfl
      | none =>
        refine List.findSome?_eq_none_iff.mpr fun x hx => ?_
        by_cases hx' : x = b
        · rw [hx', hf]
        · exact h x (List.mem_cons_of_mem _ hx) hx'
    · rw [h b List.mem_cons_self hb]
      exact ih ((List.mem_cons.mp ha).resolve_left (Ne.symm hb))
        (fun x hx => h x (List.mem_cons_of_mem _ hx))

theorem sortedByLen_findSome {β : Type} {m : AMap} {f : Bytes → Option β} {b : β}
    (h : (sortedByLen m).findSome? f = some b) :
    ∃ k ∈ m.keys, f k = some b ∧ ∀ k' ∈ m.keys, f k' ≠ none → k'.length ≤ k.length := by
  obtain ⟨pre, k, post, e, hk, hpre⟩ := List.findSome?_eq_some_iff.mp h
  have hs := sortedByLen_pairwise m
  rw [e, List.pairwise_append] at hs
  refine ⟨k, mem_sortedByLen.mp (e ▸ by simp), hk, fun k' hk' hne => ?_⟩
  have hin : k' ∈ pre ++ k :: post := e ▸ mem_sortedByLen.mpr hk'
  rcases List.mem_append.mp hin with hin | hin
  · exact absurd (hpre k' hin) hne
  · rcases List.mem_cons.mp hin with rfl | hin
    · exact Nat.le_refl _
    · exact lenLexLe_length ((List.pairwise_cons.mp hs.2.1).1 k' hin)

theorem updateLocations?_cases {c c' : Call} {goroot lg : Bytes} {gomods gopaths : AMap} :
    c.updateLocations? goroot lg gomods gopaths = some c' ↔
    c.remoteSrcPath ≠ [] ∧
    (c.tryGoroot goroot lg = some c' ∨
     (c.tryGoroot goroot lg = none ∧ c.gopathLoop gopaths (sortedByLen gopaths) = some c') ∨
     (c.tryGoroot goroot lg = none ∧ c.gopathLoop gopaths (sortedByLen gopaths) = none ∧
        c.gomodLoop gomods (sortedByLen gomods) = some c')) := by
  unfold Call.updateLocations?
  by_cases hne : c.remoteSrcPath = []
  · simp [hne]
  · cases c.tryGoroot goroot lg <;> cases c.gopathLoop gopaths (sortedByLen gopaths) <;> simp [hne]

theorem updateLocations?_eq_none {c : Call} {goroot lg : Bytes} {gomods gopaths : AMap} :
    c.updateLocations? goroot lg gomods gopaths = none ↔
    c.remoteSrcPath = [] ∨
    (c.tryGoroot goroot lg = none ∧ c.gopathLoop gopaths (sortedByLen gopaths) = none ∧
      c.gomodLoop gomods (sortedByLen gomods) = none) := by
  unfold Call.updateLocations?
  by_cases hne : c.remoteSrcPath = []
  · simp [hne]
  · cases c.tryGoroot goroot lg <;> cases c.gopathLoop gopaths (sortedByLen gopaths) <;> simp [hne]

theorem updateLocations_true {c c' : Call} {goroot lg : Bytes} {gomods gopaths : AMap} :
    c.updateLocations goroot lg gomods gopaths = (c', true) ↔
      c.updateLocations? goroot lg gomods gopaths = some c' := by
  unfold Call.updateLocations
  cases c.updateLocations? goroot lg gomods gopaths <;> simp

theorem updateLocations?_resolved {c c' : Call} {goroot lg : Bytes} {gomods gopaths : AMap}
    (h : c.updateLocations? goroot lg gomods gopaths = some c') :
    Resolved c goroot lg gomods gopaths c' := by
  obtain ⟨_, h | ⟨_, h⟩ | ⟨_, _, h⟩⟩ := updateLocations?_cases.mp h
  · obtain ⟨hg, rel, hr, hc⟩ := tryGoroot_some h
    exact .goroot rel hg hr hc
  · obtain ⟨pre, k, post, e, hk, _⟩ := List.findSome?_eq_some_iff.mp (gopathLoop_eq .. ▸ h)
    have hmem : k ∈ gopaths.keys := mem_sortedByLen.mp (e ▸ by simp)
    rcases tryGopath_some hk with ⟨rel, hr, hc⟩ | ⟨rel, hr, hc⟩
    · exact .src k rel hmem hr hc
    · exact .pkgmod k rel hmem hr hc
  · obtain ⟨pre, k, post, e, hk, _⟩ := List.findSome?_eq_some_iff.mp (gomodLoop_eq .. ▸ h)
    have hmem : k ∈ gomods.keys := mem_sortedByLen.mp (e ▸ by simp)
    obtain ⟨rel, hr, hc⟩ := tryGomod_some hk
    exact .gomod k rel hmem hr hc

/-! ### independence of the order of the maps -/

theorem updateLocations?_perm {c : Call} {goroot lg : Bytes} {gomods gomods' gopaths gopaths' : AMap}
    (pm : gomods.Perm gomods') (pp : gopaths.Perm gopaths') (ndm : gomods.Nodup) (ndp : gopaths.Nodup) :
    c.updateLocations? goroot lg gomods gopaths = c.updateLocations? goroot lg gomods' gopaths' := by
  unfold Call.updateLocations?
  simp only [sortedByLen_perm pm, sortedByLen_perm pp, gopathLoop_eq, gomodLoop_eq, AMap.get_perm pp ndp,
    AMap.get_perm pm ndm]

end PP
