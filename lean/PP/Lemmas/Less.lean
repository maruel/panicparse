import PP.Model.Sig
/-
Helper lemmas for C13: `Stack.less` / `Signature.less` are strict weak orders.

Route: a small algebra of three-way comparators (`CmpLaws`), closed under
pull-back, lexicographic sequencing (`Ordering.then`) and lexicographic lists
(`lexCmp`).  `Stack.less` and `Signature.less` are then shown to be the `.lt`
part of comparators built this way.
-/
namespace PP

/-! ### three-way comparators -/

/-- `cmp` is the three-way comparison of a total preorder. -/
structure CmpLaws {α : Type} (cmp : α → α → Ordering) : Prop where
  refl : ∀ a, cmp a a = .eq
  swap : ∀ a b, cmp b a = (cmp a b).swap
  trans : ∀ a b c, cmp a b = .lt → cmp b c = .lt → cmp a c = .lt
  eqc : ∀ a b c, cmp a b = .eq → cmp a c = cmp b c

namespace CmpLaws
variable {α β : Type} {cmp : α → α → Ordering}

theorem eqc' (h : CmpLaws cmp) (a b c : α) (e : cmp b c = .eq) : cmp a c = cmp a b := by
  have h1 := h.eqc b c a e
  have h2 := h.swap a b
  have h3 := h.swap a c
  rw [h2, h3] at h1
  cases hab : cmp a b <;> cases hac : cmp a c <;> simp_all [Ordering.swap]

theorem comap (h : CmpLaws cmp) (f : β → α) : CmpLaws (fun x y => cmp (f x) (f y)) where
  refl _ := h.refl _
  swap _ _ := h.swap _ _
  trans _ _ _ := h.trans _ _ _
  eqc _ _ _ := h.eqc _ _ _

theorem then_trans_pt {o1 o2 o3 p1 p2 p3 : Ordering}
    (ht : o1 = .lt → o2 = .lt → o3 = .lt)
    (he1 : o1 = .eq → o3 = o2) (he2 : o2 = .eq → o3 = o1)
    (pt : p1 = .lt → p2 = .lt → p3 = .lt) :
    o1.then p1 = .lt → o2.then p2 = .lt → o3.then p3 = .lt := by
  simp only [Ordering.then_eq_lt]
  rintro (h1 | ⟨e1, h1⟩) (h2 | ⟨e2, h2⟩)
  · exact .inl (ht h1 h2)
  · exact .inl ((he2 e2).trans h1)
  · exact .inl ((he1 e1).trans h2)
  · exact .inr ⟨(he1 e1).trans e2, pt h1 h2⟩

theorem then_eqc_pt {o1 o2 o3 p1 p2 p3 : Ordering}
    (he1 : o1 = .eq → o3 = o2) (pe : p1 = .eq → p3 = p2) :
    o1.then p1 = .eq → o3.then p3 = o2.then p2 := by
  cases o1 <;> simp_all [Ordering.then]

theorem «then» {c1 c2 : α → α → Ordering} (h1 : CmpLaws c1) (h2 : CmpLaws c2) :
    CmpLaws (fun a b => (c1 a b).then (c2 a b)) where
  refl a := by simp [h1.refl, h2.refl]
  swap a b := by simp [h1.swap a b, h2.swap a b, Ordering.swap_then]
  trans a b c :=
    then_trans_pt (h1.trans a b c) (h1.eqc a b c) (h1.eqc' a b c) (h2.trans a b c)
  eqc a b c := then_eqc_pt (h1.eqc a b c) (h2.eqc a b c)

/-! the strict order read off a comparator -/

theorem lt_irrefl (h : CmpLaws cmp) (a : α) : (cmp a a == .lt) = false := by
  simp [h.refl]

theorem lt_asymm (h : CmpLaws cmp) (a b : α) :
    (cmp a b == .lt) = true → (cmp b a == .lt) = false := by
  rw [h.swap a b]; cases cmp a b <;> simp [Ordering.swap]

theorem lt_trans (h : CmpLaws cmp) (a b c : α) :
    (cmp a b == .lt) = true → (cmp b c == .lt) = true → (cmp a c == .lt) = true := by
  simpa only [beq_iff_eq] using h.trans a b c

theorem eq_of_incomp (h : CmpLaws cmp) (a b : α) :
    (cmp a b == .lt) = false → (cmp b a == .lt) = false → cmp a b = .eq := by
  rw [h.swap a b]; cases cmp a b <;> simp [Ordering.swap]

/-- negative transitivity: "not less" is transitive -/
theorem not_lt_trans (h : CmpLaws cmp) (a b c : α) :
    (cmp a b == .lt) = false → (cmp b c == .lt) = false → (cmp a c == .lt) = false := by
  intro h1 h2
  cases hac : cmp a c <;> try rfl
  cases hab : cmp a b
  · rw [hab] at h1; cases h1
  · rw [← h.eqc a b c hab, hac] at h2; cases h2
  · have hba : cmp b a = .lt := by rw [h.swap a b, hab]; rfl
    rw [h.trans b a c hba hac] at h2; cases h2

theorem lt_incomp_trans (h : CmpLaws cmp) (a b c : α) :
    (cmp a b == .lt) = false → (cmp b a == .lt) = false →
    (cmp b c == .lt) = false → (cmp c b == .lt) = false →
    ((cmp a c == .lt) = false ∧ (cmp c a == .lt) = false) :=
  fun h1 h2 h3 h4 => ⟨h.not_lt_trans a b c h1 h3, h.not_lt_trans c b a h4 h2⟩

/-- Go's `if less a b { true } else if less b a { false } else …` is the strict part of a
lexicographic pair -/
theorem then_lt (h : CmpLaws cmp) (a b : α) (o : Ordering) :
    ((cmp a b).then o == .lt) =
      if cmp a b == .lt then true else if cmp b a == .lt then false else o == .lt := by
  rw [h.swap a b]; cases cmp a b <;> rfl

end CmpLaws

/-! ### comparator of a strict total order given as a Boolean `<` -/

def cmpOfLt {α : Type} (lt : α → α → Bool) (a b : α) : Ordering :=
  if lt a b then .lt else if lt b a then .gt else .eq

/-- an if-chain of Go and a `then`-chain of such comparators are the same term -/
theorem cmpOfLt_then {α : Type} (lt : α → α → Bool) (a b : α) (o : Ordering) :
    (cmpOfLt lt a b).then o = if lt a b then .lt else if lt b a then .gt else o := by
  unfold cmpOfLt; cases lt a b <;> cases lt b a <;> rfl

/-- what a three-way result selects: a `match` under a name, so that the lemmas about it can be
used in other modules (matchers are not shared between modules) -/
def _root_.Ordering.pick {β : Type} (o : Ordering) (lt gt eq : β) : β :=
  match o with | .lt => lt | .gt => gt | .eq => eq

/-- selecting on such a comparator (alone, or heading a `then`-chain) is Go's pair of tests -/
theorem cmpOfLt_pick {α β : Type} (lt : α → α → Bool) (a b : α) (t f e : β) :
    (cmpOfLt lt a b).pick t f e = if lt a b then t else if lt b a then f else e := by
  unfold cmpOfLt; cases lt a b <;> cases lt b a <;> rfl

theorem cmpOfLt_then_pick {α β : Type} (lt : α → α → Bool) (a b : α) (o : Ordering) (t f e : β) :
    ((cmpOfLt lt a b).then o).pick t f e =
      if lt a b then t else if lt b a then f else o.pick t f e := by
  unfold cmpOfLt; cases lt a b <;> cases lt b a <;> rfl

theorem cmpOfLt_lt {α : Type} (lt : α → α → Bool) (a b : α) : (cmpOfLt lt a b == .lt) = lt a b := by
  unfold cmpOfLt; cases lt a b <;> cases lt b a <;> rfl

theorem cmpOfLt_laws {α : Type} (lt : α → α → Bool)
    (irr : ∀ a, lt a a = false)
    (tr : ∀ a b c, lt a b = true → lt b c = true → lt a c = true)
    (tri : ∀ a b, lt a b = false → lt b a = false → a = b) : CmpLaws (cmpOfLt lt) := by
  have asym : ∀ a b, lt a b = true → lt b a = false := fun a b h1 =>
    Bool.eq_false_iff.2 fun h2 => by have := tr a b a h1 h2; simp [irr] at this
  have hlt : ∀ a b, cmpOfLt lt a b = .lt → lt a b = true := fun a b h => by
    rw [← cmpOfLt_lt lt a b, h]; rfl
  refine ⟨fun a => by simp [cmpOfLt, irr], fun a b => ?_, fun a b c h1 h2 => ?_, fun a b c h => ?_⟩
  · unfold cmpOfLt
    cases h1 : lt a b <;> cases h2 : lt b a <;> simp [Ordering.swap]
    rw [asym a b h1] at h2; cases h2
  · unfold cmpOfLt; rw [tr a b c (hlt a b h1) (hlt b c h2)]; rfl
  · have hab : lt a b = false ∧ lt b a = false := by
      unfold cmpOfLt at h
      cases h1 : lt a b <;> cases h2 : lt b a <;> simp [h1, h2] at h ⊢
    rw [tri a b hab.1 hab.2]

/-! ### lexicographic comparison of lists (shorter list first on a tie) -/

def lexCmp {α : Type} (cmp : α → α → Ordering) : List α → List α → Ordering
  | [], [] => .eq
  | [], _ :: _ => .lt
  | _ :: _, [] => .gt
  | a :: as, b :: bs => (cmp a b).then (lexCmp cmp as bs)

theorem lexCmp_laws {α : Type} {cmp : α → α → Ordering} (h : CmpLaws cmp) :
    CmpLaws (lexCmp cmp) where
  refl := by
    intro a; induction a with
    | nil => rfl
    | cons x xs ih => simp [lexCmp, h.refl, ih]
  swap := by
    intro a; induction a with
    | nil => intro b; cases b <;> rfl
    | cons x xs ih =>
      intro b; cases b with
      | nil => rfl
      | cons y ys => simp [lexCmp, Ordering.swap_then, h.swap x y, ih ys]
  trans := by
    intro a; induction a with
    | nil =>
      intro b c; cases b <;> cases c <;> simp [lexCmp]
    | cons x xs ih =>
      intro b c; cases b with
      | nil => simp [lexCmp]
      | cons y ys =>
        cases c with
        | nil => simp [lexCmp]
        | cons z zs =>
          simp only [lexCmp]
          exact CmpLaws.then_trans_pt (h.trans x y z) (h.eqc x y z) (h.eqc' x y z) (ih ys zs)
  eqc := by
    intro a; induction a with
    | nil =>
      intro b c; cases b <;> simp [lexCmp]
    | cons x xs ih =>
      intro b c; cases b with
      | nil => simp [lexCmp]
      | cons y ys =>
        cases c with
        | nil => simp [lexCmp]
        | cons z zs =>
          simp only [lexCmp]
          exact CmpLaws.then_eqc_pt (h.eqc x y z) (ih ys zs)

/-! ### `bytesLt` is a strict total order -/

theorem bytesLt_irrefl (a : Bytes) : bytesLt a a = false := by
  induction a with
  | nil => rfl
  | cons x xs ih => simp [bytesLt, ih]

theorem bytesLt_trans (a b c : Bytes) :
    bytesLt a b = true → bytesLt b c = true → bytesLt a c = true := by
  induction a generalizing b c with
  | nil => cases b <;> cases c <;> simp [bytesLt]
  | cons x xs ih =>
    cases b with
    | nil => simp [bytesLt]
    | cons y ys =>
      cases c with
      | nil => simp [bytesLt]
      | cons z zs =>
        simp only [bytesLt, Bool.or_eq_true, Bool.and_eq_true, decide_eq_true_eq, beq_iff_eq]
        intro h1 h2
        rcases h1 with h1 | ⟨rfl, h1⟩
        · rcases h2 with h2 | ⟨rfl, h2⟩
          · exact Or.inl (UInt8.lt_trans h1 h2)
          · exact Or.inl h1
        · rcases h2 with h2 | ⟨rfl, h2⟩
          · exact Or.inl h2
          · exact Or.inr ⟨rfl, ih _ _ h1 h2⟩

theorem bytesLt_tri (a b : Bytes) :
    bytesLt a b = false → bytesLt b a = false → a = b := by
  induction a generalizing b with
  | nil => cases b <;> simp [bytesLt]
  | cons x xs ih =>
    cases b with
    | nil => simp [bytesLt]
    | cons y ys =>
      simp only [bytesLt, Bool.or_eq_false_iff, Bool.and_eq_false_iff, decide_eq_false_iff_not,
        beq_eq_false_iff_ne, ne_eq]
      intro ⟨h1, h2⟩ ⟨h3, h4⟩
      have hxy : x = y := UInt8.le_antisymm (UInt8.not_lt.mp h3) (UInt8.not_lt.mp h1)
      subst hxy
      simp only [not_true_eq_false, false_or] at h2 h4
      rw [ih ys h2 h4]

def bytesCmp : Bytes → Bytes → Ordering := cmpOfLt bytesLt

theorem bytesCmp_laws : CmpLaws bytesCmp :=
  cmpOfLt_laws bytesLt bytesLt_irrefl bytesLt_trans bytesLt_tri

def natLt (a b : Nat) : Bool := decide (a < b)
def natCmp : Nat → Nat → Ordering := cmpOfLt natLt
/-- "more is less" -/
def natRevCmp (a b : Nat) : Ordering := natCmp b a

theorem natCmp_laws : CmpLaws natCmp :=
  cmpOfLt_laws natLt (by simp [natLt]) (by simp [natLt]; omega) (by simp [natLt]; omega)

theorem natRevCmp_laws : CmpLaws natRevCmp where
  refl a := natCmp_laws.refl a
  swap a b := natCmp_laws.swap b a
  trans a b c h1 h2 := natCmp_laws.trans c b a h2 h1
  eqc a b c h := natCmp_laws.eqc' c b a h

theorem natCmp_eq_eq (a b : Nat) : natCmp a b = .eq ↔ a = b := by
  unfold natCmp cmpOfLt natLt
  by_cases h : a < b
  · simp [h]; omega
  · by_cases h' : b < a <;> simp [h, h'] <;> omega

/-- Go's `if n != m { return n > m }` against the two-sided test -/
theorem ne_gt_ite (m n : Nat) (x : Bool) :
    (if (n != m) = true then decide (n > m) else x) =
      if decide (m < n) = true then true else if decide (n < m) = true then false else x := by
  rcases Nat.lt_trichotomy m n with h | rfl | h
  · simp [h, Nat.ne_of_gt h]
  · simp
  · simp [h, Nat.lt_asymm h, Nat.ne_of_lt h]

/-- locked goroutines first -/
def lockedLt (a b : Bool) : Bool := a && !b
def lockedCmp : Bool → Bool → Ordering := cmpOfLt lockedLt

theorem lockedCmp_laws : CmpLaws lockedCmp :=
  cmpOfLt_laws lockedLt (by decide) (by decide) (by decide)

/-! ### the histogram -/

theorem countLoc_cons (c : Call) (cs : List Call) (loc : Loc) :
    countLoc (c :: cs) loc = (if c.location = loc then 1 else 0) + countLoc cs loc := by
  simp only [countLoc, List.filter_cons, beq_iff_eq]
  split <;> simp [Nat.add_comm]

theorem countMain_cons (c : Call) (cs : List Call) :
    countMain (c :: cs) = (if c.fn.isPkgMain then 1 else 0) + countMain cs := by
  simp only [countMain, List.filter_cons]
  split <;> simp [Nat.add_comm]

/-- the five location counters partition the frames -/
theorem countLoc_sum (cs : List Call) :
    countLoc cs .unknown + countLoc cs .goMod + countLoc cs .gopath + countLoc cs .goPkg +
      countLoc cs .stdlib = cs.length := by
  induction cs with
  | nil => rfl
  | cons c cs ih =>
    have one : ∀ x : Loc, (if x = .unknown then 1 else 0) + (if x = .goMod then 1 else 0) +
        (if x = .gopath then 1 else 0) + (if x = .goPkg then 1 else 0) +
        (if x = .stdlib then 1 else 0) = 1 := fun x => by cases x <;> rfl
    have := one c.location
    simp only [countLoc_cons, List.length_cons]
    omega

theorem histo_length (cs : List Call) : (histo cs).length = 6 := rfl

/-- one counter of the histogram, as Go tests it -/
theorem histoCmp_cons_pick {β : Type} (a b : Nat) (as bs : List Nat) (t f e : β) :
    (histoCmp (a :: as) (b :: bs)).pick t f e =
      if a > b then t else if a < b then f else (histoCmp as bs).pick t f e := by
  rw [histoCmp]
  by_cases h1 : a > b
  · simp only [h1, if_true]; rfl
  · by_cases h2 : a < b
    · simp only [h1, h2, if_true, if_false]; rfl
    · simp only [h1, h2, if_false]

theorem histoCmp_eq_lex (a b : List Nat) (h : a.length = b.length) :
    histoCmp a b = lexCmp natRevCmp a b := by
  induction a generalizing b with
  | nil => cases b <;> simp_all [histoCmp, lexCmp]
  | cons x xs ih =>
    cases b with
    | nil => simp at h
    | cons y ys =>
      simp only [histoCmp, lexCmp, natRevCmp, natCmp, cmpOfLt_then, natLt, decide_eq_true_eq,
        ih ys (Nat.succ.inj h), gt_iff_lt]

theorem lexCmp_eq {α : Type} {cmp : α → α → Ordering} (hc : ∀ x y, cmp x y = .eq → x = y) :
    ∀ a b : List α, lexCmp cmp a b = .eq → a = b
  | [], [], _ => rfl
  | [], _ :: _, h => by cases h
  | _ :: _, [], h => by cases h
  | x :: xs, y :: ys, h => by
    rw [lexCmp, Ordering.then_eq_eq] at h
    rw [hc x y h.1, lexCmp_eq hc xs ys h.2]

theorem histoCmp_eq (a b : List Nat) (h : a.length = b.length) : histoCmp a b = .eq → a = b := by
  rw [histoCmp_eq_lex a b h]
  exact lexCmp_eq (fun x y e => ((natCmp_eq_eq y x).1 e).symm) a b

theorem length_eq_of_histo_eq (as bs : List Call) (h : histo as = histo bs) :
    as.length = bs.length := by
  rw [← countLoc_sum as, ← countLoc_sum bs]
  simp only [histo, List.cons.injEq] at h
  omega

/-! ### the per-frame loop -/

def callCmp (a b : Call) : Ordering :=
  (bytesCmp a.fn.complete b.fn.complete).then
    ((bytesCmp a.dirSrc b.dirSrc).then (natCmp a.line b.line))

theorem callCmp_laws : CmpLaws callCmp :=
  CmpLaws.then (bytesCmp_laws.comap (fun c : Call => c.fn.complete))
    (CmpLaws.then (bytesCmp_laws.comap (fun c : Call => c.dirSrc))
      (natCmp_laws.comap (fun c : Call => c.line)))

/-- one frame, as Go tests it -/
theorem callCmp_pick {β : Type} (a b : Call) (t f e : β) :
    (callCmp a b).pick t f e =
      if bytesLt a.fn.complete b.fn.complete then t
      else if bytesLt b.fn.complete a.fn.complete then f
      else if bytesLt a.dirSrc b.dirSrc then t
      else if bytesLt b.dirSrc a.dirSrc then f
      else if a.line < b.line then t
      else if b.line < a.line then f
      else e := by
  simp only [callCmp, bytesCmp, natCmp, cmpOfLt_then_pick, cmpOfLt_pick, natLt, decide_eq_true_eq]

theorem framesCmp_cons (a b : Call) (as bs : List Call) :
    framesCmp (a :: as) (b :: bs) = (callCmp a b).pick (some .lt) (some .gt) (framesCmp as bs) := by
  rw [callCmp_pick]; rfl

/-- the loop compares `as` frame by frame with the prefix of `bs` of the same length -/
theorem framesCmp_prefix (as bs : List Call) (h : as.length ≤ bs.length) :
    framesCmp as bs = some (lexCmp callCmp as (bs.take as.length)) := by
  induction as generalizing bs with
  | nil => rfl
  | cons a as ih =>
    cases bs with
    | nil => simp at h
    | cons b bs =>
      rw [framesCmp_cons, ih bs (Nat.le_of_succ_le_succ h)]
      simp only [List.length_cons, List.take_succ_cons, lexCmp]
      cases callCmp a b <;> rfl

theorem framesCmp_isSome (as bs : List Call) (h : as.length ≤ bs.length) :
    (framesCmp as bs).isSome = true := by
  rw [framesCmp_prefix as bs h]; rfl

/-! ### Stack.less -/

/-- three-way comparison behind `Stack.less`: histogram, then frames -/
def stackCmp (s r : Stack) : Ordering :=
  (lexCmp natRevCmp (histo s.calls) (histo r.calls)).then (lexCmp callCmp s.calls r.calls)

theorem stackCmp_laws : CmpLaws stackCmp :=
  CmpLaws.then ((lexCmp_laws natRevCmp_laws).comap (fun s : Stack => histo s.calls))
    ((lexCmp_laws callCmp_laws).comap (fun s : Stack => s.calls))

theorem stackLess?_pick (s r : Stack) :
    Stack.less? s r = (histoCmp (histo s.calls) (histo r.calls)).pick (some true) (some false)
      ((framesCmp s.calls r.calls).map (· == .lt)) := by
  unfold Stack.less?; cases histoCmp (histo s.calls) (histo r.calls) <;> rfl

theorem stackLess?_eq (s r : Stack) : Stack.less? s r = some (stackCmp s r == .lt) := by
  unfold Stack.less? stackCmp
  rw [histoCmp_eq_lex (histo s.calls) (histo r.calls) rfl]
  cases h : lexCmp natRevCmp (histo s.calls) (histo r.calls)
  · rfl
  · -- equal histograms: equally many frames, the per-frame loop stays in range
    have hl := length_eq_of_histo_eq _ _
      (lexCmp_eq (fun x y e => ((natCmp_eq_eq y x).1 e).symm) _ _ h)
    rw [framesCmp_prefix _ _ (Nat.le_of_eq hl), hl, List.take_length]; rfl
  · rfl

theorem stackLess_eq (s r : Stack) : Stack.less s r = (stackCmp s r == .lt) := by
  simp [Stack.less, stackLess?_eq]

/-! ### Signature.less -/

/-- three-way comparison behind `Signature.less`: stack, locked-first, state -/
def sigCmp (s r : Signature) : Ordering :=
  (stackCmp s.stack r.stack).then
    ((lockedCmp s.locked r.locked).then (bytesCmp s.state r.state))

theorem sigCmp_laws : CmpLaws sigCmp :=
  CmpLaws.then (stackCmp_laws.comap (fun s : Signature => s.stack))
    (CmpLaws.then (lockedCmp_laws.comap (fun s : Signature => s.locked))
      (bytesCmp_laws.comap (fun s : Signature => s.state)))

theorem sigLess_eq (s r : Signature) : Signature.less s r = (sigCmp s r == .lt) := by
  unfold Signature.less sigCmp
  rw [(stackCmp_laws.comap (fun s : Signature => s.stack)).then_lt s r,
    (lockedCmp_laws.comap (fun s : Signature => s.locked)).then_lt s r]
  simp only [stackLess_eq, lockedCmp, bytesCmp, cmpOfLt_lt, lockedLt]

/-! ### stdlib-only stacks sort last -/

theorem countMain_eq_zero (cs : List Call) (h : ∀ c ∈ cs, c.fn.isPkgMain = false) :
    countMain cs = 0 := by
  simp only [countMain, List.length_eq_zero_iff, List.filter_eq_nil_iff]
  intro c hc; simp [h c hc]

theorem countLoc_eq_zero (cs : List Call) (loc : Loc) (h : ∀ c ∈ cs, c.location ≠ loc) :
    countLoc cs loc = 0 := by
  simp only [countLoc, List.length_eq_zero_iff, List.filter_eq_nil_iff]
  intro c hc; simpa using h c hc

theorem countMain_pos (cs : List Call) (c : Call) (hc : c ∈ cs) (h : c.fn.isPkgMain = true) :
    0 < countMain cs := by
  simp only [countMain, List.length_filter_pos_iff]
  exact ⟨c, hc, h⟩

theorem countLoc_pos (cs : List Call) (loc : Loc) (c : Call) (hc : c ∈ cs)
    (h : c.location = loc) : 0 < countLoc cs loc := by
  simp only [countLoc, List.length_filter_pos_iff]
  exact ⟨c, hc, by simpa using h⟩

/-- against a zero counter, a positive counter decides; a zero one defers to the rest -/
theorem histoCmp_cons_zero (m : Nat) (xs ys : List Nat) (h : 0 < m ∨ histoCmp xs ys = .lt) :
    histoCmp (m :: xs) (0 :: ys) = .lt := by
  unfold histoCmp
  by_cases hm : 0 < m
  · simp [hm]
  · simpa [hm] using h.resolve_left hm

end PP
