import PP.Lemmas.Cut
import PP.Lemmas.ScanLoop
/-
C10 helpers that use the scanner invariant `Inv` of C03 (`PP/Lemmas/ScanInv.lean`).
-/
namespace PP

theorem prefixL_inv (s : S) (fwd : Bytes) (cons : List Bytes) (xs : List Bytes)
    (s₁ : S) (fwd₁ : Bytes) (cons₁ : List Bytes) (hi : Inv s)
    (h : prefixL s fwd cons xs = some (s₁, fwd₁, cons₁)) : Inv s₁ := by
  have := scanL_preserves Inv (fun _ _ _ _ _ => scanBytes_inv) s fwd cons (noErr xs ++ []) hi
  rwa [scanL_prefix_some s fwd cons xs [] s₁ fwd₁ cons₁ h] at this

/-- when no dump has started at the cut, there is no goroutine yet -/
theorem afterCommon_looking_gs (bs : Bytes) (k : Nat) (s_c : S) (fwd_c : Bytes) (cons_c : List Bytes)
    (h : afterCommon bs k = some (s_c, fwd_c, cons_c))
    (hs : s_c.st = .looking ∨ s_c.st = .gotRaceHeader1 ∨ s_c.st = .gotRaceHeader2) : s_c.gs = [] := by
  have hi := (prefixL_inv {} [] [] (cutCommon bs k) s_c fwd_c cons_c inv_init' h).1
  rcases hs with hs | hs | hs <;> rw [hs] at hi <;> exact hi

end PP
