import PP.Lemmas.Generalise
import PP.Lemmas.Typed
import PP.Props.C05
/-
C12: the signature displayed for a bucket of `Snapshot.Aggregate` truthfully
generalises its members.  For every valid iteration-order oracle, every level
and every snapshot with distinct goroutine ids (and, where `similar` between
the key and the members is needed, well-formed signatures), for every bucket
`b` with `b.members gs = gs.filter (fun g => b.ids.contains g.id)`:
  * the sleep range shown is exactly the minimum and the maximum over the members;
  * the bucket is shown locked iff some member is locked;
  * state, frame count and, frame by frame, function / path / line / elided flag
    agree with every member; all call fields but the arguments, and `createdBy`,
    are those of the first member;
  * on the scalar arguments flattened in `walk` order (`Signature.flatArgs`):
    every member has the shape of the bucket; a position where all members agree
    is shown unchanged; a position where two members differ is shown as `*`;
    hence a position not shown as `*` holds the value of every member;
  * at the exact levels the arguments are those of every member verbatim;
  * the typed rendering of the arguments (`Args.Processed`, made by source analysis) is shown for
    a bucket only when nothing was generalised: the signature is the first member's verbatim and
    every other member is `equal` to it; as soon as one member differs no call shows one.
-/
namespace PP

/-- the range shown is exactly the min and the max over the members -/
theorem bucket_sleep_range {π : Oracle} (hπ : ValidOracle π) (l : Lvl) (gs : List Goroutine)
    (hnd : (gs.map (·.id)).Nodup) :
    ∀ b ∈ aggregateWith π l gs,
      (∀ g ∈ b.members gs, b.sig.sleepMin ≤ g.sig.sleepMin) ∧
      (∃ g ∈ b.members gs, g.sig.sleepMin = b.sig.sleepMin) ∧
      (∀ g ∈ b.members gs, g.sig.sleepMax ≤ b.sig.sleepMax) ∧
      (∃ g ∈ b.members gs, g.sig.sleepMax = b.sig.sleepMax) := by
  intro b hb
  obtain ⟨h1, h2, h3, h4, _⟩ := bucket_gen hπ l gs hnd b hb
  simp only [List.forall_mem_map, exists_mem_map] at h1 h2 h3 h4
  exact ⟨h1, h2, h3, h4⟩

theorem bucket_locked_iff_any {π : Oracle} (hπ : ValidOracle π) (l : Lvl) (gs : List Goroutine)
    (hnd : (gs.map (·.id)).Nodup) :
    ∀ b ∈ aggregateWith π l gs,
      (b.sig.locked = true ↔ ∃ g ∈ b.members gs, g.sig.locked = true) :=
  fun b hb => (bucket_gen hπ l gs hnd b hb).locked.trans exists_mem_map

/-- state, frame count and the compared fields of every frame agree with every member;
the creator stack is similar to every member's -/
theorem bucket_state_creator_frames {π : Oracle} (hπ : ValidOracle π) (l : Lvl)
    (gs : List Goroutine) (hnd : (gs.map (·.id)).Nodup) (hwf : ∀ g ∈ gs, g.sig.WF = true) :
    ∀ b ∈ aggregateWith π l gs, ∀ g ∈ b.members gs,
      b.sig.state = g.sig.state ∧ Stack.similar l b.sig.createdBy g.sig.createdBy = true ∧
      b.sig.stack.elided = g.sig.stack.elided ∧
      b.sig.stack.calls.length = g.sig.stack.calls.length ∧
      ∀ (i : Nat) (c c' : Call), b.sig.stack.calls[i]? = some c → g.sig.stack.calls[i]? = some c' →
        c.fn.complete = c'.fn.complete ∧ c.remoteSrcPath = c'.remoteSrcPath ∧ c.line = c'.line ∧
          c.args.elided = c'.args.elided := by
  intro b hb g hg
  obtain ⟨hg, hi⟩ := mem_members.1 hg
  exact Signature.similar_frames l _ _ (bucket_key_similar_members hπ l gs hnd hwf b hb g hg hi)

/-- every call field but the arguments, the state and the creator are those of the first
member verbatim -/
theorem bucket_fields_from_first_member {π : Oracle} (hπ : ValidOracle π) (l : Lvl)
    (gs : List Goroutine) (hnd : (gs.map (·.id)).Nodup) :
    ∀ b ∈ aggregateWith π l gs, ∃ g rest, b.members gs = g :: rest ∧
      b.sig.state = g.sig.state ∧ b.sig.createdBy = g.sig.createdBy ∧
      b.sig.stack.elided = g.sig.stack.elided ∧
      ∀ i : Nat, (b.sig.stack.calls[i]?).map Call.strip = (g.sig.stack.calls[i]?).map Call.strip := by
  intro b hb
  obtain ⟨m₀, rest, e, h1, h2, h3, h4⟩ := (bucket_gen hπ l gs hnd b hb).first
  obtain ⟨g, rest', e', rfl, _⟩ := List.map_eq_cons_iff.1 e
  refine ⟨g, rest', e', h1, h2, h3, ?_⟩
  intro i
  rw [← List.getElem?_map, ← List.getElem?_map, h4]

/-- every member has as many scalar arguments as the bucket shows -/
theorem flat_same_length {π : Oracle} (hπ : ValidOracle π) (l : Lvl) (gs : List Goroutine)
    (hnd : (gs.map (·.id)).Nodup) :
    ∀ b ∈ aggregateWith π l gs, ∀ g ∈ b.members gs,
      g.sig.flatArgs.length = b.sig.flatArgs.length :=
  fun b hb => List.forall_mem_map.1 (bucket_gen hπ l gs hnd b hb).len

/-- one position of the flattened arguments: shown as every member has it, or starred with two
members differing there -/
theorem bucket_args {π : Oracle} (hπ : ValidOracle π) (l : Lvl) (gs : List Goroutine)
    (hnd : (gs.map (·.id)).Nodup) :
    ∀ b ∈ aggregateWith π l gs, ∀ i : Nat,
      (∀ g ∈ b.members gs, g.sig.flatArgs[i]? = b.sig.flatArgs[i]?) ∨
      ((b.sig.flatArgs[i]?).map Scalar.name = some star ∧
        ∃ g ∈ b.members gs, ∃ h ∈ b.members gs, g.sig.flatArgs[i]? ≠ h.sig.flatArgs[i]?) := by
  intro b hb i
  simpa only [List.forall_mem_map, exists_mem_map] using (bucket_gen hπ l gs hnd b hb).args i

/-- a position at which two members differ is shown as `*` -/
theorem arg_star_if_differs {π : Oracle} (hπ : ValidOracle π) (l : Lvl) (gs : List Goroutine)
    (hnd : (gs.map (·.id)).Nodup) :
    ∀ b ∈ aggregateWith π l gs, ∀ i : Nat, ∀ g ∈ b.members gs, ∀ h ∈ b.members gs,
      g.sig.flatArgs[i]? ≠ h.sig.flatArgs[i]? →
        (b.sig.flatArgs[i]?).map Scalar.name = some star := by
  intro b hb i g hg h hh hne
  rcases bucket_args hπ l gs hnd b hb i with hA | ⟨hs, _⟩
  · exact absurd ((hA g hg).trans (hA h hh).symm) hne
  · exact hs

/-- a position at which all members agree is shown as it is in the members -/
theorem arg_unchanged_if_common {π : Oracle} (hπ : ValidOracle π) (l : Lvl) (gs : List Goroutine)
    (hnd : (gs.map (·.id)).Nodup) :
    ∀ b ∈ aggregateWith π l gs, ∀ i : Nat,
      (∀ g ∈ b.members gs, ∀ h ∈ b.members gs, g.sig.flatArgs[i]? = h.sig.flatArgs[i]?) →
        ∀ g ∈ b.members gs, b.sig.flatArgs[i]? = g.sig.flatArgs[i]? := by
  intro b hb i hall g hg
  rcases bucket_args hπ l gs hnd b hb i with hA | ⟨_, g₁, hg₁, g₂, hg₂, hne⟩
  · exact (hA g hg).symm
  · exact absurd (hall g₁ hg₁ g₂ hg₂) hne

/-- converse of `arg_star_if_differs`: a position is shown as `*` only if two members differ
there, unless every member carries that very scalar (itself named `*`) -/
theorem arg_star_only_if_differs {π : Oracle} (hπ : ValidOracle π) (l : Lvl) (gs : List Goroutine)
    (hnd : (gs.map (·.id)).Nodup) :
    ∀ b ∈ aggregateWith π l gs, ∀ i : Nat, (b.sig.flatArgs[i]?).map Scalar.name = some star →
      (∃ g ∈ b.members gs, ∃ h ∈ b.members gs, g.sig.flatArgs[i]? ≠ h.sig.flatArgs[i]?) ∨
      (∀ g ∈ b.members gs, g.sig.flatArgs[i]? = b.sig.flatArgs[i]?) :=
  fun b hb i _ => (bucket_args hπ l gs hnd b hb i).symm.imp And.right id

/-- safety: a scalar shown under a name other than `*` is the scalar of every member -/
theorem no_partial_value {π : Oracle} (hπ : ValidOracle π) (l : Lvl) (gs : List Goroutine)
    (hnd : (gs.map (·.id)).Nodup) :
    ∀ b ∈ aggregateWith π l gs, ∀ (i : Nat) (s : Scalar), b.sig.flatArgs[i]? = some s →
      s.name ≠ star → ∀ g ∈ b.members gs, g.sig.flatArgs[i]? = some s := by
  intro b hb i s hs hn g hg
  rcases bucket_args hπ l gs hnd b hb i with hA | ⟨hstar, _⟩
  · rw [← hs]; exact hA g hg
  · rw [hs] at hstar
    exact absurd (Option.some.inj hstar) hn

/-- at the exact levels the arguments shown are those of every member -/
theorem exact_levels_args_verbatim {π : Oracle} (hπ : ValidOracle π) (l : Lvl)
    (hl : l = .exactFlags ∨ l = .exactLines) (gs : List Goroutine)
    (hnd : (gs.map (·.id)).Nodup) (hwf : ∀ g ∈ gs, g.sig.WF = true) :
    ∀ b ∈ aggregateWith π l gs, ∀ g ∈ b.members gs, b.sig.flatArgs = g.sig.flatArgs := by
  intro b hb g hg
  obtain ⟨hg, hi⟩ := mem_members.1 hg
  exact Signature.flatArgs_eq_of_exact hl _ _
    (bucket_key_similar_members hπ l gs hnd hwf b hb g hg hi)

/-- at the exact levels aggregation never adds a star: when no member carries a `*`, no bucket
does -/
theorem exact_levels_no_star {π : Oracle} (hπ : ValidOracle π) (l : Lvl)
    (hl : l = .exactFlags ∨ l = .exactLines) (gs : List Goroutine)
    (hnd : (gs.map (·.id)).Nodup) (hwf : ∀ g ∈ gs, g.sig.WF = true) :
    (∀ g ∈ gs, ∀ s ∈ g.sig.flatArgs, s.name ≠ star) →
      ∀ b ∈ aggregateWith π l gs, ∀ s ∈ b.sig.flatArgs, s.name ≠ star := by
  intro hns b hb s hs
  obtain ⟨g, _, hg, _⟩ := bucket_fields_from_first_member hπ l gs hnd b hb
  have hgm : g ∈ b.members gs := by simp [hg]
  rw [exact_levels_args_verbatim hπ l hl gs hnd hwf b hb g hgm] at hs
  exact hns g (mem_members.1 hgm).1 s hs

/-- the typed rendering: a bucket one of whose calls shows typed arguments has the first member's
signature verbatim (typed arguments included), and every other member is `equal` to it — same
state, creator, lock flag, sleep range, frames and arguments at the strictest level -/
theorem typed_args_only_if_unmerged {π : Oracle} (hπ : ValidOracle π) (l : Lvl) (gs : List Goroutine)
    (hnd : (gs.map (·.id)).Nodup) :
    ∀ b ∈ aggregateWith π l gs, (∃ c ∈ b.sig.stack.calls, c.args.processed ≠ []) →
      ∃ g rest, b.members gs = g :: rest ∧ b.sig = g.sig ∧
        ∀ h ∈ rest, Signature.equal b.sig h.sig = true := by
  intro b hb ⟨c, hc, hne⟩
  rcases bucket_typed hπ l gs hnd b hb with ⟨m₀, rest, e, hk, hall⟩ | hno
  · obtain ⟨g, rest', e', rfl, rfl⟩ := List.map_eq_cons_iff.1 e
    exact ⟨g, rest', e', hk, fun h hh => hall _ (List.mem_map_of_mem hh)⟩
  · exact absurd (hno c hc) hne

/-- contrapositive, as the property puts it: as soon as two members differ in anything `equal`
looks at (e.g. one argument value), no call of the bucket shows typed arguments, so no typed
value held by only some members is presented as common -/
theorem no_typed_args_if_members_differ {π : Oracle} (hπ : ValidOracle π) (l : Lvl) (gs : List Goroutine)
    (hnd : (gs.map (·.id)).Nodup) :
    ∀ b ∈ aggregateWith π l gs, ∀ g rest, b.members gs = g :: rest →
      (∃ h ∈ rest, Signature.equal g.sig h.sig = false) →
        ∀ c ∈ b.sig.stack.calls, c.args.processed = [] := by
  intro b hb g rest hm ⟨h, hh, hne⟩ c hc
  rcases bucket_typed hπ l gs hnd b hb with ⟨m₀, rest', e, hk, hall⟩ | hno
  · rw [hm] at e
    simp only [List.map_cons, List.cons.injEq] at e
    obtain ⟨rfl, rfl⟩ := e
    have := hall _ (List.mem_map_of_mem (f := fun x : Goroutine => x.sig) hh)
    rw [hk, hne] at this
    exact absurd this (by simp)
  · exact hno c hc

/-! ### examples: goroutines that differ in one pointer argument -/

section Example

/-- one frame `main.f(1, {2, {p, 3}}, 4)`: the pointer `p` sits two aggregates deep, at
position 2 of the flattened arguments -/
private def sigOf (p : Nat) (smin smax : Nat) (locked : Bool) : Signature :=
  { state := b!"select", sleepMin := smin, sleepMax := smax, locked := locked,
    stack := { calls := [{ fn := { complete := b!"main.f" },
                           args := { values :=
                             [.scalar [] 1 false false false,
                              .agg [.scalar [] 2 false false false,
                                    .agg [.scalar [] p true false false,
                                          .scalar [] 3 false false false] false] false,
                              .scalar [] 4 false false false] },
                           remoteSrcPath := b!"/src/main.go", line := 10,
                           srcName := b!"main.go" }] } }

/-- goroutines 1 and 2 differ in the nested pointer, in the sleep range and in the lock flag;
goroutine 7 repeats goroutine 1 -/
private def exGs : List Goroutine :=
  [ { sig := sigOf 0xc000012340 3 3 false, id := 1, first := true },
    { sig := sigOf 0xc000099990 10 12 true, id := 2 },
    { sig := sigOf 0xc000012340 3 3 false, id := 7 } ]

private theorem exGs_nodup : (exGs.map (·.id)).Nodup := by decide
private theorem exGs_wf : ∀ g ∈ exGs, g.sig.WF = true := by decide

/-- at `.anyPointer` the three share one bucket, showing sleep 3..12 and locked … -/
example : (bucketLoop idOracle .anyPointer 0 [] exGs).map
      (fun b => (b.ids, b.key.sleepMin, b.key.sleepMax, b.key.locked)) =
    [([1, 2, 7], 3, 12, true)] := rfl
/-- … with exactly the nested pointer starred, the other four scalars kept … -/
example : (bucketLoop idOracle .anyPointer 0 [] exGs).map
      (fun b => b.key.flatArgs.map (fun s => (s.name, s.value))) =
    [[([], 1), ([], 2), (star, 0xc000012340), ([], 3), ([], 4)]] := rfl
/-- … and every call field but the arguments copied from goroutine 1 -/
example : (bucketLoop idOracle .anyPointer 0 [] exGs).map
      (fun b => b.key.stack.calls.map (fun c => (c.fn.complete, c.line, c.srcName))) =
    [[(b!"main.f", 10, b!"main.go")]] := rfl
/-- at `.exactLines` goroutine 2 is on its own and nothing is starred -/
example : (bucketLoop idOracle .exactLines 0 [] exGs).map
      (fun b => (b.ids, b.key.sleepMin, b.key.sleepMax, b.key.locked)) =
    [([1, 7], 3, 3, false), ([2], 10, 12, true)] := rfl
example : (bucketLoop idOracle .exactLines 0 [] exGs).map
      (fun b => b.key.flatArgs.map Scalar.name) =
    [[[], [], [], [], []], [[], [], [], [], []]] := rfl

/-- the same goroutines after source analysis (every call carries a typed rendering) -/
private def typed (g : Goroutine) (r : Bytes) : Goroutine :=
  { g with sig := { g.sig with stack := { g.sig.stack with
      calls := g.sig.stack.calls.map (fun c => { c with args := { c.args with processed := [r] } }) } } }
private def exTyped : List Goroutine :=
  [typed exGs[0] b!"int(1), S{2, {*T(0xc000012340), 3}}, 4", typed exGs[2] b!"int(1), S{2, {*T(0xc000012340), 3}}, 4",
   typed exGs[1] b!"int(1), S{2, {*T(0xc000099990), 3}}, 4"]
/-- goroutines 1 and 7 are equal: at `.exactLines` their bucket keeps the typed rendering (and
`typed_args_only_if_unmerged` applies to it); at `.anyPointer` goroutine 2 joins, the pointer is
starred and no typed rendering is shown any more -/
example : (bucketLoop idOracle .exactLines 0 [] exTyped).map
      (fun b => (b.ids, b.key.stack.calls.map (fun c => c.args.processed.length))) =
    [([1, 7], [1]), ([2], [1])] := rfl
example : (bucketLoop idOracle .anyPointer 0 [] exTyped).map
      (fun b => (b.ids, b.key.stack.calls.map (fun c => c.args.processed.length))) =
    [([1, 7, 2], [0])] := rfl

/-- the members differ at position 2 and nowhere else -/
example : exGs[0].sig.flatArgs[2]? ≠ exGs[1].sig.flatArgs[2]?
    ∧ ∀ i, i ≠ 2 → exGs[0].sig.flatArgs[i]? = exGs[1].sig.flatArgs[i]? := by
  refine ⟨by decide, ?_⟩
  intro i hi
  match i with
  | 0 | 1 | 3 | 4 => rfl
  | 2 => exact absurd rfl hi
  | n + 5 =>
    -- both lists have five scalars
    rw [List.getElem?_eq_none (Nat.le_add_left 5 n), List.getElem?_eq_none (Nat.le_add_left 5 n)]

/-- the theorems applied to `exGs` aggregated at `.anyPointer` under the reversed iteration
order (`revOracle`): the bucket of goroutines 1 and 2 shows `*` at position 2, a sleep range
covering 3..12 and the lock flag -/
example : ∃ b ∈ aggregateWith revOracle .anyPointer exGs,
    (b.sig.flatArgs[2]?).map Scalar.name = some star ∧
    b.sig.sleepMin ≤ 3 ∧ 12 ≤ b.sig.sleepMax ∧ b.sig.locked = true := by
  have g1 : exGs[0] ∈ exGs := List.getElem_mem _
  have g2 : exGs[1] ∈ exGs := List.getElem_mem _
  obtain ⟨b, hb, h1, h2⟩ :=
    (same_bucket_iff validOracle_rev .anyPointer exGs exGs_nodup exGs_wf _ g1 _ g2).2 (by decide)
  have m1 := mem_members.2 ⟨g1, h1⟩
  have m2 := mem_members.2 ⟨g2, h2⟩
  have hr := bucket_sleep_range validOracle_rev .anyPointer exGs exGs_nodup b hb
  exact ⟨b, hb,
    arg_star_if_differs validOracle_rev .anyPointer exGs exGs_nodup b hb 2 _ m1 _ m2 (by decide),
    hr.1 _ m1, hr.2.2.1 _ m2,
    (bucket_locked_iff_any validOracle_rev .anyPointer exGs exGs_nodup b hb).2 ⟨_, m2, by decide⟩⟩

end Example

end PP

#print axioms PP.bucket_sleep_range
#print axioms PP.bucket_locked_iff_any
#print axioms PP.bucket_state_creator_frames
#print axioms PP.bucket_fields_from_first_member
#print axioms PP.flat_same_length
#print axioms PP.arg_star_if_differs
#print axioms PP.arg_unchanged_if_common
#print axioms PP.arg_star_only_if_differs
#print axioms PP.no_partial_value
#print axioms PP.exact_levels_args_verbatim
#print axioms PP.exact_levels_no_star
#print axioms PP.typed_args_only_if_unmerged
#print axioms PP.no_typed_args_if_members_differ
