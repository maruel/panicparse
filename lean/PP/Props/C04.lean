import PP.Lemmas.Greedy
/-
C04: `Snapshot.Aggregate` (bucket.go:42-109) partitions the goroutines and
conserves them, whatever the map iteration order (`ValidOracle π`) and whatever
`similar` does (no law of `similar` / `merge` is used here):
  * the bucket id lists together are a permutation of the goroutine ids;
  * every bucket is non-empty and its ids are sorted;
  * with distinct goroutine ids the buckets are pairwise disjoint;
  * a bucket is `first` iff it holds a `first` goroutine; exactly one bucket is
    `first` when exactly one goroutine is.
-/
namespace PP

theorem agg_ids_perm {π : Oracle} (hπ : ValidOracle π) (l : Lvl) (gs : List Goroutine) :
    ((aggregateWith π l gs).flatMap (·.ids)).Perm (gs.map (·.id)) := by
  refine ((aggregateWith_perm hπ l gs).flatMap_right (·.ids)).trans ?_
  exact (toBucket_ids_perm _).trans (bucketLoop_ids_perm hπ l gs)

theorem agg_ids_sorted_nonempty {π : Oracle} (hπ : ValidOracle π) (l : Lvl) (gs : List Goroutine) :
    ∀ b ∈ aggregateWith π l gs, b.ids ≠ [] ∧ b.ids.Pairwise (· ≤ ·) := by
  intro b hb
  obtain ⟨k, hk, rfl⟩ := (mem_aggregateWith hπ l gs b).1 hb
  obtain ⟨ms, _, hf⟩ := bucketLoop_filed hπ l gs k hk
  refine ⟨sortNat_ne_nil ?_, sortNat_sorted _⟩
  rw [hf.ids]
  exact fun e => hf.ne_nil (List.map_eq_nil_iff.1 e)

theorem agg_ids_disjoint {π : Oracle} (hπ : ValidOracle π) (l : Lvl) (gs : List Goroutine) :
    (gs.map (·.id)).Nodup →
      (aggregateWith π l gs).Pairwise (fun a b => ∀ i, i ∈ a.ids → i ∉ b.ids) := by
  intro hnd
  have h : ((aggregateWith π l gs).flatMap (·.ids)).Nodup :=
    (agg_ids_perm hπ l gs).nodup_iff.2 hnd
  have h' := (List.pairwise_flatMap.1 h).2
  refine h'.imp ?_
  intro a b hab i hia hib
  exact hab i hia i hib rfl

theorem agg_first_iff {π : Oracle} (hπ : ValidOracle π) (l : Lvl) (gs : List Goroutine) :
    (gs.map (·.id)).Nodup → ∀ b ∈ aggregateWith π l gs,
      (b.first = true ↔ ∃ g ∈ gs, g.first = true ∧ g.id ∈ b.ids) := by
  intro hnd b hb
  obtain ⟨k, hk, rfl⟩ := (mem_aggregateWith hπ l gs b).1 hb
  obtain ⟨ms, hsub, hf⟩ := bucketLoop_filed hπ l gs k hk
  -- the flag is the disjunction over the members, and the members are the goroutines listed
  simp only [Bkt.toBucket, mem_sortNat, hf.first, List.any_eq_true]
  constructor
  · rintro ⟨g, hg, hgf⟩
    exact ⟨g, ((hf.mem_iff hsub hnd).1 hg).1, hgf, ((hf.mem_iff hsub hnd).1 hg).2⟩
  · rintro ⟨g, hg, hgf, hi⟩
    exact ⟨g, (hf.mem_iff hsub hnd).2 ⟨hg, hi⟩, hgf⟩

theorem agg_one_first {π : Oracle} (hπ : ValidOracle π) (l : Lvl) (gs : List Goroutine) :
    (gs.map (·.id)).Nodup →
    (∃ g₀ ∈ gs, g₀.first = true ∧ ∀ g ∈ gs, g.first = true → g = g₀) →
    ∃ b₀ ∈ aggregateWith π l gs, b₀.first = true ∧
      ∀ b ∈ aggregateWith π l gs, b.first = true → b.ids = b₀.ids := by
  rintro hnd ⟨g₀, hg₀, hf₀, huniq⟩
  -- the bucket holding g₀
  have hin : g₀.id ∈ (aggregateWith π l gs).flatMap (·.ids) :=
    (agg_ids_perm hπ l gs).mem_iff.2 (List.mem_map_of_mem (f := (·.id)) hg₀)
  obtain ⟨b₀, hb₀, hi₀⟩ := List.mem_flatMap.1 hin
  refine ⟨b₀, hb₀, (agg_first_iff hπ l gs hnd b₀ hb₀).2 ⟨g₀, hg₀, hf₀, hi₀⟩, ?_⟩
  intro b hb hbf
  obtain ⟨g, hg, hgf, hgi⟩ := (agg_first_iff hπ l gs hnd b hb).1 hbf
  have e := huniq g hg hgf
  subst e
  exact congrArg Bucket.ids (eq_of_pairwise (agg_ids_disjoint hπ l gs hnd) hb hb₀
    (fun h => h _ hgi hi₀) (fun h => h _ hi₀ hgi))

/-! ### non-vacuity -/

section Example

/-- a one-frame signature `main.f(arg)` -/
private def sigOf (v : Nat) (ptr : Bool) (line : Nat) : Signature :=
  { state := b!"chan receive",
    stack := { calls := [{ fn := { complete := b!"main.f" },
                           args := { values := [.scalar [] v ptr false false] },
                           remoteSrcPath := b!"/src/main.go", line := line }] } }

/-- goroutines 1 and 3 differ only in a pointer value; goroutine 2 sits on another line;
goroutine 7 repeats goroutine 1 -/
private def exGs : List Goroutine :=
  [ { sig := sigOf 0xc000012340 true 10, id := 1, first := true },
    { sig := sigOf 0xc000012340 true 12, id := 2 },
    { sig := sigOf 0xc000099990 true 10, id := 3 },
    { sig := sigOf 0xc000012340 true 10, id := 7 } ]

example : (exGs.map (·.id)).Nodup := by decide

private theorem exGs_one_first :
    ∃ g₀ ∈ exGs, g₀.first = true ∧ ∀ g ∈ exGs, g.first = true → g = g₀ := by
  refine ⟨_, List.mem_cons_self, rfl, ?_⟩
  intro g hg hf
  simp only [exGs, List.mem_cons, List.not_mem_nil, or_false] at hg
  rcases hg with rfl | rfl | rfl | rfl
  · rfl
  · exact absurd hf (by decide)
  · exact absurd hf (by decide)
  · exact absurd hf (by decide)

/-- all hypotheses of the C04 theorems hold on the example -/
example : ∃ b₀ ∈ aggregate .anyPointer exGs, b₀.first = true ∧
    ∀ b ∈ aggregate .anyPointer exGs, b.first = true → b.ids = b₀.ids :=
  agg_one_first validOracle_id _ _ (by decide) exGs_one_first

/-- at `.anyPointer` the pointer pair shares a bucket (3 goroutines), flagged first -/
example : (bucketLoop idOracle .anyPointer 0 [] exGs).map (fun b => (b.ids, b.first)) =
    [([1, 3, 7], true), ([2], false)] := rfl

/-- at `.exactLines` the pointer pair is split -/
example : (bucketLoop idOracle .exactLines 0 [] exGs).map (fun b => (b.ids, b.first)) =
    [([1, 7], true), ([2], false), ([3], false)] := rfl

/-- a different iteration order yields the same partition -/
example : (bucketLoop revOracle .anyPointer 0 [] exGs).map (fun b => (b.ids, b.first)) =
    [([1, 3, 7], true), ([2], false)] := rfl

/-- the same on the sorted output of `aggregate` (membership; `decide` does not
reduce through the well-founded `List.mergeSort`) -/
example : ∃ b ∈ aggregate .anyPointer exGs, b.ids = [1, 3, 7] ∧ b.first = true := by
  have h : ∃ k ∈ bucketLoop idOracle .anyPointer 0 [] exGs,
      k.toBucket.ids = [1, 3, 7] ∧ k.toBucket.first = true := by decide
  obtain ⟨k, hk, h1, h2⟩ := h
  exact ⟨k.toBucket, (mem_aggregateWith validOracle_id _ _ _).2 ⟨k, hk, rfl⟩, h1, h2⟩

end Example

end PP

#print axioms PP.agg_ids_perm
#print axioms PP.agg_ids_sorted_nonempty
#print axioms PP.agg_ids_disjoint
#print axioms PP.agg_first_iff
#print axioms PP.agg_one_first
