import PP.Lemmas.AugmentGlueLemmas
import PP.Lemmas.LineOffsetsLemmas
/-
C19 ("harmless" half), the glue around `augmentCall`:
  Source analysis never changes the raw argument values, and sources that do
  not match the binary (missing, unparsable, shifted lines, different arity)
  only leave arguments unaugmented - never a crash or a changed frame.

Model: `PP.AugGlue` (PP/Model/AugmentGlue.lean) — `Snapshot.augment`,
`cacheAST.augmentGoroutine`, `cacheAST.loadFile`, `lineToByteOffsets`,
`parsedFile.getFuncAST`; the decoder `augmentCall` is the one of C19.

Oracles, quantified over in every theorem: `os.ReadFile` (`Oracle.readFile`),
`parser.ParseFile` (`Oracle.parse`), the walk of `getFuncAST` composed with
`extractArgumentsType` (`Parsed.funcAt`) and `strconv.FormatFloat`
(`FloatFmt`).  The first, the second and the last are trusted: the harness
feeds the model with their real answers and compares the outcome on every run.
`Parsed.funcAt` is not: `FA.glue_getFuncAST` (Props/C19d.lean) shows that the
modelled walk followed by the modelled type extraction is an instance of it,
for every tree.

The general statements are about the loop `augmentGs` from ANY cache and
pending error; the `…_snapshot` corollaries are about `augment` itself, which
starts from the empty cache.
-/
namespace PP.AugGlue
open PP PP.Bytes PP.Aug

/-! ### 1. nothing but `Processed` of the stack calls changes -/

/-- **Never a changed frame.**  For every oracle, cache and list of
goroutines, the goroutines after the loop of `augment` (`augmentGs`, started
from any cache and pending error) differ from the ones before only in
`Args.Processed` of the calls of `Stack.Calls`. -/
theorem augment_values_unchanged (ff : FloatFmt) (o : Oracle) (c : Cache) (err : Option ErrKind)
    (gs : List Goroutine) (r : Cache × List Goroutine × Option ErrKind)
    (h : augmentGs ff o c err gs = .ok r) :
    r.2.1.map eraseProcessed = gs.map eraseProcessed :=
  (foldE_inv _ (fun _ => True) _ (fun c g s _ hs => ⟨trivial, augmentGoroutine_erase ff o c g s hs⟩)
    c err gs r trivial (augmentGs_eq ff o c err gs ▸ h)).2.map_eq

theorem augment_ok (ff : FloatFmt) (o : Oracle) (gs gs' : List Goroutine) (e : Option ErrKind)
    (h : augment ff o gs = .ok (gs', e)) : ∃ c, augmentGs ff o [] none gs = .ok (c, gs', e) := by
  unfold augment at h
  cases hr : augmentGs ff o [] none gs with
  | error x => rw [hr] at h; cases h
  | ok r => rw [hr] at h; cases h; exact ⟨r.1, rfl⟩

theorem augment_values_unchanged_snapshot (ff : FloatFmt) (o : Oracle) (gs gs' : List Goroutine)
    (e : Option ErrKind) (h : augment ff o gs = .ok (gs', e)) :
    gs'.map eraseProcessed = gs.map eraseProcessed := by
  obtain ⟨c, hr⟩ := augment_ok ff o gs gs' e h
  exact augment_values_unchanged ff o [] none gs _ hr

/-- what `eraseProcessed` keeps of a goroutine: everything but the calls of
`Stack.Calls`, which are kept up to `eraseCall` -/
theorem eraseProcessed_keeps (g g' : Goroutine) (h : eraseProcessed g' = eraseProcessed g) :
    g'.id = g.id ∧ g'.first = g.first ∧ g'.raceWrite = g.raceWrite ∧ g'.raceAddr = g.raceAddr ∧
    g'.sig.state = g.sig.state ∧ g'.sig.createdBy = g.sig.createdBy ∧ g'.sig.sleepMin = g.sig.sleepMin ∧
    g'.sig.sleepMax = g.sig.sleepMax ∧ g'.sig.locked = g.sig.locked ∧
    g'.sig.stack.elided = g.sig.stack.elided ∧
    g'.sig.stack.calls.map eraseCall = g.sig.stack.calls.map eraseCall := by
  simp only [eraseProcessed, Goroutine.setCalls] at h
  refine ⟨congrArg (·.id) h, congrArg (·.first) h, congrArg (·.raceWrite) h, congrArg (·.raceAddr) h,
    congrArg (·.sig.state) h, congrArg (·.sig.createdBy) h, congrArg (·.sig.sleepMin) h,
    congrArg (·.sig.sleepMax) h, congrArg (·.sig.locked) h, congrArg (·.sig.stack.elided) h,
    congrArg (·.sig.stack.calls) h⟩

/-- what `eraseCall` keeps of a frame: everything but `Args.Processed` -/
theorem eraseCall_keeps (x x' : Call) (h : eraseCall x' = eraseCall x) :
    x'.fn = x.fn ∧ x'.args.values = x.args.values ∧ x'.args.elided = x.args.elided ∧
    x'.remoteSrcPath = x.remoteSrcPath ∧ x'.line = x.line ∧ x'.srcName = x.srcName ∧ x'.dirSrc = x.dirSrc ∧
    x'.localSrcPath = x.localSrcPath ∧ x'.relSrcPath = x.relSrcPath ∧ x'.importPath = x.importPath ∧
    x'.location = x.location := by
  simp only [eraseCall] at h
  refine ⟨congrArg (·.fn) h, congrArg (·.args.values) h, congrArg (·.args.elided) h,
    congrArg (·.remoteSrcPath) h, congrArg (·.line) h, congrArg (·.srcName) h, congrArg (·.dirSrc) h,
    congrArg (·.localSrcPath) h, congrArg (·.relSrcPath) h, congrArg (·.importPath) h,
    congrArg (·.location) h⟩

/-! ### 2. totality -/

/-- **Never a crash.**  Hypothesis on the parser oracle, stated explicitly:
`funcAt` (= `extractArgumentsType`) never answers "no type, ellipsis"
(`OracleOk`; for the modelled `extractArgumentsType` this is
`Spec.flag_needs_type`, Props/C19c.lean).  Then, for
every `readFile`, every `parse`, every snapshot and every cache that only
holds such entries, `augment` returns: the only panic of `augmentCall`
(`PP.Spec.mismatch_harmless`) is out of reach, and the glue has none. -/
theorem augment_total (ff : FloatFmt) (o : Oracle) (ho : OracleOk o) (c : Cache) (hc : CacheOk c)
    (err : Option ErrKind) (gs : List Goroutine) :
    ∃ r, augmentGs ff o c err gs = .ok r := by
  obtain ⟨r, hr, _⟩ := foldE_total _ CacheOk (augmentGoroutine_total ff o ho) c err gs hc
  exact ⟨r, by rw [augmentGs_eq, hr]⟩

theorem augment_total_snapshot (ff : FloatFmt) (o : Oracle)
    (ho : ∀ src p, o.parse src = some p → ∀ name line, p.funcAt name line ≠ some ([], true))
    (gs : List Goroutine) : ∃ gs' e, augment ff o gs = .ok (gs', e) := by
  obtain ⟨r, hr⟩ := augment_total ff o ho [] cacheOk_nil none gs
  exact ⟨r.2.1, r.2.2, by simp only [augment, hr]⟩

/-! ### 3. mismatching sources leave the call as it was -/

/-! The five ways sources can fail to describe a call: the file is missing, is
not a `.go` file, does not parse, is shorter than the line, or has no function
at the line. -/

theorem mismatch_of_missing (o : Oracle) (x : Call) (h : o.readFile x.localSrcPath = none) : Mismatch o x := by
  intro src p _ hr _; rw [h] at hr; cases hr

theorem mismatch_of_nonGo (o : Oracle) (x : Call) (h : hasSuffix x.localSrcPath b!".go" = false) :
    Mismatch o x := by
  intro src p hs _ _; rw [h] at hs; cases hs

theorem mismatch_of_unparsable (o : Oracle) (x : Call) (src : Bytes)
    (hr : o.readFile x.localSrcPath = some src) (hp : o.parse src = none) : Mismatch o x := by
  intro src' p _ hr' hp'
  rw [hr] at hr'; cases hr'
  rw [hp] at hp'; cases hp'

theorem mismatch_of_line_over (o : Oracle) (x : Call) (src : Bytes)
    (hr : o.readFile x.localSrcPath = some src) (hl : (lineToByteOffsets src).length ≤ x.line) :
    Mismatch o x := by
  intro src' p _ hr' _
  rw [hr] at hr'; cases hr'
  exact .inl hl

theorem mismatch_of_no_func (o : Oracle) (x : Call) (src : Bytes) (p : Parsed)
    (hr : o.readFile x.localSrcPath = some src) (hp : o.parse src = some p)
    (hf : p.funcAt x.fn.name x.line = none) : Mismatch o x := by
  intro src' p' _ hr' hp'
  rw [hr] at hr'; cases hr'
  rw [hp] at hp'; cases hp'
  exact .inr hf

/-- **Only unaugmented.**  From any cache that agrees with the oracles
(`CacheSound`; the empty cache does), the goroutines after `augment` match
the ones before position by position, and every call whose sources do not
describe it (`Mismatch`: not a `.go` name, unreadable, unparsable, shorter
than the line, no function around the line) is returned identical — in
particular with the `Processed` it had (empty for scanner output). -/
theorem mismatch_leaves_unaugmented (ff : FloatFmt) (o : Oracle) (c : Cache) (hc : CacheSound o c)
    (err : Option ErrKind) (gs : List Goroutine) (r : Cache × List Goroutine × Option ErrKind)
    (h : augmentGs ff o c err gs = .ok r) :
    Forall2 (fun g g' => Forall2 (fun x x' => Mismatch o x → x' = x) g.sig.stack.calls g'.sig.stack.calls)
      gs r.2.1 :=
  (augmentGs_inv ff o (CacheSound o) (fun x x' => Mismatch o x → x' = x)
    (fun c call s hi hs => augmentStep_mismatch ff o c call s hi hs) c err gs r hc h).2

/-- the same by positions, for `augment` -/
theorem mismatch_leaves_unaugmented_snapshot (ff : FloatFmt) (o : Oracle) (gs gs' : List Goroutine)
    (e : Option ErrKind) (h : augment ff o gs = .ok (gs', e))
    (i j : Nat) (g g' : Goroutine) (x x' : Call)
    (hg : gs[i]? = some g) (hg' : gs'[i]? = some g')
    (hx : g.sig.stack.calls[j]? = some x) (hx' : g'.sig.stack.calls[j]? = some x')
    (hm : Mismatch o x) : x' = x := by
  obtain ⟨c, hr⟩ := augment_ok ff o gs gs' e h
  have hf := mismatch_leaves_unaugmented ff o [] (cacheSound_nil o) none gs _ hr
  exact (hf.get i g g' hg hg').get j x x' hx hx' hm

/-- `augment` keeps the number of goroutines and the number of frames of each -/
theorem augment_shape_snapshot (ff : FloatFmt) (o : Oracle) (gs gs' : List Goroutine)
    (e : Option ErrKind) (h : augment ff o gs = .ok (gs', e)) :
    gs'.length = gs.length ∧
    ∀ (i : Nat) (g g' : Goroutine), gs[i]? = some g → gs'[i]? = some g' → g'.sig.stack.calls.length = g.sig.stack.calls.length := by
  obtain ⟨c, hr⟩ := augment_ok ff o gs gs' e h
  have hf := mismatch_leaves_unaugmented ff o [] (cacheSound_nil o) none gs _ hr
  exact ⟨hf.length_eq.symm, fun i g g' hg hg' => (hf.get i g g' hg hg').length_eq.symm⟩

/-! ### 4. every file is loaded at most once -/

/-- **Load once.**  `loadFile` on a cache that already has the key — bound to
a parsed file or to the `nil` marker of an attempt — returns the cache
unchanged and no error, whatever the oracles: nothing is read or parsed. -/
theorem load_once (o : Oracle) (c : Cache) (k : Bytes) (h : c.has k = true) :
    loadFile o c k = (c, none) := by
  rcases loadFile_cases o c k with ⟨_, h1⟩ | ⟨h0, _⟩
  · exact h1
  · rw [h] at h0; cases h0

/-- … and after `loadFile` the key is present, also when loading failed (the
`c.parsed[fileName] = nil` written first) -/
theorem load_once_marks (o : Oracle) (c : Cache) (k : Bytes) (hk : k ≠ []) :
    (loadFile o c k).1.has k = true := by
  rcases loadFile_cases o c k with ⟨h0 | h0, h1⟩ | ⟨_, _, ⟨e, h1⟩ | ⟨src, p, _, _, _, h1⟩⟩
  · exact absurd h0 hk
  · rw [h1]; exact h0
  · rw [h1]; simp [Cache.has_insert]
  · rw [h1]; simp [Cache.has_insert]

/-- a failed load binds the key to the `nil` marker and nothing else -/
theorem load_once_failure_marker (o : Oracle) (c : Cache) (k : Bytes) (e : ErrKind)
    (h : (loadFile o c k).2 = some e) : (loadFile o c k).1 = c.insert k none := by
  rcases loadFile_cases o c k with ⟨_, h1⟩ | ⟨_, _, ⟨e', h1⟩ | ⟨src, p, _, _, _, h1⟩⟩
  · rw [h1] at h; cases h
  · rw [h1]
  · rw [h1] at h; cases h

/-- … a present key stays present to the end of the run … -/
theorem load_once_persistent (ff : FloatFmt) (o : Oracle) (c : Cache) (err : Option ErrKind)
    (gs : List Goroutine) (r : Cache × List Goroutine × Option ErrKind)
    (h : augmentGs ff o c err gs = .ok r) (k : Bytes) (hk : c.has k = true) : r.1.has k = true :=
  (augmentGs_inv ff o (fun c => c.has k = true) (fun _ _ => True)
    (fun c call s hi hs => ⟨augmentStep_has_mono ff o k c call s hi hs, trivial⟩) c err gs r hk h).1

/-- … and the whole run does not depend on what `readFile` would answer for
the keys already present: two oracles that differ only there give the same
result (goroutines, error, cache, and panic or not). -/
theorem load_once_never_read_again (ff : FloatFmt) (o o' : Oracle) (c : Cache) (err : Option ErrKind)
    (gs : List Goroutine) (hr : ∀ k, c.has k = false → o.readFile k = o'.readFile k)
    (hp : o.parse = o'.parse) :
    augmentGs ff o c err gs = augmentGs ff o' c err gs := by
  rw [augmentGs_eq, augmentGs_eq]
  exact foldE_congr _ _ (AgreeOff o o') (augmentGoroutine_congr ff o o' hp) c err gs hr

/-! ### 5. calls without arguments -/

/-- **Skipped.**  A call with no argument leaves the cache as it is — no
file is looked up or loaded on its behalf — and is returned as it was, without
touching the pending error. -/
theorem calls_without_args_skipped (ff : FloatFmt) (o : Oracle) (c : Cache) (x : Call)
    (h : x.args.values = []) : augmentStep ff o c x = .ok (c, x, none) := by
  simp [augmentStep, h]

theorem augmentCalls_noargs (ff : FloatFmt) (o : Oracle) (c : Cache) (err : Option ErrKind) (calls : List Call)
    (h : ∀ call ∈ calls, call.args.values = []) : augmentCalls ff o c err calls = .ok (c, calls, err) := by
  induction calls generalizing err with
  | nil => rfl
  | cons call rest ih =>
    have h1 := calls_without_args_skipped ff o c call (h call (by simp))
    have h2 := ih err (fun x hx => h x (by simp [hx]))
    simp only [augmentCalls, h1, lastErr, h2]

/-- a goroutine whose calls all have no argument: same cache, same goroutine,
no error, for every oracle -/
theorem calls_without_args_skipped_goroutine (ff : FloatFmt) (o : Oracle) (c : Cache) (g : Goroutine)
    (h : ∀ x ∈ g.sig.stack.calls, x.args.values = []) :
    augmentGoroutine ff o c g = .ok (c, g, none) := by
  simp only [augmentGoroutine, augmentCalls_noargs ff o c none _ h, Goroutine.setCalls]

/-! ### 6. lineToByteOffsets -/

/-- **Line table.**  `[0, 0]` followed by one entry per `'\n'`: the length is
2 + the number of newlines (also when the text does not end with a newline:
the final `break`), and entry `k ≥ 2` is the offset `e` just after the
`(k-1)`-th newline: `src[e-1] = '\n'` and `src[:e]` holds `k-1` newlines. -/
theorem lineToByteOffsets_spec (src : Bytes) :
    (lineToByteOffsets src).length = 2 + src.count 10 ∧
    (lineToByteOffsets src)[0]? = some 0 ∧ (lineToByteOffsets src)[1]? = some 0 ∧
    ∀ k e, 2 ≤ k → (lineToByteOffsets src)[k]? = some e →
      1 ≤ e ∧ e ≤ src.length ∧ src[e - 1]? = some 10 ∧ (src.take e).count 10 = k - 1 := by
  rw [lineToByteOffsets_eq]
  refine ⟨by simp [newlineEnds_length]; omega, rfl, rfl, ?_⟩
  intro k e hk he
  obtain ⟨i, rfl⟩ : ∃ i, k = i + 2 := ⟨k - 2, by omega⟩
  simp only [List.getElem?_cons_succ] at he
  obtain ⟨d, rfl, h2, h3, h4⟩ := newlineEnds_get src 0 i e he
  rw [Nat.zero_add]
  exact ⟨Nat.succ_pos d, h2, h3, h4⟩

/-- the structural description: the offsets after each newline, in order -/
theorem lineToByteOffsets_eq_newlineEnds (src : Bytes) :
    lineToByteOffsets src = 0 :: 0 :: newlineEnds src 0 :=
  lineToByteOffsets_eq src

/-- the check of `getFuncAST`: line `l` is refused iff `l ≥ 2 + #newlines` -/
theorem getFuncAST_line_over (p : Parsed) (src : Bytes) (f : Bytes) (l : Nat) :
    (ParsedFile.getFuncAST ⟨lineToByteOffsets src, p⟩ f l = .error .lineOver) ↔ 2 + src.count 10 ≤ l := by
  unfold ParsedFile.getFuncAST
  simp only [(lineToByteOffsets_spec src).1]
  by_cases h : 2 + src.count 10 ≤ l
  · simp [h]
  · simp [h]

section examples
variable (ff : FloatFmt)

example : lineToByteOffsets b!"" = [0, 0] := by decide
example : lineToByteOffsets b!"a" = [0, 0] := by decide
example : lineToByteOffsets b!"a\n" = [0, 0, 2] := by decide
example : lineToByteOffsets b!"a\nbc" = [0, 0, 2] := by decide
example : lineToByteOffsets b!"a\r\nb\n\n" = [0, 0, 3, 5, 6] := by decide

/-- what `augment` does on it: the two calls inside `F` are decoded, all the
others keep their empty `Processed`; the returned error is the last one that
occurred, the refusal of the `.c` file (the second visit of `/s/gone.go` and
the empty name are silent). -/
example : (match augment ff exOracle exGs with
    | .ok (gs', e) => some (gs'.map (fun g => g.sig.stack.calls.map (·.args.processed)), e)
    | .error _ => none) =
    some ([[[b!"-7", b!"string(0xc000012345, len=5)"], [], [], [], []],
           [[], [], [b!"-7", b!"string(0xc000012345, len=5)"], [], []]], some .nonGo) := by
  rfl

/-- `/s/gone.go` is asked for once: the second time the key is present -/
example : (loadFile exOracle [] b!"/s/gone.go").2 = some .read ∧
    loadFile exOracle (loadFile exOracle [] b!"/s/gone.go").1 b!"/s/gone.go"
      = ((loadFile exOracle [] b!"/s/gone.go").1, none) := by
  refine ⟨by rfl, ?_⟩
  exact load_once _ _ _ (load_once_marks _ _ _ (by decide))

/-- the hypotheses of the theorems are satisfiable -/
example : OracleOk exOracle := by
  intro src p hp n l
  simp only [exOracle] at hp
  by_cases h : src = exSrc
  · simp only [h, if_true, Option.some.injEq] at hp
    rw [← hp]
    by_cases hl : 4 ≤ l ∧ l ≤ 5 <;> simp [hl]
  · simp [h] at hp

example : Mismatch exOracle (exCall b!"/s/gone.go" 4) := mismatch_of_missing _ _ (by rfl)
example : Mismatch exOracle (exCall b!"/s/c.c" 4) := mismatch_of_nonGo _ _ (by decide)
example : Mismatch exOracle (exCall b!"/s/bad.go" 4) := mismatch_of_unparsable _ _ b!"package" (by rfl) (by rfl)
example : Mismatch exOracle (exCall b!"/s/a.go" 7) := mismatch_of_line_over _ _ exSrc (by rfl) (by decide)
/-- … and not vacuous: the call that is augmented is not a mismatch -/
example : ¬ Mismatch exOracle (exCall b!"/s/a.go" 4) := by
  intro h
  have := h exSrc { funcAt := fun _ l => if 4 ≤ l ∧ l ≤ 5 then some ([b!"int", b!"string"], false) else none }
    (by decide) (by rfl) (by rfl)
  rcases this with h1 | h1
  · revert h1; decide
  · revert h1; decide

end examples

end PP.AugGlue

#print axioms PP.AugGlue.augment_values_unchanged
#print axioms PP.AugGlue.augment_values_unchanged_snapshot
#print axioms PP.AugGlue.eraseProcessed_keeps
#print axioms PP.AugGlue.eraseCall_keeps
#print axioms PP.AugGlue.augment_total
#print axioms PP.AugGlue.augment_total_snapshot
#print axioms PP.AugGlue.mismatch_of_missing
#print axioms PP.AugGlue.mismatch_of_nonGo
#print axioms PP.AugGlue.mismatch_of_unparsable
#print axioms PP.AugGlue.mismatch_of_line_over
#print axioms PP.AugGlue.mismatch_of_no_func
#print axioms PP.AugGlue.mismatch_leaves_unaugmented
#print axioms PP.AugGlue.mismatch_leaves_unaugmented_snapshot
#print axioms PP.AugGlue.augment_shape_snapshot
#print axioms PP.AugGlue.load_once
#print axioms PP.AugGlue.load_once_marks
#print axioms PP.AugGlue.load_once_failure_marker
#print axioms PP.AugGlue.load_once_persistent
#print axioms PP.AugGlue.load_once_never_read_again
#print axioms PP.AugGlue.calls_without_args_skipped
#print axioms PP.AugGlue.calls_without_args_skipped_goroutine
#print axioms PP.AugGlue.lineToByteOffsets_spec
#print axioms PP.AugGlue.lineToByteOffsets_eq_newlineEnds
#print axioms PP.AugGlue.getFuncAST_line_over
