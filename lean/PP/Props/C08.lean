import PP.Lemmas.RaceRoundTrip
/-
C08 — race report parse fidelity.

For every race report that the model of tsan's Go report printer
(`PP.Spec.printRace`, tied byte for byte to the Go generator `RaceSpec.Print` by
the harness property `SPEC`) can emit from a well-formed description, the
scanner returns exactly the goroutines the report describes
(`PP.Spec.expectedRace`, tied to `RaceSpec.Expected`).

Well-formedness (`PP.Spec.raceWF`, a decidable `Bool`, see PP/Spec/RaceWF.lean):
* at least one operation and at least one creation section (a report without a
  creation section ends in an error: the closing separator is read in state
  `gotRaceOperationFile`, which only accepts a blank line or a function line);
* every operation: id `< 10^18` (atou accepts 18 digits), address `< 2^64`, at
  least one frame;
* every creation section: its id is the id of some operation (otherwise the
  scanner reports `raceUnknownGoroutine`, see `unknown_creator_is_error`), at
  least one frame;
* the operation ids are pairwise distinct (a creation section updates only the
  FIRST goroutine with that id, see `creator_lookup_sound`, while the
  expectation applies it to every operation with that id);
* every frame: `frameWF` of C01 with the file line indented by six spaces (so
  the file does not start with a space) and `inlined = false` (the race printer
  always prints the arguments).  `fp` annotations and offsets are arbitrary: the
  race printer ignores `fp`, and so does the expectation.
-/
namespace PP.Spec
open PP Bytes

/-- **C08 round trip**, LF and CRLF, any number of operations and of creation sections (in any
order, several sections may name the same goroutine): the read-scan-forward loop over the lines
of the printed report consumes every line, forwards nothing, stops in state `done` right after
the closing separator without touching the next item, reports no error and no panic, and has
built exactly the described goroutines. -/
theorem race_roundtrip (crlf : Bool) (r : RaceSpec) (hwf : raceWF r = true) :
    let o := scanL {} [] [] (specLines (printRace crlf r) .eof)
    o.err = none ∧ o.fwd = [] ∧ o.rest = [([], some .eof)] ∧ o.s.st = .done ∧ o.s.gs = expectedRace r ∧
      o.panicked = none ∧ o.consumed = (raceLines r).map (· ++ eolOf crlf) := by
  obtain ⟨gi, h⟩ := race_roundtrip_aux crlf r hwf
  rw [h]
  exact ⟨rfl, rfl, rfl, rfl, rfl, rfl, rfl⟩

/-- the same through `ScanSnapshot`'s line-level model: the snapshot is the description, nothing
is forwarded, the suffix handed back is empty (non-nil: the state is `done`), nothing is left
unread, no error -/
theorem race_roundtrip_snapshot (crlf : Bool) (r : RaceSpec) (hwf : raceWF r = true) :
    let x := scanSnapshotL false (printRace crlf r) .eof
    x.snap = some (expectedRace r) ∧ x.fwd = [] ∧ x.suffix = some [] ∧ x.unread = [] ∧
      x.err = none ∧ x.panicked = false ∧ x.state = .done := by
  obtain ⟨gi, h⟩ := race_roundtrip_aux crlf r hwf
  have hexp : (expectedRace r).isEmpty = false := by
    have hne := (raceWF_ok r hwf).opsNe
    unfold expectedRace
    cases hr : r.ops with
    | nil => exact absurd hr hne
    | cons op ops => rfl
  simp only [scanSnapshotL, h, hexp]
  simp [itemsBytes]

/-- only the first goroutine of the described snapshot is marked `first` -/
theorem race_first_only_first (r : RaceSpec) :
    (expectedRace r).map (·.first) = (List.replicate r.ops.length false).set 0 true := by
  unfold expectedRace
  cases r.ops with
  | nil => rfl
  | cons g t =>
    simp only [List.map_cons, List.map_map, List.length_cons, List.replicate_succ, List.set_cons_zero]
    congr 1
    exact List.map_const' (l := t) (b := false)

/-- (for EVERY such line and every scanner record `s` in one of the two states, not only printed
reports) a `Goroutine N (…) created at:` line read in `betweenRaceOperations` /
`betweenRaceGoroutines` modifies only the FIRST goroutine whose id is `N`: its state becomes the
one on the line, `gi` points at it, nothing else changes -/
theorem creator_lookup_sound (s : S) (l : Line) (id : Nat) (stt : Bytes)
    (pre : List Goroutine) (g : Goroutine) (post : List Goroutine)
    (hst : s.st = .betweenRaceOperations ∨ s.st = .betweenRaceGoroutines)
    (heol : l.hasEOL = true) (hind : l.indentOK = true)
    (hprev : s.st = .betweenRaceOperations → l.racePrev = none)
    (hg : l.raceGor = some (some id, stt))
    (hgs : s.gs = pre ++ g :: post) (hpre : ∀ x ∈ pre, x.id ≠ id) (hid : g.id = id) :
    scan s l = .ok ({ s with st := .gotRaceGoroutineHeader,
                             gs := pre ++ { g with sig := { g.sig with state := stt } } :: post,
                             gi := pre.length }, true, none) :=
  _root_.PP.creator_lookup_sound s l id stt pre g post hst heol hind hprev hg hgs hpre hid

/-- (for EVERY such line and every `s` in `betweenRaceOperations` / `betweenRaceGoroutines`) a
'created at' section naming a goroutine that took part in no operation is an error, never a
misattribution: the state is unchanged and the line is not consumed -/
theorem unknown_creator_is_error (s : S) (l : Line) (id : Nat) (stt : Bytes)
    (hst : s.st = .betweenRaceOperations ∨ s.st = .betweenRaceGoroutines)
    (heol : l.hasEOL = true) (hind : l.indentOK = true)
    (hprev : s.st = .betweenRaceOperations → l.racePrev = none)
    (hg : l.raceGor = some (some id, stt))
    (hno : ∀ g ∈ s.gs, g.id ≠ id) :
    scan s l = .ok (s, false, some .raceUnknownGoroutine) :=
  _root_.PP.unknown_creator_is_error s l id stt hst heol hind hprev hg hno

/-- (for EVERY line, and every `s` in one of these states) in the three states of a creation
section every successful step leaves all goroutines other than index `s.gi` untouched and keeps
`gi` -/
theorem race_goroutine_steps_only_gi (s s' : S) (l : Line) (b : Bool) (e : Option Err)
    (hst : s.st = .gotRaceGoroutineHeader ∨ s.st = .gotRaceGoroutineFunc ∨ s.st = .gotRaceGoroutineFile)
    (h : scan s l = .ok (s', b, e)) :
    s'.gi = s.gi ∧ s'.gs.length = s.gs.length ∧ ∀ j, j ≠ s.gi → s'.gs[j]? = s.gs[j]? :=
  _root_.PP.race_goroutine_steps_only_gi s s' l b e hst h

/-! ### non-vacuity -/

/-- `main.foo(0x1)` at `/a/b.go:12 +0x1f` -/
def exFrame1 : FrameSpec :=
  { pkg := b!"main", name := b!"foo", args := [.val 1 false], file := b!"/a/b.go", line := 12, off := some 31 }
/-- `main.main()` at `/a/main.go:5 +0x2` -/
def exFrame2 : FrameSpec := { pkg := b!"main", name := b!"main", file := b!"/a/main.go", line := 5, off := some 2 }

/-- two operations; the creation sections come in the opposite order, one goroutine has finished -/
def exRace : RaceSpec :=
  { ops := [{ write := true, addr := 0xc000012345, id := 7, frames := [exFrame1, exFrame2] },
            { write := false, addr := 0xc000012345, id := 8, frames := [exFrame1] }]
    gors := [{ id := 8, finished := true, frames := [exFrame2] },
             { id := 7, finished := false, frames := [exFrame2, exFrame1] }] }

example : raceWF exRace = true := by decide +kernel

/-- the lines of the example -/
example : raceLines exRace =
   [b!"==================", b!"WARNING: DATA RACE", b!"Write at 0x00c000012345 by goroutine 7:",
    b!"  main.foo(0x1)", b!"      /a/b.go:12 +0x1f", b!"  main.main()", b!"      /a/main.go:5 +0x2",
    b!"", b!"Previous read at 0x00c000012345 by goroutine 8:", b!"  main.foo(0x1)", b!"      /a/b.go:12 +0x1f",
    b!"", b!"Goroutine 8 (finished) created at:", b!"  main.main()", b!"      /a/main.go:5 +0x2",
    b!"", b!"Goroutine 7 (running) created at:", b!"  main.main()", b!"      /a/main.go:5 +0x2",
    b!"  main.foo(0x1)", b!"      /a/b.go:12 +0x1f", b!"=================="] := by
  decide +kernel

-- the literal text of the example
set_option maxRecDepth 4096 in
example : printRace false exRace =
    b!"==================\nWARNING: DATA RACE\nWrite at 0x00c000012345 by goroutine 7:\n  main.foo(0x1)\n      /a/b.go:12 +0x1f\n  main.main()\n      /a/main.go:5 +0x2\n\nPrevious read at 0x00c000012345 by goroutine 8:\n  main.foo(0x1)\n      /a/b.go:12 +0x1f\n\nGoroutine 8 (finished) created at:\n  main.main()\n      /a/main.go:5 +0x2\n\nGoroutine 7 (running) created at:\n  main.main()\n      /a/main.go:5 +0x2\n  main.foo(0x1)\n      /a/b.go:12 +0x1f\n==================\n" := by
  decide +kernel

/-- the theorem applies to the example, in both line-ending conventions -/
example (crlf : Bool) :
    (scanL {} [] [] (specLines (printRace crlf exRace) .eof)).s.gs = expectedRace exRace :=
  (race_roundtrip crlf exRace (by decide +kernel)).2.2.2.2.1

/-- the described snapshot of the example: two goroutines, the states the sections give -/
example : (expectedRace exRace).map (fun g => (g.id, g.first, g.raceWrite, g.sig.state, g.sig.createdBy.calls.length)) =
    [(7, true, true, b!"running", 2), (8, false, false, b!"finished", 1)] := by
  rfl

end PP.Spec

#print axioms PP.Spec.race_roundtrip
#print axioms PP.Spec.race_roundtrip_snapshot
#print axioms PP.Spec.race_first_only_first
#print axioms PP.Spec.creator_lookup_sound
#print axioms PP.Spec.unknown_creator_is_error
#print axioms PP.Spec.race_goroutine_steps_only_gi
