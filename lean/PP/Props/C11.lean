import PP.Lemmas.Progress
import PP.Lemmas.Cut
/-
C11 — streaming progress: `ScanSnapshot` used as a live filter.

A `Read` call on the source is the only place where the library can block.  The reader and
the loop are instrumented with a ghost log (`PP/Lemmas/Progress.lean`, namespace `PP.Live`;
the name `PP.Ev` is already taken by the line-level trace of C02):

  inductive Live.Ev
    | read (acc buf got : Bytes) (err : Option RErr)   -- one `Src.read` call, logged with what the
                                                       -- reader holds when it calls: `buf` = unread
                                                       -- buffer, `acc` = glued start of an over-long line
    | scanned (d : Bytes) (processed : Bool)           -- `scan` was called on `d`
    | write (d : Bytes)                                -- `d` was written to the pass-through writer

`fillLoopT`, `fillT`, `readSliceT`, `readLineT`, `scanBT` return the model's result together
with the events in program order.  Projections of a log: `delivered` (bytes returned by the
`Read`s), `scannedBytes` (bytes of the lines handed to `scan`), `writesOf` (written lines),
`unprocOf` (lines for which `scan` returned false).
-/
namespace PP
namespace Live

/-! ### 1. Erasure: the instrumented model is the model -/

theorem fillLoopT_erases (N : Nat) (acc : Bytes) (k : Nat) (r : Rd) :
    (fillLoopT N acc k r).1 = fillLoop N k r := by
  induction k generalizing r with
  | zero => rfl
  | succ k ih =>
    rcases hrd : r.src.read (N - r.buf.length) with ⟨c, e, s'⟩
    simp only [fillLoopT, fillLoop, hrd]
    cases e with
    | some x => rfl
    | none =>
      dsimp only
      split
      · rfl
      · exact ih _

theorem fillT_erases (N retry : Nat) (acc : Bytes) (r : Rd) :
    (fillT N retry acc r).1 = fill N retry r := by
  simp only [fillT, fill]
  split
  · rfl
  · simp [fillLoopT_erases]

theorem readSliceT_erases (N retry : Nat) (acc : Bytes) (fuel : Nat) (r : Rd) :
    (readSliceT N retry acc fuel r).1 = readSlice N retry fuel r := by
  induction fuel generalizing r with
  | zero => rfl
  | succ fuel ih =>
    rw [readSliceT, readSlice]
    cases hc : cutNL r.buf with
    | some v => rfl
    | none =>
      dsimp only
      cases he : r.err with
      | some e => rfl
      | none =>
        dsimp only
        by_cases hN : r.buf.length = N
        · rw [if_pos hN, if_pos hN]
        · rw [if_neg hN, if_neg hN]
          have hf := fillT_erases N retry acc r
          rcases hft : fillT N retry acc r with ⟨res, evs⟩
          rw [hft] at hf
          simp only at hf
          rw [← hf]
          cases res with
          | error p => rfl
          | ok r' => exact ih r'

theorem readLineT_erases (N retry fuel : Nat) (acc : Bytes) (r : Rd) :
    (readLineT N retry fuel acc r).1 = readLine N retry fuel acc r := by
  induction fuel generalizing acc r with
  | zero => rfl
  | succ fuel ih =>
    have hs := readSliceT_erases N retry acc (N + 2) r
    rw [readLineT, readLine]
    rcases hst : readSliceT N retry acc (N + 2) r with ⟨res, evs⟩
    rw [hst] at hs
    simp only at hs
    rw [← hs]
    cases res with
    | none => rfl
    | some x =>
      cases x with
      | error p => rfl
      | ok v =>
        obtain ⟨f, e, r'⟩ := v
        cases e with
        | none => rfl
        | some se =>
          cases se with
          | rerr e => rfl
          | bufferFull => exact ih _ _

theorem scanBT_erases (N retry fuel : Nat) (s : S) (fwd : Bytes) (cons : List Bytes) (rd : Rd) :
    (scanBT N retry fuel s fwd cons rd).1 = scanB N retry fuel s fwd cons rd := by
  induction fuel generalizing s fwd cons rd with
  | zero => rfl
  | succ fuel ih =>
    have hs := readLineT_erases N retry (lineFuel rd) [] rd
    rw [scanBT, scanB]
    by_cases hd : (s.st == .done) = true
    · rw [if_pos hd, if_pos hd]
    · rw [if_neg hd, if_neg hd]
      rcases hst : readLineT N retry (lineFuel rd) [] rd with ⟨res, evs⟩
      rw [hst] at hs
      simp only at hs
      rw [← hs]
      cases res with
      | none => rfl
      | some x =>
        cases x with
        | error p => rfl
        | ok v =>
          obtain ⟨d, e, rd'⟩ := v
          dsimp only
          by_cases hlen : (d.length != 0) = true
          · rw [if_pos hlen, if_pos hlen]
            cases hsc : scanBytes s d with
            | error p => rfl
            | ok v =>
              obtain ⟨s', l, e1⟩ := v
              dsimp only
              by_cases hl : (!l) = true
              · rw [if_pos hl, if_pos hl]
                by_cases hlk : (s'.st != .looking) = true
                · rw [if_pos hlk, if_pos hlk]
                · rw [if_neg hlk, if_neg hlk]
                  by_cases herr : (combineErr e e1).isSome = true
                  · rw [if_pos herr, if_pos herr]
                  · rw [if_neg herr, if_neg herr]; exact ih _ _ _ _
              · rw [if_neg hl, if_neg hl]
                by_cases herr : (combineErr e e1).isSome = true
                · rw [if_pos herr, if_pos herr]
                · rw [if_neg herr, if_neg herr]; exact ih _ _ _ _
          · rw [if_neg hlen, if_neg hlen]
            cases e with
            | some r => rfl
            | none => exact ih _ _ _ _

/-- the log of a whole `ScanSnapshot` call -/
def snapshotLog (N retry : Nat) (src : Src) : Log :=
  (scanBT N retry (src.rest.length + 2) {} [] [] { src := src }).2

/-- `scanSnapshot` is computed from the first component of the instrumented loop -/
theorem scanSnapshot_instrumented (N retry : Nat) (names : Bool) (src : Src) :
    scanSnapshot N retry names src =
      match (scanBT N retry (src.rest.length + 2) {} [] [] { src := src }).1 with
      | none => none
      | some o =>
        let (suffix, rd) := finishSuffix o
        let snap := if o.s.gs.isEmpty then none else some (if names then nameArguments o.s.gs else o.s.gs)
        some { snap := snap, fwd := o.fwd, suffix := suffix, unread := rd.buf ++ rd.src.rest, err := o.err,
               consumed := o.consumed, state := o.s.st, panicked := o.panicked } := by
  rw [scanBT_erases]; rfl

/-- the `write` events are exactly the forwarded output, in order -/
theorem writes_are_forwarded (N retry fuel : Nat) (s : S) (fwd : Bytes) (cons : List Bytes) (rd : Rd)
    (o : OutB) (h : scanB N retry fuel s fwd cons rd = some o) :
    o.fwd = fwd ++ (writesOf (scanBT N retry fuel s fwd cons rd).2).flatten := by
  rw [← scanBT_erases] at h
  exact scanBT_writes N retry fuel s fwd cons rd o h

/-! ### 2. A `Read` is issued only when no complete line is in hand -/

/-- In every `Read` event of the loop, the bytes the reader holds (`buf`, and the glued
beginning `acc` of a line longer than the buffer) contain no newline: the reader asks the
source for more only when it cannot return a line.  From any scanner and reader state. -/
theorem read_only_without_newline (N retry fuel : Nat) (s : S) (fwd : Bytes) (cons : List Bytes)
    (rd : Rd) (acc buf got : Bytes) (err : Option RErr)
    (h : Ev.read acc buf got err ∈ (scanBT N retry fuel s fwd cons rd).2) :
    (10 : UInt8) ∉ buf ∧ (10 : UInt8) ∉ acc := by
  obtain ⟨pre, post, heq⟩ := List.append_of_mem h
  obtain ⟨_, h2, h3, _⟩ := scanBT_spec N retry fuel s fwd cons rd pre _ post heq acc buf got err rfl
  exact ⟨h2, h3⟩

/-- Whenever the source may block (at every `Read` event, `pre` being the events before it):
everything the source has delivered so far has been handed to `scan`, except the bytes `held`
the reader still holds, and these contain no newline — so every complete line delivered so far
has been scanned, and no byte of a following line was needed to release it (zero look-ahead).
Moreover every line `scan` did not process has already been written to the output.
(Loop started with an empty buffer, as `ScanSnapshot` does.) -/
theorem released_before_blocking (N retry fuel : Nat) (s : S) (fwd : Bytes) (cons : List Bytes)
    (rd : Rd) (hbuf : rd.buf = []) (pre post : Log) (acc buf got : Bytes) (err : Option RErr)
    (h : (scanBT N retry fuel s fwd cons rd).2 = pre ++ Ev.read acc buf got err :: post) :
    delivered pre = scannedBytes pre ++ (acc ++ buf) ∧ (10 : UInt8) ∉ acc ++ buf ∧
    writesOf pre = unprocOf pre := by
  obtain ⟨h1, h2, h3, h4⟩ := scanBT_spec N retry fuel s fwd cons rd pre _ post h acc buf got err rfl
  rw [hbuf, List.nil_append] at h1
  refine ⟨by rw [← h1, List.append_assoc], ?_, h4⟩
  simp [h2, h3]

/-- `released_before_blocking` for a whole `ScanSnapshot` call: at every `Read`, what was
delivered is what was scanned plus the newline-free bytes the reader holds, and every line
`scan` did not process has been written. -/
theorem released_before_blocking_snapshot (N retry : Nat) (src : Src) (pre post : Log)
    (acc buf got : Bytes) (err : Option RErr)
    (h : snapshotLog N retry src = pre ++ Ev.read acc buf got err :: post) :
    delivered pre = scannedBytes pre ++ (acc ++ buf) ∧ (10 : UInt8) ∉ acc ++ buf ∧
    writesOf pre = unprocOf pre :=
  released_before_blocking N retry _ {} [] [] { src := src } rfl pre post acc buf got err h

/-- the complete lines delivered so far are exactly the complete lines handed to `scan`, as
soon as what was handed to `scan` ends with a newline (or is empty) -/
theorem complete_lines_released (N retry fuel : Nat) (s : S) (fwd : Bytes) (cons : List Bytes)
    (rd : Rd) (hbuf : rd.buf = []) (pre post : Log) (acc buf got : Bytes) (err : Option RErr)
    (h : (scanBT N retry fuel s fwd cons rd).2 = pre ++ Ev.read acc buf got err :: post)
    (hnl : (splitLines (scannedBytes pre)).2 = []) :
    (splitLines (delivered pre)).1 = (splitLines (scannedBytes pre)).1 := by
  obtain ⟨h1, h2, _⟩ := released_before_blocking N retry fuel s fwd cons rd hbuf pre post acc buf got err h
  rw [h1, splitLines_append, hnl, List.nil_append,
    splitLines_of_cutNL_none ((cutNL_none_iff _).mpr h2)]
  simp

/-! ### 3. The snapshot is returned as soon as the terminating line has been delivered -/

/-- When the loop ends because a line cannot belong to the dump (`break`: `suffix` is set) or
because the scanner reached `done`, the last event of the log is the `scan` of a line: no
`Read` — no blocking — happens after the terminating line has been handed to `scan`.  (The
reader hands a line over once its '\n', or the end of the stream, has been delivered:
`readLine_spec` in `PP.Props.C09`.)  The log is empty only if the loop started in `done`. -/
theorem returns_at_terminator (N retry fuel : Nat) (s : S) (fwd : Bytes) (cons : List Bytes)
    (rd : Rd) (o : OutB) (h : scanB N retry fuel s fwd cons rd = some o)
    (hterm : o.suffix.isSome = true ∨ o.s.st = .done) :
    (s.st = .done ∧ (scanBT N retry fuel s fwd cons rd).2 = []) ∨
    ∃ pre d b, (scanBT N retry fuel s fwd cons rd).2 = pre ++ [.scanned d b] := by
  rw [← scanBT_erases] at h
  exact scanBT_ends N retry fuel s fwd cons rd o h hterm

/-! ### 4. `fill` does not try to fill the buffer -/

/-- The events of one `fill`: `n` empty reads (zero bytes, no error) followed by nothing
(`n` = the retry bound: `io.ErrNoProgress`) or by exactly one read that returned data or an
error, after which `fill` returns. -/
theorem fill_single_read (N : Nat) (acc : Bytes) (k : Nat) (r : Rd) :
    ∃ n last, (fillLoopT N acc k r).2 = List.replicate n (.read acc r.buf [] none) ++ last ∧
      ((last = [] ∧ n = k ∧ (fillLoop N k r).err = some .noProgress) ∨
       (n < k ∧ ∃ c e, last = [.read acc r.buf c e] ∧ (c ≠ [] ∨ e ≠ none))) := by
  have := fillLoopT_shape N acc k r
  rw [fillLoopT_erases] at this
  exact this

/-- at most one `Read` per `fill` returns data or an error -/
theorem fill_productive_reads_le_one (N : Nat) (acc : Bytes) (k : Nat) (r : Rd) :
    ((fillLoopT N acc k r).2.filter Ev.isProductiveRead).length ≤ 1 := by
  obtain ⟨n, last, h1, h2⟩ := fillLoopT_shape N acc k r
  rw [h1, List.filter_append, filter_productive_replicate, List.nil_append]
  rcases h2 with ⟨h2, _⟩ | ⟨_, c, e, h2, _⟩
  · rw [h2]; simp
  · rw [h2]; exact Nat.le_trans (List.length_filter_le _ _) (by simp)

/-! ### Non-vacuity -/

section NonVacuity

private def live : Bytes := b!"hello\ngoroutine 1 [running]:\nmain.f()\n\t/a.go:1\n\nbye\n"

/-- a source that trickles: 3 bytes, an empty read, then 10 bytes at a time; 8-byte buffer
(so the 23-byte header line is glued from three slices) -/
private def srcT : Src := { rest := live, sched := [3, 0, 10, 10, 10, 10, 10, 10, 10, 10], final := .eof }

/-- the first events: "hel" arrives, nothing, then "lo\ngo" (the 8-byte buffer is full): the line
`hello\n` is scanned and written before the next `Read`; the `Read` after it holds `go`, no
newline -/
example : (snapshotLog 8 5 srcT).take 6 =
    [.read [] [] b!"hel" none, .read [] b!"hel" [] none, .read [] b!"hel" b!"lo\ngo" none,
     .scanned b!"hello\n" false, .write b!"hello\n", .read [] b!"go" b!"routin" none] := by decide +kernel

/-- the log contains `Read`s with a non-empty `acc` (over-long line) -/
example : Ev.read b!"goroutin" [] b!"e 1 [run" none ∈ snapshotLog 8 5 srcT := by decide +kernel

/-- the loop breaks on `bye\n`: last event is its scan, and the result carries a suffix -/
example : (snapshotLog 8 5 srcT).getLast? = some (.scanned b!"bye\n" false) ∧
    ((scanB 8 5 (srcT.rest.length + 2) {} [] [] { src := srcT }).map
      (fun o => (o.suffix.isSome, o.s.st))) = some (true, .done) := by decide +kernel

/-- one `fill` with two empty reads and then data -/
example : (fillLoopT 8 [] 5 { buf := b!"ab", src := { rest := b!"cdef", sched := [0, 0, 2] } }).2 =
    [.read [] b!"ab" [] none, .read [] b!"ab" [] none, .read [] b!"ab" b!"cd" none] := by decide

/-- retries exhausted -/
example :
    (fillLoopT 8 [] 2 { buf := b!"ab", src := { rest := b!"cdef", sched := [0, 0, 2] } }).1.err =
      some .noProgress ∧
    (fillLoopT 8 [] 2 { buf := b!"ab", src := { rest := b!"cdef", sched := [0, 0, 2] } }).2 =
      [.read [] b!"ab" [] none, .read [] b!"ab" [] none] := by decide

end NonVacuity

end Live
end PP

#print axioms PP.Live.fillLoopT_erases
#print axioms PP.Live.fillT_erases
#print axioms PP.Live.readSliceT_erases
#print axioms PP.Live.readLineT_erases
#print axioms PP.Live.scanBT_erases
#print axioms PP.Live.scanSnapshot_instrumented
#print axioms PP.Live.writes_are_forwarded
#print axioms PP.Live.read_only_without_newline
#print axioms PP.Live.released_before_blocking
#print axioms PP.Live.released_before_blocking_snapshot
#print axioms PP.Live.complete_lines_released
#print axioms PP.Live.returns_at_terminator
#print axioms PP.Live.fill_single_read
#print axioms PP.Live.fill_productive_reads_le_one
