import PP.Lemmas.Cut
import PP.Lemmas.CutInv
import PP.Lemmas.CutRace
import PP.Props.C09b
import PP.Props.C03
/-
C10 — truncation and read-failure tolerance, at line level (`scanL` on `specLines`;
`scanSnapshot_eq_L` in `PP.Props.C09b` transports every statement to any delivery).

The stream `bs` (ending in `fin`) is compared with the stream cut after `k` bytes, ending in
`fin'` (EOF = truncation, `.other t` = a failing reader).

What the statements speak of is defined, each name with its description, in
`PP/Lemmas/Cut.lean` (the complete lines and the fragment of a cut stream, the loop `prefixL` over
complete lines, the race-report states) and `PP/Lemmas/CutRace.lean` (the parts of a race report,
the goroutines whose operation section is complete, the relations between a goroutine before and
after further lines).

`PP/Lemmas/CutInv.lean` and `cut_no_panic` use C03 (`PP.Props.C03` and its lemma files).
-/
namespace PP

/-! ### 1. The canonical split of a cut stream -/

/-- Cut and uncut stream share the complete lines `common` before the cut; the cut stream
ends with the unterminated fragment `frag`, which carries the error; in the uncut stream the
next item extends `frag` (a complete line `frag ++ p ++ "\n"`, or the unterminated tail). -/
theorem specLines_take (bs : Bytes) (k : Nat) (fin fin' : RErr) :
    ∃ (common : List Bytes) (frag : Bytes) (more : List (Bytes × Option RErr)),
      common = cutCommon bs k ∧ frag = cutFrag bs k ∧
      (∀ l ∈ common, ∃ p, (10 : UInt8) ∉ p ∧ l = p ++ [10]) ∧ (10 : UInt8) ∉ frag ∧
      bs.take k = common.flatten ++ frag ∧
      specLines (bs.take k) fin' = noErr common ++ [(frag, some fin')] ∧
      specLines bs fin = noErr common ++ more ∧
      more = specLines (frag ++ bs.drop k) fin ∧
      ((∃ p r, (10 : UInt8) ∉ p ∧ bs.drop k = p ++ [10] ++ r ∧
          more = (frag ++ p ++ [10], none) :: specLines r fin) ∨
       ((10 : UInt8) ∉ bs.drop k ∧ more = [(frag ++ bs.drop k, some fin)])) := by
  refine ⟨cutCommon bs k, cutFrag bs k, specLines (cutFrag bs k ++ bs.drop k) fin, rfl, rfl,
    splitLines_lines _, splitLines_tail_noNL _, (splitLines_join _).symm, specLines_cut bs k fin',
    specLines_uncut bs k fin, rfl, ?_⟩
  exact specLines_frag_append _ _ fin (splitLines_tail_noNL _)

/-! ### 2. Both runs go through the common prefix in the same way -/

/-- if the loop is still running after `xs`, it continues on what follows from the state
reached after `xs` -/
theorem scanL_common_prefix (s : S) (fwd : Bytes) (cons : List Bytes) (xs : List Bytes)
    (ys : List (Bytes × Option RErr)) (s₁ : S) (fwd₁ : Bytes) (cons₁ : List Bytes)
    (h : prefixL s fwd cons xs = some (s₁, fwd₁, cons₁)) :
    scanL s fwd cons (noErr xs ++ ys) = scanL s₁ fwd₁ cons₁ ys :=
  scanL_prefix_some s fwd cons xs ys s₁ fwd₁ cons₁ h

/-- if the loop ends inside `xs`, what follows `xs` is only seen in `rest`; the loop ended
without error (break, state `done`, or panic) or with a parse error -/
theorem scanL_common_prefix_ended (s : S) (fwd : Bytes) (cons : List Bytes) (xs : List Bytes)
    (h : prefixL s fwd cons xs = none) (ys ys' : List (Bytes × Option RErr)) :
    let o := scanL s fwd cons (noErr xs ++ ys)
    let o' := scanL s fwd cons (noErr xs ++ ys')
    o.s = o'.s ∧ o.fwd = o'.fwd ∧ o.consumed = o'.consumed ∧ o.err = o'.err ∧
    o.broke = o'.broke ∧ o.panicked = o'.panicked ∧
    (∃ r, o.rest = r ++ ys ∧ o'.rest = r ++ ys') ∧
    ((o.err = none ∧ (o.broke = true ∨ o.s.st = .done ∨ o.panicked.isSome)) ∨
      ∃ e, o.err = some (.parse e)) := by
  obtain ⟨o, r, hk, ho⟩ := scanL_prefix_none s fwd cons xs h
  intro o1 o2
  have h1 : o1 = { o with rest := r ++ ys } := ho ys
  have h2 : o2 = { o with rest := r ++ ys' } := ho ys'
  rw [h1, h2]
  exact ⟨rfl, rfl, rfl, rfl, rfl, rfl, ⟨r, rfl, rfl⟩, hk⟩

/-- the cut and the uncut run: either the loop has ended before the cut, and the two results
agree on everything but the unread remainder, or both continue from the same state, the cut run
on the fragment and the uncut run on the rest of the stream -/
theorem cut_uncut (bs : Bytes) (k : Nat) (fin fin' : RErr) :
    let cut := scanL {} [] [] (specLines (bs.take k) fin')
    let uncut := scanL {} [] [] (specLines bs fin)
    (afterCommon bs k = none ∧
      cut.s = uncut.s ∧ cut.fwd = uncut.fwd ∧ cut.consumed = uncut.consumed ∧ cut.err = uncut.err ∧
      cut.broke = uncut.broke ∧ cut.panicked = uncut.panicked ∧
      (∃ r, cut.rest = r ++ [(cutFrag bs k, some fin')] ∧
        uncut.rest = r ++ specLines (cutFrag bs k ++ bs.drop k) fin) ∧
      ((cut.err = none ∧ (cut.broke = true ∨ cut.s.st = .done ∨ cut.panicked.isSome)) ∨
        ∃ e, cut.err = some (.parse e))) ∨
    (∃ s_c fwd_c cons_c, afterCommon bs k = some (s_c, fwd_c, cons_c) ∧
      cut = scanL s_c fwd_c cons_c [(cutFrag bs k, some fin')] ∧
      uncut = scanL s_c fwd_c cons_c (specLines (cutFrag bs k ++ bs.drop k) fin)) := by
  intro cut uncut
  have hc : cut = scanL {} [] [] (noErr (cutCommon bs k) ++ [(cutFrag bs k, some fin')]) := by
    show scanL _ _ _ _ = _; rw [specLines_cut]
  have hu : uncut = scanL {} [] [] (noErr (cutCommon bs k) ++
      specLines (cutFrag bs k ++ bs.drop k) fin) := by
    show scanL _ _ _ _ = _; rw [← specLines_uncut]
  cases h : afterCommon bs k with
  | none =>
    left
    have := scanL_common_prefix_ended {} [] [] (cutCommon bs k) h
      [(cutFrag bs k, some fin')] (specLines (cutFrag bs k ++ bs.drop k) fin)
    rw [hc, hu]
    exact ⟨rfl, this⟩
  | some v =>
    obtain ⟨s_c, fwd_c, cons_c⟩ := v
    right
    refine ⟨s_c, fwd_c, cons_c, rfl, ?_, ?_⟩
    · rw [hc]; exact scanL_prefix_some _ _ _ _ _ _ _ _ h
    · rw [hu]; exact scanL_prefix_some _ _ _ _ _ _ _ _ h

/-! ### 3. The error of the cut run -/

/-- The cut run returns without error (it had finished before the cut: break, state `done`;
or a panic, excluded by C03), or with the reader's error, or with a parse error.  A parse
error means: the stream ended with EOF (`combineErr` lets a parse error about the goroutine
being read replace EOF, and nothing else), or the loop stopped at a complete line before the
cut, where the reader failure had not been returned by the reader yet. -/
theorem cut_error_kind (bs : Bytes) (k : Nat) (fin' : RErr) :
    let o := scanL {} [] [] (specLines (bs.take k) fin')
    (o.err = none ∧ (o.broke = true ∨ o.s.st = .done ∨ o.panicked.isSome)) ∨
    o.err = some (.reader fin') ∨
    (∃ e, o.err = some (.parse e) ∧ (fin' = .eof ∨ afterCommon bs k = none)) := by
  intro o
  rcases cut_uncut bs k fin' fin' with ⟨h0, _, _, _, _, _, _, _, hk⟩ | ⟨s_c, f_c, c_c, h0, h1, _⟩
  · rcases hk with hk | ⟨e, he⟩
    · exact Or.inl hk
    · exact Or.inr (Or.inr ⟨e, he, Or.inr h0⟩)
  · have h1' : o = scanL s_c f_c c_c [(cutFrag bs k, some fin')] := h1
    rw [h1']
    rcases scanL_last s_c f_c c_c (cutFrag bs k) fin' with
      ⟨a1, a2, _, _, _, _, a7⟩ | ⟨_, _, b3, _⟩
    · left
      refine ⟨a1, Or.inr ?_⟩
      rcases a7 with ⟨a7, _⟩ | a7
      · left; rw [a2]; exact a7
      · right; exact a7
    · rcases b3 with b3 | ⟨b3, e, b4⟩
      · exact Or.inr (Or.inl b3)
      · exact Or.inr (Or.inr ⟨e, b4, Or.inl b3⟩)

/-- Once the loop reaches the cut, a reader failure other than EOF is reported as exactly
that error: no parse error masks it. -/
theorem reader_failure_not_masked (bs : Bytes) (k : Nat) (fin' : RErr) (hne : fin' ≠ .eof)
    (hreach : afterCommon bs k ≠ none) :
    let o := scanL {} [] [] (specLines (bs.take k) fin')
    (o.err = none ∧ (o.s.st = .done ∨ o.panicked.isSome)) ∨ o.err = some (.reader fin') := by
  intro o
  rcases cut_uncut bs k fin' fin' with ⟨h0, _⟩ | ⟨s_c, f_c, c_c, h0, h1, _⟩
  · exact absurd h0 hreach
  · have h1' : o = scanL s_c f_c c_c [(cutFrag bs k, some fin')] := h1
    rw [h1']
    rcases scanL_last s_c f_c c_c (cutFrag bs k) fin' with
      ⟨a1, a2, _, _, _, _, a7⟩ | ⟨_, _, b3, _⟩
    · left
      refine ⟨a1, ?_⟩
      rcases a7 with ⟨a7, _⟩ | a7
      · left; rw [a2]; exact a7
      · right; exact a7
    · rcases b3 with b3 | ⟨b3, _⟩
      · exact Or.inr b3
      · exact absurd b3 hne

/-- When the cut run reports a parse error although the reader failed with something else
than EOF, the loop stopped before the cut: the failing item is still unread (in `rest`), and
the uncut run reports the same parse error. -/
theorem parse_error_before_failure (bs : Bytes) (k : Nat) (fin fin' : RErr) (hne : fin' ≠ .eof)
    (e : Err) :
    let cut := scanL {} [] [] (specLines (bs.take k) fin')
    let uncut := scanL {} [] [] (specLines bs fin)
    cut.err = some (.parse e) →
      uncut.err = some (.parse e) ∧ ∃ r, cut.rest = r ++ [(cutFrag bs k, some fin')] := by
  intro cut uncut herr
  rcases cut_uncut bs k fin fin' with ⟨_, _, _, _, h4, _, _, ⟨r, h7, _⟩, _⟩ | ⟨s_c, f_c, c_c, h0, h1, _⟩
  · have h4' : cut.err = uncut.err := h4
    exact ⟨by rw [← h4']; exact herr, r, h7⟩
  · exfalso
    have h1' : cut = scanL s_c f_c c_c [(cutFrag bs k, some fin')] := h1
    rw [h1'] at herr
    rcases scanL_last s_c f_c c_c (cutFrag bs k) fin' with
      ⟨a1, _⟩ | ⟨_, _, b3, _⟩
    · rw [a1] at herr; simp at herr
    · rcases b3 with b3 | ⟨b3, _⟩
      · rw [b3] at herr; simp at herr
      · exact hne b3

/-! ### 4. What the cut run forwards -/

/-- The cut run forwards a prefix `fwd_c` of what the uncut run forwards, followed by nothing
or by the unterminated fragment `frag`; the latter only when, after the complete lines before
the cut, no dump is in progress (state `looking`, or `gotRaceHeader1`: a lone race separator
has just been withheld, K1).  Known finding K2: an unterminated line is forwarded when no dump
is in progress, because a stream without a dump must be reproduced identically. -/
theorem cut_forwarded (bs : Bytes) (k : Nat) (fin fin' : RErr) :
    let cut := scanL {} [] [] (specLines (bs.take k) fin')
    let uncut := scanL {} [] [] (specLines bs fin)
    ∃ fwd_c t, cut.fwd = fwd_c ++ t ∧ fwd_c <+: uncut.fwd ∧
      (t = [] ∨
       (t = cutFrag bs k ∧ t ≠ [] ∧ cut.s.st = .looking ∧
        ∃ s_c cons_c, afterCommon bs k = some (s_c, fwd_c, cons_c) ∧
          (s_c.st = .looking ∨ s_c.st = .gotRaceHeader1))) := by
  intro cut uncut
  rcases cut_uncut bs k fin fin' with ⟨_, _, h2, _⟩ | ⟨s_c, f_c, c_c, h0, h1, h2⟩
  · have h2' : cut.fwd = uncut.fwd := h2
    exact ⟨cut.fwd, [], by simp, by rw [h2']; exact List.prefix_refl _, Or.inl rfl⟩
  · have h1' : cut = scanL s_c f_c c_c [(cutFrag bs k, some fin')] := h1
    have h2' : uncut = scanL s_c f_c c_c (specLines (cutFrag bs k ++ bs.drop k) fin) := h2
    have hpre : f_c <+: uncut.fwd := by rw [h2']; exact scanL_fwd_prefix _ _ _ _
    rw [h1']
    rcases scanL_last s_c f_c c_c (cutFrag bs k) fin' with
      ⟨_, _, a3, _⟩ | ⟨_, _, _, b4⟩
    · exact ⟨f_c, [], by simp [a3], hpre, Or.inl rfl⟩
    · rcases b4 with ⟨_, _, b, _⟩ | ⟨hne, b, e1, hsc, _, hcase⟩
      · exact ⟨f_c, [], by simp [b], hpre, Or.inl rfl⟩
      · rcases hcase with ⟨_, c, _⟩ | ⟨_, _, c, _⟩ | ⟨hb, hlk, c, _⟩
        · exact ⟨f_c, [], by simp [c], hpre, Or.inl rfl⟩
        · exact ⟨f_c, [], by simp [c], hpre, Or.inl rfl⟩
        · refine ⟨f_c, cutFrag bs k, c, hpre, Or.inr ⟨rfl, hne, hlk, s_c, c_c, h0, ?_⟩⟩
          subst hb
          have hstep := scan_step hsc
          rw [hlk] at hstep
          rcases (Step_fwd_looking hstep).2 with h | ⟨h, _⟩
          · exact Or.inl h
          · exact Or.inr h

/-- the positive statement: unless an unterminated fragment is cut while no dump is in
progress, the cut run forwards a prefix of what the uncut run forwards -/
theorem cut_forwarded_prefix (bs : Bytes) (k : Nat) (fin fin' : RErr)
    (h : cutFrag bs k = [] ∨
      ∀ s_c fwd_c cons_c, afterCommon bs k = some (s_c, fwd_c, cons_c) →
        s_c.st ≠ .looking ∧ s_c.st ≠ .gotRaceHeader1) :
    (scanL {} [] [] (specLines (bs.take k) fin')).fwd <+:
      (scanL {} [] [] (specLines bs fin)).fwd := by
  obtain ⟨fwd_c, t, h1, h2, h3⟩ := cut_forwarded bs k fin fin'
  rcases h3 with h3 | ⟨h3, h4, _, s_c, c_c, h5, h6⟩
  · rw [h1, h3, List.append_nil]; exact h2
  · exfalso
    rcases h with h | h
    · exact h4 (h3.trans h)
    · obtain ⟨g1, g2⟩ := h s_c fwd_c c_c h5
      rcases h6 with h6 | h6
      · exact g1 h6
      · exact g2 h6

/-! ### 5. Goroutines read before the cut are frozen -/

/-- One `scan` step in a goroutine-dump state (`St.isRace = false`: `looking` … `gotUnavail`):
no goroutine is removed, every goroutine but the last is untouched, and either the length is
unchanged (at most the last goroutine was modified) or one goroutine was appended — in which
case the previously-last one is untouched too. -/
theorem scan_preserves_earlier {s s' : S} {l : Line} {b : Bool} {e : Option Err}
    (h : scan s l = .ok (s', b, e)) (hr : s.st.isRace = false) :
    s.gs.length ≤ s'.gs.length ∧ (∀ i, i + 1 < s.gs.length → s'.gs[i]? = s.gs[i]?) ∧
    (s'.gs.length = s.gs.length ∨ ∃ g, s'.gs = s.gs ++ [g]) := by
  obtain ⟨⟨h1, h2⟩, h3⟩ := (scan_gsEffect h).lastOnly hr
  exact ⟨h1, h2, h3⟩

/-- One `scan` step in any state, race-report states included: no goroutine is removed, at
most one is appended, and the only existing goroutines that may be modified are the last one
and the one the race cursor points to before (`s.gi`) or after (`s'.gi`) the step. -/
theorem scan_preserves_others {s s' : S} {l : Line} {b : Bool} {e : Option Err}
    (h : scan s l = .ok (s', b, e)) :
    s.gs.length ≤ s'.gs.length ∧ s'.gs.length ≤ s.gs.length + 1 ∧
    ∀ i, i + 1 < s.gs.length → i ≠ s.gi → i ≠ s'.gi → s'.gs[i]? = s.gs[i]? := by
  have hc := scan_gsEffect h
  refine ⟨hc.length_le.1, hc.length_le.2, ?_⟩
  intro i hi _ h2
  cases hc with
  | keep hgs => rw [hgs]
  | push g hgs => rw [hgs]; exact (LastOnly.append _ _).2 i hi
  | last init g ed _ hgs hgs' => rw [hgs] at hi ⊢; rw [hgs']; exact (LastOnly.snoc _ _ _).2 i hi
  | «at» ed _ _ _ hgs' => rw [hgs', List.getElem?_set_ne (Ne.symm h2)]

/-- The loop, started while a goroutine dump is being parsed (or finished): whatever follows,
the goroutines before the last one stay as they are, at the same index. -/
theorem scanL_preserves_earlier (s : S) (fwd : Bytes) (cons : List Bytes)
    (items : List (Bytes × Option RErr)) (h : NR s.st) :
    s.gs.length ≤ (scanL s fwd cons items).s.gs.length ∧
    ∀ i, i + 1 < s.gs.length → (scanL s fwd cons items).s.gs[i]? = s.gs[i]? :=
  (scanL_lastOnly s fwd cons items h).2

/-- when the loop is still running at the cut, both runs continue from the state reached there -/
theorem cut_uncut_some (bs : Bytes) (k : Nat) (fin fin' : RErr)
    (s_c : S) (fwd_c : Bytes) (cons_c : List Bytes)
    (hc : afterCommon bs k = some (s_c, fwd_c, cons_c)) :
    scanL {} [] [] (specLines (bs.take k) fin') = scanL s_c fwd_c cons_c [(cutFrag bs k, some fin')] ∧
    scanL {} [] [] (specLines bs fin) =
      scanL s_c fwd_c cons_c (specLines (cutFrag bs k ++ bs.drop k) fin) := by
  rcases cut_uncut bs k fin fin' with ⟨h0, _⟩ | ⟨s', f', c', h0, h1, h2⟩
  · rw [hc] at h0; simp at h0
  · rw [hc] at h0
    simp only [Option.some.injEq, Prod.mk.injEq] at h0
    obtain ⟨rfl, rfl, rfl⟩ := h0
    exact ⟨h1, h2⟩

/-- Cut inside or after a goroutine dump (`NR s_c.st`: the state after the complete lines
before the cut is a goroutine-dump state other than `looking`): every goroutine of `s_c.gs`
except the last — every goroutine whose text lay entirely before the cut — is present, at the
same index and identical, in the result of the cut run and of the uncut run; only the last
one (the goroutine being read at the cut) may differ; and the cut run has at most one
goroutine more than `s_c.gs` (an unterminated fragment is scanned as is outside
`looking`/`done`: in `betweenRoutine` a cut header line still opens a goroutine). -/
theorem cut_prefix_goroutines (bs : Bytes) (k : Nat) (fin fin' : RErr)
    (s_c : S) (fwd_c : Bytes) (cons_c : List Bytes)
    (hc : afterCommon bs k = some (s_c, fwd_c, cons_c)) (hn : NR s_c.st) :
    let cut := scanL {} [] [] (specLines (bs.take k) fin')
    let uncut := scanL {} [] [] (specLines bs fin)
    (∀ i, i + 1 < s_c.gs.length → cut.s.gs[i]? = s_c.gs[i]? ∧ uncut.s.gs[i]? = s_c.gs[i]?) ∧
    s_c.gs.length ≤ cut.s.gs.length ∧ cut.s.gs.length ≤ s_c.gs.length + 1 ∧
    s_c.gs.length ≤ uncut.s.gs.length := by
  intro cut uncut
  obtain ⟨h1, h2⟩ := cut_uncut_some bs k fin fin' s_c fwd_c cons_c hc
  have a := (scanL_lastOnly s_c fwd_c cons_c [(cutFrag bs k, some fin')] hn).2
  have b := (scanL_lastOnly s_c fwd_c cons_c (specLines (cutFrag bs k ++ bs.drop k) fin) hn).2
  have hl := scanL_last_len s_c fwd_c cons_c (cutFrag bs k) fin'
  rw [← h1] at a hl
  rw [← h2] at b
  exact ⟨fun i hi => ⟨a.2 i hi, b.2 i hi⟩, a.1, hl, b.1⟩

/-- the two runs agree on the goroutines before the cut -/
theorem cut_goroutines_agree (bs : Bytes) (k : Nat) (fin fin' : RErr)
    (h : afterCommon bs k = none ∨
      ∃ s_c fwd_c cons_c, afterCommon bs k = some (s_c, fwd_c, cons_c) ∧ NR s_c.st) :
    let cut := scanL {} [] [] (specLines (bs.take k) fin')
    let uncut := scanL {} [] [] (specLines bs fin)
    (afterCommon bs k = none → cut.s = uncut.s) ∧
    (∀ s_c fwd_c cons_c, afterCommon bs k = some (s_c, fwd_c, cons_c) →
      ∀ i, i + 1 < s_c.gs.length → cut.s.gs[i]? = uncut.s.gs[i]?) := by
  intro cut uncut
  refine ⟨fun h0 => ?_, fun s_c f_c c_c hc i hi => ?_⟩
  · rcases cut_uncut bs k fin fin' with ⟨_, h1, _⟩ | ⟨s', f', c', h1, _⟩
    · exact h1
    · rw [h0] at h1; simp at h1
  · rcases h with h | ⟨s', f', c', h1, hn⟩
    · rw [h] at hc; simp at hc
    · rw [hc] at h1
      simp only [Option.some.injEq, Prod.mk.injEq] at h1
      obtain ⟨rfl, rfl, rfl⟩ := h1
      obtain ⟨g, _⟩ := cut_prefix_goroutines bs k fin fin' s_c f_c c_c hc hn
      have := g i hi
      exact this.1.trans this.2.symm

/-- The same for every goroutine-dump state, `looking` included (there `s_c.gs = []` by the
scanner invariant of C03, so nothing precedes the cut): the hypothesis only excludes a cut
inside a race report. -/
theorem cut_prefix_goroutines_nonrace (bs : Bytes) (k : Nat) (fin fin' : RErr)
    (s_c : S) (fwd_c : Bytes) (cons_c : List Bytes)
    (hc : afterCommon bs k = some (s_c, fwd_c, cons_c)) (hr : s_c.st.isRace = false) :
    let cut := scanL {} [] [] (specLines (bs.take k) fin')
    let uncut := scanL {} [] [] (specLines bs fin)
    (∀ i, i + 1 < s_c.gs.length → cut.s.gs[i]? = s_c.gs[i]? ∧ uncut.s.gs[i]? = s_c.gs[i]?) ∧
    s_c.gs.length ≤ cut.s.gs.length ∧ cut.s.gs.length ≤ s_c.gs.length + 1 ∧
    s_c.gs.length ≤ uncut.s.gs.length := by
  by_cases hl : s_c.st = .looking
  · have h0 := afterCommon_looking_gs bs k s_c fwd_c cons_c hc (Or.inl hl)
    intro cut uncut
    refine ⟨fun i hi => by rw [h0] at hi; simp at hi, by rw [h0]; simp, ?_, by rw [h0]; simp⟩
    have h2 : cut = _ := (cut_uncut_some bs k fin fin' s_c fwd_c cons_c hc).1
    rw [h2]
    exact scanL_last_len _ _ _ _ _
  · exact cut_prefix_goroutines bs k fin fin' s_c fwd_c cons_c hc ⟨hr, hl⟩

/-! ### 6. Goroutines of a race report read before the cut -/

/-- The loop, started inside a race report (`h0`: no goroutine exists before the first operation
header — part of the scanner invariant `Inv` of C03), whatever follows:
* no goroutine is removed, and every goroutine keeps its index, id, `first`, address and
  read/write kind (`RacePartial`), and the frames of its operation stack except possibly the
  last one, whose file line may not have been read yet (`StackGrows`);
* every goroutine whose operation section is complete (`i < raceFrozen s`: all of them, except
  the last one while its operation section is being read) also keeps its operation stack: it is
  only extended by creation sections (`RaceExt`: `sig.state` and `sig.createdBy` may differ) —
  this includes the goroutine `s.gi` whose creation section is being read;
* once all operation sections are read (`isRaceCre`), no goroutine is added and what the
  operation sections said of every goroutine is final. -/
theorem scanL_preserves_race (s : S) (fwd : Bytes) (cons : List Bytes)
    (ys : List (Bytes × Option RErr)) (hr : s.st.isRace = true)
    (h0 : s.st = .gotRaceHeader1 ∨ s.st = .gotRaceHeader2 → s.gs = []) :
    let s' := (scanL s fwd cons ys).s
    s.gs.length ≤ s'.gs.length ∧
    (∀ (i : Nat) (g : Goroutine), s.gs[i]? = some g →
      ∃ g', s'.gs[i]? = some g' ∧ RacePartial g g' ∧ StackGrows g.sig.stack g'.sig.stack ∧
        (i < raceFrozen s → RaceExt g g')) ∧
    (s.st.isRaceCre = true →
      s'.gs.length = s.gs.length ∧ s'.gs.map raceOpView = s.gs.map raceOpView) := by
  intro s'
  by_cases hb : s.st.isRaceBody = true
  · have hR : RaceRel s s' := (scanL_raceRel s fwd cons ys (Or.inl hb)).2
    refine ⟨hR.len, ?_, fun hc => ⟨(hR.cre (Or.inl hc)).1, hR.map_opView hc⟩⟩
    intro i g hg
    obtain ⟨g', hg', hp, hw⟩ := hR.part i g hg
    refine ⟨g', hg', hp, hw, fun hf => ?_⟩
    obtain ⟨g'', hg'', hx⟩ := hR.ext i g hg hf
    rw [hg'] at hg''
    rw [Option.some.inj hg'']
    exact hx
  · have hnil := h0 (isRace_not_body hr hb)
    refine ⟨by rw [hnil]; exact Nat.zero_le _, ?_, fun hc => absurd (isRaceCre_body hc) hb⟩
    intro i g hg
    rw [hnil] at hg
    simp at hg

/-- The stronger fact, for a goroutine no later creation section names: started inside a race
report, a goroutine whose operation section is complete, which is not the one a creation
section is being read for, and whose id no item of the continuation names in a
`Goroutine N (…) created at:` header, is in the result exactly as it is now.
(The hypothesis on the continuation cannot be replaced by a condition on the state: see the
witness `race_completed_section_reopened` below.) -/
theorem scanL_preserves_race_unnamed (s : S) (fwd : Bytes) (cons : List Bytes)
    (ys : List (Bytes × Option RErr)) (hr : s.st.isRace = true)
    (h0 : s.st = .gotRaceHeader1 ∨ s.st = .gotRaceHeader2 → s.gs = [])
    (i : Nat) (g : Goroutine) (hg : s.gs[i]? = some g) (hf : i < raceFrozen s)
    (hgi : s.st.isRaceCreW = true → s.gi ≠ i)
    (hno : ∀ x ∈ ys, ∀ stt, (classify s.pfx x.1).raceGor ≠ some (some g.id, stt)) :
    (scanL s fwd cons ys).s.gs[i]? = some g := by
  by_cases hb : s.st.isRaceBody = true
  · exact scanL_race_untouched s fwd cons ys i g hb hg hf hgi hno
  · rw [h0 (isRace_not_body hr hb)] at hg
    simp at hg

/-- Cut inside a race report (`s_c.st.isRace`: the state after the complete lines before the
cut is a race-report state).  For every goroutine `g` of `s_c.gs`, at index `i`:
* both runs have a goroutine at index `i`, with the id, `first`, address and read/write kind of
  `g` (`RacePartial`) and with the frames of `g`'s operation stack, except possibly the last
  one (`StackGrows`: for the goroutine being read at the cut, the frames read before the cut);
* unless `g` is the goroutine whose operation section is being read at the cut
  (`i < raceFrozen s_c`), the three agree up to `RaceExt`: same operation stack too; only
  `sig.state` and `sig.createdBy` — the creation section, which the uncut run may read later — may
  differ;
* the cut run differs from `s_c` in at most one goroutine: the one being written at the cut,
  or the one a cut creation header selects.
The cut run has at most one goroutine more than `s_c.gs`. -/
theorem cut_prefix_goroutines_race (bs : Bytes) (k : Nat) (fin fin' : RErr)
    (s_c : S) (fwd_c : Bytes) (cons_c : List Bytes)
    (hc : afterCommon bs k = some (s_c, fwd_c, cons_c)) (hr : s_c.st.isRace = true) :
    let cut := scanL {} [] [] (specLines (bs.take k) fin')
    let uncut := scanL {} [] [] (specLines bs fin)
    (∀ (i : Nat) (g : Goroutine), s_c.gs[i]? = some g →
      ∃ gc gu, cut.s.gs[i]? = some gc ∧ uncut.s.gs[i]? = some gu ∧
        RacePartial g gc ∧ RacePartial g gu ∧ RacePartial gc gu ∧
        StackGrows g.sig.stack gc.sig.stack ∧ StackGrows g.sig.stack gu.sig.stack ∧
        (i < raceFrozen s_c → RaceExt g gc ∧ RaceExt g gu ∧ RaceExt gc gu)) ∧
    (∀ i, i < s_c.gs.length → raceWriting s_c ≠ some i →
      (cut.s.st = .gotRaceGoroutineHeader → cut.s.gi ≠ i) → cut.s.gs[i]? = s_c.gs[i]?) ∧
    s_c.gs.length ≤ cut.s.gs.length ∧ cut.s.gs.length ≤ s_c.gs.length + 1 ∧
    s_c.gs.length ≤ uncut.s.gs.length := by
  intro cut uncut
  obtain ⟨h1, h2⟩ := cut_uncut_some bs k fin fin' s_c fwd_c cons_c hc
  have h1' : cut = scanL s_c fwd_c cons_c [(cutFrag bs k, some fin')] := h1
  have h2' : uncut = scanL s_c fwd_c cons_c (specLines (cutFrag bs k ++ bs.drop k) fin) := h2
  have h0 : s_c.st = .gotRaceHeader1 ∨ s_c.st = .gotRaceHeader2 → s_c.gs = [] :=
    fun h => afterCommon_looking_gs bs k s_c fwd_c cons_c hc (Or.inr h)
  obtain ⟨a1, a2, _⟩ := scanL_preserves_race s_c fwd_c cons_c [(cutFrag bs k, some fin')] hr h0
  obtain ⟨b1, b2, _⟩ := scanL_preserves_race s_c fwd_c cons_c
    (specLines (cutFrag bs k ++ bs.drop k) fin) hr h0
  rw [← h1'] at a1 a2
  rw [← h2'] at b1 b2
  refine ⟨?_, ?_, a1, by rw [h1']; exact scanL_last_len _ _ _ _ _, b1⟩
  · intro i g hg
    obtain ⟨gc, hgc, pc, wc, xc⟩ := a2 i g hg
    obtain ⟨gu, hgu, pu, wu, xu⟩ := b2 i g hg
    exact ⟨gc, gu, hgc, hgu, pc, pu, pc.symm.trans pu, wc, wu,
      fun hf => ⟨xc hf, xu hf, (xc hf).symm.trans (xu hf)⟩⟩
  · intro i hi hw hh
    by_cases hb : s_c.st.isRaceBody = true
    · rw [h1'] at hh ⊢
      exact scanL_last_untouched s_c fwd_c cons_c _ _ hb i hi hw hh
    · rw [h0 (isRace_not_body hr hb)] at hi
      simp at hi

/-- Cut in the creation part of a race report (every operation section lies before the cut):
both runs have exactly the goroutines of `s_c`, and the ids, `first` flags, addresses,
read/write kinds and operation stacks of ALL goroutines are identical in the cut run, in the
uncut run and in `s_c`. -/
theorem cut_race_operations_agree (bs : Bytes) (k : Nat) (fin fin' : RErr)
    (s_c : S) (fwd_c : Bytes) (cons_c : List Bytes)
    (hc : afterCommon bs k = some (s_c, fwd_c, cons_c)) (hcre : s_c.st.isRaceCre = true) :
    let cut := scanL {} [] [] (specLines (bs.take k) fin')
    let uncut := scanL {} [] [] (specLines bs fin)
    cut.s.gs.map raceOpView = uncut.s.gs.map raceOpView ∧
    cut.s.gs.map raceOpView = s_c.gs.map raceOpView ∧
    cut.s.gs.length = s_c.gs.length ∧ uncut.s.gs.length = s_c.gs.length := by
  intro cut uncut
  obtain ⟨h1, h2⟩ := cut_uncut_some bs k fin fin' s_c fwd_c cons_c hc
  have h1' : cut = scanL s_c fwd_c cons_c [(cutFrag bs k, some fin')] := h1
  have h2' : uncut = scanL s_c fwd_c cons_c (specLines (cutFrag bs k ++ bs.drop k) fin) := h2
  have hb := isRaceCre_body hcre
  have a := (scanL_raceRel s_c fwd_c cons_c [(cutFrag bs k, some fin')] (Or.inl hb)).2
  have b := (scanL_raceRel s_c fwd_c cons_c (specLines (cutFrag bs k ++ bs.drop k) fin) (Or.inl hb)).2
  rw [← h1'] at a
  rw [← h2'] at b
  exact ⟨(a.map_opView hcre).trans (b.map_opView hcre).symm, a.map_opView hcre,
    (a.cre (Or.inl hcre)).1, (b.cre (Or.inl hcre)).1⟩

/-- Cut inside a race report: a goroutine of `s_c.gs` whose operation section is complete, which
is not the one a creation section is being read for at the cut, and whose id neither the cut
fragment nor any later line names in a creation header, is identical — `sig.state` and
`sig.createdBy` included — in `s_c`, in the cut run and in the uncut run. -/
theorem cut_race_unnamed_identical (bs : Bytes) (k : Nat) (fin fin' : RErr)
    (s_c : S) (fwd_c : Bytes) (cons_c : List Bytes)
    (hc : afterCommon bs k = some (s_c, fwd_c, cons_c)) (hr : s_c.st.isRace = true)
    (i : Nat) (g : Goroutine) (hg : s_c.gs[i]? = some g) (hf : i < raceFrozen s_c)
    (hgi : s_c.st.isRaceCreW = true → s_c.gi ≠ i)
    (hfrag : ∀ stt, (classify s_c.pfx (cutFrag bs k)).raceGor ≠ some (some g.id, stt))
    (hlater : ∀ x ∈ specLines (cutFrag bs k ++ bs.drop k) fin,
      ∀ stt, (classify s_c.pfx x.1).raceGor ≠ some (some g.id, stt)) :
    (scanL {} [] [] (specLines (bs.take k) fin')).s.gs[i]? = some g ∧
    (scanL {} [] [] (specLines bs fin)).s.gs[i]? = some g := by
  obtain ⟨h1, h2⟩ := cut_uncut_some bs k fin fin' s_c fwd_c cons_c hc
  have h0 : s_c.st = .gotRaceHeader1 ∨ s_c.st = .gotRaceHeader2 → s_c.gs = [] :=
    fun h => afterCommon_looking_gs bs k s_c fwd_c cons_c hc (Or.inr h)
  rw [h1, h2]
  refine ⟨scanL_preserves_race_unnamed s_c fwd_c cons_c _ hr h0 i g hg hf hgi ?_,
    scanL_preserves_race_unnamed s_c fwd_c cons_c _ hr h0 i g hg hf hgi hlater⟩
  intro x hx
  simp only [List.mem_singleton] at hx
  subst hx
  exact hfrag

/-! ### 7. No crash -/

/-- scanning a cut or failing stream does not panic (instance of C03) -/
theorem cut_no_panic (bs : Bytes) (k : Nat) (fin' : RErr) :
    (scanL {} [] [] (specLines (bs.take k) fin')).panicked = none :=
  scanL_no_panic _

/-- `cut_error_kind` without the panic alternative -/
theorem cut_error_kind_no_panic (bs : Bytes) (k : Nat) (fin' : RErr) :
    let o := scanL {} [] [] (specLines (bs.take k) fin')
    o.panicked = none ∧
    ((o.err = none ∧ (o.broke = true ∨ o.s.st = .done)) ∨
     o.err = some (.reader fin') ∨
     (∃ e, o.err = some (.parse e) ∧ (fin' = .eof ∨ afterCommon bs k = none))) := by
  intro o
  have hp : o.panicked = none := cut_no_panic bs k fin'
  refine ⟨hp, ?_⟩
  rcases cut_error_kind bs k fin' with ⟨h1, h2⟩ | h | h
  · left
    refine ⟨h1, ?_⟩
    rcases h2 with h2 | h2 | h2
    · exact Or.inl h2
    · exact Or.inr h2
    · have h2' : o.panicked.isSome = true := h2
      rw [hp] at h2'; simp at h2'
  · exact Or.inr (Or.inl h)
  · exact Or.inr (Or.inr h)

/-! ### 8. Transport to every delivery -/

/-- Any source that delivers the first `k` bytes of `bs` (in whatever pieces, with whatever
buffer size) and then ends or fails with `src'.final`: `ScanSnapshot` returns, and its result
is the one of the line-level cut run — so every statement above about
`scanL {} [] [] (specLines (bs.take k) fin')` is a statement about `ScanSnapshot` on such a
source.  (`names`: pointer pseudo-names are assigned afterwards, on the whole snapshot.) -/
theorem cut_delivery (N retry : Nat) (hN : 0 < N) (names : Bool) (src' : Src) (bs : Bytes) (k : Nat)
    (hrest : src'.rest = bs.take k) (hR : maxZeroRun src'.sched < retry) :
    ∃ r', scanSnapshot N retry names src' = some r' ∧
      let o := scanL {} [] [] (specLines (bs.take k) src'.final)
      r'.err = o.err ∧ r'.fwd = o.fwd ∧ r'.consumed = o.consumed ∧ r'.state = o.s.st ∧
      r'.panicked = o.panicked.isSome ∧
      r'.snap = (if o.s.gs.isEmpty then none
                 else some (if names then nameArguments o.s.gs else o.s.gs)) := by
  have ht := scanSnapshot_total N retry hN names src' hR
  cases h : scanSnapshot N retry names src' with
  | none => rw [h] at ht; simp at ht
  | some r' =>
    obtain ⟨a1, a2, a3, a4, a5, a6, _, _⟩ := scanSnapshot_eq_L N retry hN names src' hR r' h
    rw [hrest] at a1 a2 a3 a4 a5 a6
    exact ⟨r', rfl, a3, a2, a4, a5, a6, a1⟩

/-- the error `ScanSnapshot` returns on a cut or failing stream, for every delivery -/
theorem cut_error_kind_delivery (N retry : Nat) (hN : 0 < N) (names : Bool) (src' : Src)
    (bs : Bytes) (k : Nat) (hrest : src'.rest = bs.take k) (hR : maxZeroRun src'.sched < retry) :
    ∃ r', scanSnapshot N retry names src' = some r' ∧
      (r'.err = none ∨ r'.err = some (.reader src'.final) ∨
       ∃ e, r'.err = some (.parse e) ∧ (src'.final = .eof ∨ afterCommon bs k = none)) := by
  obtain ⟨r', h1, h2, _⟩ := cut_delivery N retry hN names src' bs k hrest hR
  refine ⟨r', h1, ?_⟩
  rw [h2]
  rcases cut_error_kind bs k src'.final with ⟨h, _⟩ | h | h
  · exact Or.inl h
  · exact Or.inr (Or.inl h)
  · exact Or.inr (Or.inr h)

/-! ### Witnesses -/

section Witnesses

private def w : Bytes := b!"pre\ngoroutine 1 [running]:\nmain.f()\n\t/a.go:1\n"

/-- Known finding K2 refutes the literal sentence "the bytes forwarded are a prefix of what
the uncut stream forwards": cut inside the header line, the fragment `gorou` is forwarded
(no dump is in progress), while the uncut stream withholds the whole header line. -/
theorem K2_fragment_forwarded :
    (scanL {} [] [] (specLines (w.take 9) .eof)).fwd = b!"pre\ngorou" ∧
    (scanL {} [] [] (specLines w .eof)).fwd = b!"pre\n" ∧
    ¬ ((scanL {} [] [] (specLines (w.take 9) .eof)).fwd <+: (scanL {} [] [] (specLines w .eof)).fwd) := by
  decide +kernel

/-- in that witness the loop is still running at the cut, in state `looking`, having forwarded
`pre\n`: `cut_forwarded` applies with `t = frag = gorou` -/
example : (afterCommon w 9).map (fun x => (x.1.st, x.2.1)) = some (.looking, b!"pre\n") ∧
    cutFrag w 9 = b!"gorou" := by decide

/-- the `gotRaceHeader1` alternative of `cut_forwarded` is real: a cut inside the line after a
race separator forwards the fragment `WARN`, while the uncut stream withholds that line -/
example :
    (afterCommon b!"==================\nWARNING: DATA RACE\n" 23).map (fun x => (x.1.st, x.2.1)) =
      some (.gotRaceHeader1, []) ∧
    (scanL {} [] [] (specLines ((b!"==================\nWARNING: DATA RACE\n").take 23) .eof)).fwd = b!"WARN" ∧
    (scanL {} [] [] (specLines b!"==================\nWARNING: DATA RACE\n" .eof)).fwd = [] := by decide +kernel

private def two : Bytes :=
  b!"goroutine 1 [running]:\nmain.f()\n\t/a.go:1\n\ngoroutine 2 [chan receive]:\nmain.g()\n\t/b.go:2\n"

private def view (o : OutL) :=
  (o.err, o.s.st, o.s.gs.map (fun g => (g.id, g.sig.stack.calls.map (·.line))), o.broke)

/-- cut inside goroutine 2 (`main.` of its first frame): the hypotheses of
`cut_prefix_goroutines` hold (state `gotRoutineHeader` after the complete lines) -/
example : (afterCommon two 75).map (fun x => (x.1.st, x.1.gs.length)) = some (.gotRoutineHeader, 2) ∧
    cutFrag two 75 = b!"main." := by decide +kernel
example : ∃ s_c f c, afterCommon two 75 = some (s_c, f, c) ∧ NR s_c.st := by
  have h : (afterCommon two 75).map (fun x => x.1.st) = some .gotRoutineHeader := by decide +kernel
  cases h' : afterCommon two 75 with
  | none => rw [h'] at h; simp at h
  | some v =>
    obtain ⟨a, b, c⟩ := v
    rw [h'] at h
    simp only [Option.map_some, Option.some.injEq] at h
    exact ⟨a, b, c, rfl, by rw [h]; exact ⟨rfl, by decide⟩⟩

/-- truncation there: a parse error about goroutine 2 replaces EOF; goroutine 1 is complete,
goroutine 2 is partial (no frame) -/
example : view (scanL {} [] [] (specLines (two.take 75) .eof)) =
    (some (.parse .funcAfterHeader), .gotRoutineHeader, [(1, [1]), (2, [])], true) := by decide +kernel
/-- a reader failure there is reported as exactly that error -/
example : view (scanL {} [] [] (specLines (two.take 75) (.other 3))) =
    (some (.reader (.other 3)), .gotRoutineHeader, [(1, [1]), (2, [])], true) := by decide +kernel
/-- cut inside the file line of goroutine 2: its frame has no line number yet -/
example : view (scanL {} [] [] (specLines (two.take 83) .eof)) =
    (some (.parse .fileAfterFunc), .gotFunc, [(1, [1]), (2, [0])], true) := by decide +kernel
/-- the uncut stream -/
example : view (scanL {} [] [] (specLines two .eof)) =
    (some (.reader .eof), .gotFileFunc, [(1, [1]), (2, [2])], false) := by decide +kernel

/-! #### race reports -/

private def race2 : Bytes :=
  b!"==================\nWARNING: DATA RACE\nRead at 0x00c000012345 by goroutine 7:\n  main.f()\n      /a.go:1 +0x1\n\nPrevious write at 0x00c000012345 by goroutine 6:\n  main.g()\n      /a.go:2 +0x2\n\nGoroutine 7 (running) created at:\n  main.h()\n      /a.go:3 +0x3\n\nGoroutine 6 (finished) created at:\n  main.h()\n      /a.go:4 +0x4\n==================\n"

/-- id, read/write kind, state, lines of the operation stack, lines of the creation stack -/
private structure RG where
  id : Nat
  write : Bool
  state : Bytes
  op : List Nat
  created : List Nat
  deriving DecidableEq

private def rview (o : OutL) :=
  (o.err, o.s.st, o.s.gs.map (fun g => RG.mk g.id g.raceWrite g.sig.state
    (g.sig.stack.calls.map (·.line)) (g.sig.createdBy.calls.map (·.line))), o.broke)

private theorem isRace_of_map {bs : Bytes} {k : Nat} {st : St}
    (h : (afterCommon bs k).map (fun x => x.1.st) = some st) (hst : st.isRace = true) :
    ∃ s_c f c, afterCommon bs k = some (s_c, f, c) ∧ s_c.st.isRace = true ∧ s_c.st = st := by
  cases h' : afterCommon bs k with
  | none => rw [h'] at h; simp at h
  | some v =>
    obtain ⟨a, b, c⟩ := v
    rw [h'] at h
    simp only [Option.map_some, Option.some.injEq] at h
    exact ⟨a, b, c, rfl, by rw [h]; exact hst, h⟩

/-- the state after the complete lines before the cuts (a) and (b); the examples below share
these two evaluations -/
private theorem after175 :
    (afterCommon race2 175).map (fun x => (x.1.st, x.1.gs.length, raceFrozen x.1, raceWriting x.1)) =
      some (.gotRaceOperationFunc, 2, 1, some 1) := by decide +kernel

private theorem after241 :
    (afterCommon race2 241).map (fun x => (x.1.st, x.1.gs.length, raceFrozen x.1, raceWriting x.1,
      x.1.st.isRaceCre)) = some (.gotRaceGoroutineFunc, 2, 2, some 0, true) := by decide +kernel

private theorem map_st {α : Type} {o : Option (S × Bytes × List Bytes)} {f : S → α} {st : St} {a : α}
    (h : o.map (fun x => (x.1.st, f x.1)) = some (st, a)) : o.map (fun x => x.1.st) = some st := by
  cases o <;> simp_all

set_option maxRecDepth 20000 in
/-- (a) cut inside the frames of the second operation (in the file line of `main.g`): the
hypotheses of `cut_prefix_goroutines_race` hold, in state `gotRaceOperationFunc`, with
`raceFrozen = 1`: goroutine 7 is complete, goroutine 6 is being written -/
example : (afterCommon race2 175).map (fun x => (x.1.st, x.1.gs.length, raceFrozen x.1, raceWriting x.1)) =
      some (.gotRaceOperationFunc, 2, 1, some 1) ∧
    cutFrag race2 175 = b!"      /" := ⟨after175, by decide⟩
set_option maxRecDepth 20000 in
example : ∃ s_c f c, afterCommon race2 175 = some (s_c, f, c) ∧ s_c.st.isRace = true ∧
    s_c.st = .gotRaceOperationFunc :=
  isRace_of_map (map_st (f := fun s => (s.gs.length, raceFrozen s, raceWriting s)) after175) (by decide)
set_option maxRecDepth 20000 in
/-- the cut run: a parse error about goroutine 6 replaces EOF; goroutine 7 has its operation
stack, goroutine 6 is partial (its frame has no line number); no creation section was read -/
example : rview (scanL {} [] [] (specLines (race2.take 175) .eof)) =
    (some (.parse .raceFile), .gotRaceOperationFunc,
     [⟨7, false, b!"", [1], []⟩, ⟨6, true, b!"", [0], []⟩], true) := by decide +kernel
set_option maxRecDepth 20000 in
/-- the uncut run: goroutine 7 differs from the cut run only by its creation section
(`RaceExt`); goroutine 6 — being written at the cut — also by its operation stack -/
example : rview (scanL {} [] [] (specLines race2 .eof)) =
    (none, .done,
     [⟨7, false, b!"running", [1], [3]⟩, ⟨6, true, b!"finished", [2], [4]⟩], false) := by decide +kernel

set_option maxRecDepth 20000 in
/-- (b) cut inside the first creation section (in the file line of its frame): the hypotheses of
`cut_race_operations_agree` hold, in state `gotRaceGoroutineFunc`, goroutine 0 being written -/
example : (afterCommon race2 241).map (fun x => (x.1.st, x.1.gs.length, raceFrozen x.1, raceWriting x.1,
      x.1.st.isRaceCre)) = some (.gotRaceGoroutineFunc, 2, 2, some 0, true) ∧
    cutFrag race2 241 = b!"      /a" := ⟨after241, by decide⟩
set_option maxRecDepth 20000 in
example : ∃ s_c f c, afterCommon race2 241 = some (s_c, f, c) ∧ s_c.st.isRace = true ∧
    s_c.st = .gotRaceGoroutineFunc :=
  isRace_of_map (map_st (f := fun s => (s.gs.length, raceFrozen s, raceWriting s, s.st.isRaceCre)) after241) (by decide)
set_option maxRecDepth 20000 in
/-- the cut run: both operation stacks are complete and equal to those of the uncut run;
goroutine 7 has a partial creation section, goroutine 6 none -/
example : rview (scanL {} [] [] (specLines (race2.take 241) .eof)) =
    (some (.parse .raceFile), .gotRaceGoroutineFunc,
     [⟨7, false, b!"running", [1], [0]⟩, ⟨6, true, b!"", [2], []⟩], true) := by decide +kernel
set_option maxRecDepth 20000 in
/-- a reader failure there is reported as such -/
example : rview (scanL {} [] [] (specLines (race2.take 241) (.other 5))) =
    (some (.reader (.other 5)), .gotRaceGoroutineFunc,
     [⟨7, false, b!"running", [1], [0]⟩, ⟨6, true, b!"", [2], []⟩], true) := by decide +kernel

/-- `cut_race_operations_agree` applies to (b) -/
example : (scanL {} [] [] (specLines (race2.take 241) .eof)).s.gs.map raceOpView =
    (scanL {} [] [] (specLines race2 .eof)).s.gs.map raceOpView := by
  obtain ⟨s_c, f, c, h, _, hst⟩ := isRace_of_map (bs := race2) (k := 241)
    (st := .gotRaceGoroutineFunc)
    (map_st (f := fun s => (s.gs.length, raceFrozen s, raceWriting s, s.st.isRaceCre)) after241) (by decide)
  exact (cut_race_operations_agree race2 241 .eof .eof s_c f c h (by rw [hst]; rfl)).1

set_option maxRecDepth 20000 in
/-- (c) cut between the two creation sections: `cut_race_unnamed_identical` applies to
goroutine 7 (index 0) — its creation section lies before the cut and no later line names it —
so it is identical, creation stack included, in both runs -/
example : (scanL {} [] [] (specLines (race2.take 253) .eof)).s.gs[0]? =
    (scanL {} [] [] (specLines race2 .eof)).s.gs[0]? := by
  have hm : (afterCommon race2 253).map (fun x => (x.1.st, x.1.pfx, x.1.gs.map (·.id))) =
      some (.betweenRaceGoroutines, [], [7, 6]) := by decide +kernel
  cases h' : afterCommon race2 253 with
  | none => rw [h'] at hm; simp at hm
  | some v =>
    obtain ⟨s_c, f, c⟩ := v
    rw [h'] at hm
    simp only [Option.map_some, Option.some.injEq, Prod.mk.injEq] at hm
    obtain ⟨hst, hpfx, hids⟩ := hm
    cases hgs : s_c.gs with
    | nil => rw [hgs] at hids; simp at hids
    | cons g t =>
      rw [hgs] at hids
      simp only [List.map_cons, List.cons.injEq] at hids
      have hid : g.id = 7 := hids.1
      have hfrag : ∀ stt, (classify s_c.pfx (cutFrag race2 253)).raceGor ≠ some (some g.id, stt) := by
        rw [hpfx, hid]
        exact raceGor_ne_of_map (by decide +kernel)
      have hlater : ∀ x ∈ specLines (cutFrag race2 253 ++ race2.drop 253) .eof,
          ∀ stt, (classify s_c.pfx x.1).raceGor ≠ some (some g.id, stt) := by
        rw [hpfx, hid]
        have : ∀ x ∈ specLines (cutFrag race2 253 ++ race2.drop 253) .eof,
            ((classify [] x.1).raceGor.map (·.1)) ≠ some (some 7) := by decide +kernel
        exact fun x hx => raceGor_ne_of_map (this x hx)
      have := cut_race_unnamed_identical race2 253 .eof .eof s_c f c h' (by rw [hst]; rfl) 0 g
        (by rw [hgs]; rfl) (by simp [raceFrozen, hst, St.isRaceOp, hgs])
        (by rw [hst]; intro h; cases h) hfrag hlater
      exact this.1.trans this.2.symm

private def reopened : Bytes :=
  b!"==================\nWARNING: DATA RACE\nRead at 0x00c000012345 by goroutine 7:\n  main.f()\n      /a.go:1 +0x1\n\nPrevious write at 0x00c000012345 by goroutine 6:\n  main.g()\n      /a.go:2 +0x2\n\nGoroutine 7 (running) created at:\n  main.h()\n      /a.go:3 +0x3\n\nGoroutine 7 (finished) created at:\n  main.k()\n      /a.go:9 +0x9\n==================\n"

/-- Why `scanL_preserves_race_unnamed` needs its hypothesis on the continuation: "the creation
section of this goroutine has been read completely" is not a property of the state that freezes
the goroutine.  A second `Goroutine 7 (…) created at:` section is accepted and applied to the
same goroutine: cut after the first one (state `betweenRaceGoroutines`, goroutine 7 complete
with `createdBy` = one frame), the uncut run overwrites its state and appends a frame to its
`createdBy`.  Only `RaceExt` holds between the two. -/
theorem race_completed_section_reopened :
    (afterCommon reopened 253).map (fun x => (x.1.st, raceWriting x.1)) =
      some (.betweenRaceGoroutines, none) ∧
    rview (scanL {} [] [] (specLines (reopened.take 253) .eof)) =
      (some (.reader .eof), .betweenRaceGoroutines,
       [⟨7, false, b!"running", [1], [3]⟩, ⟨6, true, b!"", [2], []⟩], false) ∧
    rview (scanL {} [] [] (specLines reopened .eof)) =
      (none, .done,
       [⟨7, false, b!"finished", [1], [3, 9]⟩, ⟨6, true, b!"", [2], []⟩], false) := by
  decide +kernel

private def bad : Bytes := b!"goroutine 1 [running]:\nbad\nxyz"

/-- Why `reader_failure_not_masked` needs `afterCommon ≠ none`: the loop stops with a parse
error on the complete line `bad\n`; the failure of the reader (after `xyz`) has not been
returned by the reader at that point — its item is still in `rest`. -/
example : (fun o : OutL => (o.err, o.broke, o.rest)) (scanL {} [] [] (specLines (bad.take 30) (.other 7))) =
      (some (.parse .funcAfterHeader), true, [(b!"bad\n", none), (b!"xyz", some (.other 7))]) ∧
    (afterCommon bad 30).isNone = true := by decide +kernel

/-- the transport theorem applies: 4-byte buffer, trickling source, error with the last data -/
example : ∃ r', scanSnapshot 4 10 false
      { rest := two.take 75, sched := [1, 0, 2, 7], final := .other 3, withData := true } = some r' ∧
    (r'.err = none ∨ r'.err = some (.reader (.other 3)) ∨
      ∃ e, r'.err = some (.parse e) ∧ (RErr.other 3 = .eof ∨ afterCommon two 75 = none)) :=
  cut_error_kind_delivery 4 10 (by decide) false
    { rest := two.take 75, sched := [1, 0, 2, 7], final := .other 3, withData := true } two 75 rfl
    (by decide)

end Witnesses

end PP

#print axioms PP.specLines_take
#print axioms PP.scanL_common_prefix
#print axioms PP.scanL_common_prefix_ended
#print axioms PP.cut_uncut
#print axioms PP.cut_error_kind
#print axioms PP.reader_failure_not_masked
#print axioms PP.parse_error_before_failure
#print axioms PP.cut_forwarded
#print axioms PP.cut_forwarded_prefix
#print axioms PP.K2_fragment_forwarded
#print axioms PP.scan_preserves_earlier
#print axioms PP.scan_preserves_others
#print axioms PP.scanL_preserves_earlier
#print axioms PP.cut_prefix_goroutines
#print axioms PP.cut_goroutines_agree
#print axioms PP.cut_prefix_goroutines_nonrace
#print axioms PP.cut_uncut_some
#print axioms PP.scanL_preserves_race
#print axioms PP.scanL_preserves_race_unnamed
#print axioms PP.cut_prefix_goroutines_race
#print axioms PP.cut_race_operations_agree
#print axioms PP.cut_race_unnamed_identical
#print axioms PP.race_completed_section_reopened
#print axioms PP.cut_no_panic
#print axioms PP.cut_error_kind_no_panic
#print axioms PP.cut_delivery
#print axioms PP.cut_error_kind_delivery
