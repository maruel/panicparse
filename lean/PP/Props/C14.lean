import PP.Lemmas.AliasRefine
/-
C14: snapshots are immutable under aggregation.

Stated over the explicit-heap model of `PP/Model/Alias.lean`, in which the
backing arrays of `[]Arg` / `[]Call` are heap cells, bucket keys start as
shallow copies of the goroutines' signatures (all slices shared) and every
`make` / element write of `Args.merge`, `Stack.merge` and `Aggregate` is an
explicit heap operation.

* `merge_frame`, `aggregate_frame`: every cell that existed before the call is
  unchanged after it — all writes target cells allocated during the call.
* `snapshot_unchanged`: the goroutines read out of the heap after aggregation
  are equal to what was read before, for every level, every goroutine list,
  every map iteration order, every fuel.
* `merge_refines`, `aggregate_refines`: the heap version, read back, computes
  the `Signature.merge` and the buckets of the functional model; `aggregate_ext`,
  `aggregate_twice`: the buckets do not depend on cells allocated since, so
  aggregating again gives the buckets of the freshly parsed snapshot;
  `heapWF_mono`: any upper bound of the nesting depth serves as fuel.
* a buggy in-place variant of `Args.merge` violates the frame property
  (so the property is not vacuous).
-/
namespace PP.Alias

/-- every write of `Signature.merge` (→ `Stack.merge` → `Call.merge` → `Args.merge`,
recursively) goes to a cell allocated during the call: all cells of `h` are
unchanged in the resulting heap.  No well-formedness needed: holds for dangling
and cyclic heaps, any fuel, and when `k` and `r` share cells. -/
theorem merge_frame (fuel : Nat) (h : Heap) (k r : HSig) :
    (∀ a, a < h.argCells.length →
        (mergeSigH fuel h k r).1.argCells[a]? = h.argCells[a]?) ∧
    (∀ a, a < h.callCells.length →
        (mergeSigH fuel h k r).1.callCells[a]? = h.callCells[a]?) :=
  let e := mergeSigH_ext fuel h k r
  ⟨e.1.2, e.2.2⟩

/-- the same for `Args.merge` alone, at any nesting level -/
theorem mergeArgs_frame (fuel : Nat) (h : Heap) (a r : HArgs) :
    (∀ x, x < h.argCells.length →
        (mergeArgsH fuel h a r).1.argCells[x]? = h.argCells[x]?) ∧
    (∀ x, x < h.callCells.length →
        (mergeArgsH fuel h a r).1.callCells[x]? = h.callCells[x]?) :=
  let e := mergeArgsH_ext fuel h a r
  ⟨e.1.2, e.2.2⟩

/-- `Aggregate` leaves every pre-existing cell unchanged, whatever the level, the
goroutine list and the map iteration order — including when bucket keys alias
the goroutines' slices (they always do initially: `insertGH`, `[]` case). -/
theorem aggregate_frame (π : HOracle) (fuel : Nat) (l : Lvl) (h : Heap) (gs : List HGoroutine) :
    (∀ a, a < h.argCells.length →
        (aggregateHWith π fuel l h gs).1.argCells[a]? = h.argCells[a]?) ∧
    (∀ a, a < h.callCells.length →
        (aggregateHWith π fuel l h gs).1.callCells[a]? = h.callCells[a]?) :=
  let e := aggregateHWith_ext π fuel l h gs
  ⟨e.1.2, e.2.2⟩

/-- the snapshot's goroutines are deep-equal before and after aggregation -/
theorem snapshot_unchanged (π : HOracle) (fuel : Nat) (l : Lvl) (h : Heap) (gs : List HGoroutine)
    {d : Nat} (hwf : HeapWF d h gs) (f : Nat) :
    absGoroutines f (aggregateHWith π fuel l h gs).1 gs = absGoroutines f h gs :=
  absGoroutines_ext (aggregateHWith_ext π fuel l h gs) hwf f

/-- … and they still only point into the heap -/
theorem snapshot_wf_preserved (π : HOracle) (fuel : Nat) (l : Lvl) (h : Heap)
    (gs : List HGoroutine) {d : Nat} (hwf : HeapWF d h gs) :
    HeapWF d (aggregateHWith π fuel l h gs).1 gs :=
  hwf.ext (aggregateHWith_ext π fuel l h gs)

/-- the same after any sequence of aggregations, at any levels, in any map orders -/
theorem snapshot_unchanged_seq (fuel : Nat) (gs : List HGoroutine) (ls : List (HOracle × Lvl))
    (h : Heap) {d : Nat} (hwf : HeapWF d h gs) (f : Nat) :
    (∀ a, a < h.argCells.length →
        (afterAggregations fuel gs ls h).argCells[a]? = h.argCells[a]?) ∧
    (∀ a, a < h.callCells.length →
        (afterAggregations fuel gs ls h).callCells[a]? = h.callCells[a]?) ∧
    absGoroutines f (afterAggregations fuel gs ls h) gs = absGoroutines f h gs :=
  let e := afterAggregations_ext fuel gs ls h
  ⟨e.1.2, e.2.2, absGoroutines_ext e hwf f⟩

/-! ### refinement: the heap version computes what the functional model computes -/

/-- `Signature.merge` over the heap, read back, is `Signature.merge` of the model; the
result is again well-formed.  `d` is both the fuel and the nesting bound of `wfSig`. -/
theorem merge_refines (d : Nat) (h : Heap) (k r : HSig)
    (hwk : wfSig d h k = true) (hwr : wfSig d h r = true) :
    absSig d (mergeSigH d h k r).1 (mergeSigH d h k r).2 =
      Signature.merge (absSig d h k) (absSig d h r) ∧
    wfSig d (mergeSigH d h k r).1 (mergeSigH d h k r).2 = true :=
  let s := mergeSigH_spec d h k r hwk hwr
  ⟨s.2.2, s.2.1⟩

/-- `Aggregate` over the heap, with keys aliasing the snapshot, computes exactly the
buckets of the functional model every other theorem is about -/
theorem aggregate_refines (d : Nat) (l : Lvl) (h : Heap) (gs : List HGoroutine)
    (hwf : HeapWF d h gs) :
    (aggregateH d l h gs).2.map (absBucket d (aggregateH d l h gs).1) =
      aggregateWith idOracle l (absGoroutines d h gs) := by
  obtain ⟨_, _, ha⟩ := bucketLoopH_spec d l gs 0 h [] hwf (fun _ hb => nomatch hb)
  simp only [aggregateH, aggregateHWith, aggregateWith, idHOracle, idOracle, sortBucketsH,
    sortBuckets, List.map_map]
  simp only [List.map_nil] at ha
  -- the final sort compares buckets as they read back, so it commutes with reading
  rw [← ha, ← List.map_mergeSort (f := absBkt d _)
    (r := fun a b => !bucketLess (absBkt d _ b) (absBkt d _ a))
    (s := fun a b => !bucketLess b a) (fun _ _ _ _ => rfl), List.map_map]
  rfl

/-- in any heap that extends `h`, whatever allocated the new cells, aggregation gives the
same buckets as in `h` -/
theorem aggregate_ext (d : Nat) (l : Lvl) {h h' : Heap} {gs : List HGoroutine}
    (hwf : HeapWF d h gs) (e : h.Ext h') :
    (aggregateH d l h' gs).2.map (absBucket d (aggregateH d l h' gs).1) =
      (aggregateH d l h gs).2.map (absBucket d (aggregateH d l h gs).1) := by
  rw [aggregate_refines d l _ gs (hwf.ext e), aggregate_refines d l h gs hwf,
    absGoroutines_ext e hwf d]

/-- aggregating again — after any sequence of aggregations at any levels — gives the
same buckets as aggregating the freshly parsed snapshot (the buckets are compared
read back: the new keys live at other addresses) -/
theorem aggregate_twice (d : Nat) (l : Lvl) (h : Heap) (gs : List HGoroutine)
    (hwf : HeapWF d h gs) (ls : List (HOracle × Lvl)) :
    (aggregateH d l (afterAggregations d gs ls h) gs).2.map
        (absBucket d (aggregateH d l (afterAggregations d gs ls h) gs).1) =
      (aggregateH d l h gs).2.map (absBucket d (aggregateH d l h gs).1) :=
  aggregate_ext d l hwf (afterAggregations_ext d gs ls h)

/-- the nesting bound `d` can be any upper bound (so one fixed fuel serves all heaps
of smaller depth), and reading with more fuel than the depth changes nothing -/
theorem heapWF_mono (d : Nat) (h : Heap) (gs : List HGoroutine) (hwf : HeapWF d h gs) :
    HeapWF (d + 1) h gs ∧ ∀ f, d ≤ f → absGoroutines f h gs = absGoroutines d h gs :=
  ⟨(hwf.read (Heap.Ext.refl h) (Nat.le_succ d)).1, fun f hf =>
    (hwf.read (Heap.Ext.refl h) (Nat.le_refl d)).2 f d (by rw [Nat.min_eq_right hf, Nat.min_self])⟩

/-! ### the frame property can fail: merging in place -/

section InPlace

/-- receiver `f(0xc000012340)` at address 0, argument `f(0xc000099990)` at address 1 -/
private def ipHeap : Heap :=
  { argCells := [[.scalar [] 0xc000012340 true false false],
                 [.scalar [] 0xc000099990 true false false]] }

/-- the in-place variant overwrites the receiver's cell 0 with `*` … -/
example :
    (mergeArgsInPlaceH 1 ipHeap { values := some 0 } { values := some 1 }).1.argCells[0]? =
      some [.scalar star 0xc000012340 true false false] := rfl

example :
    (mergeArgsInPlaceH 1 ipHeap { values := some 0 } { values := some 1 }).1.argCells[0]? ≠
      ipHeap.argCells[0]? := by decide +kernel

/-- … while the real `Args.merge` on the same input leaves cells 0 and 1 alone and puts
the `*` into the new cell 2 -/
example :
    (mergeArgsH 1 ipHeap { values := some 0 } { values := some 1 }) =
      ({ argCells := ipHeap.argCells ++ [[.scalar star 0xc000012340 true false false]] },
       { values := some 2 }) := rfl

end InPlace

/-! ### non-vacuity: aggregation with aliasing keys -/

section Example

private def exCall (args : Addr) : HCall :=
  { fn := { complete := b!"main.f" }, args := { values := some args },
    remoteSrcPath := b!"/src/main.go", line := 10 }

/-- two goroutines `main.f({0xc0000…}, 5)` sharing no cell; they differ in the pointer
inside the nested aggregate -/
private def exHeap : Heap :=
  { argCells := [ [.scalar [] 0xc000012340 true false false],                  -- 0: g1 {…}
                  [.agg (some 0) false, .scalar [] 5 false false false],        -- 1: g1 args
                  [.scalar [] 0xc000099990 true false false],                  -- 2: g2 {…}
                  [.agg (some 2) false, .scalar [] 5 false false false] ],      -- 3: g2 args
    callCells := [ [exCall 1],                                                  -- 0: g1 stack
                   [exCall 3] ] }                                               -- 1: g2 stack

private def exGs : List HGoroutine :=
  [ { sig := { state := b!"chan receive", stack := { calls := some 0 } }, id := 1, first := true },
    { sig := { state := b!"chan receive", stack := { calls := some 1 } }, id := 2 } ]

/-- the hypotheses of `snapshot_unchanged` hold -/
private theorem exWF : HeapWF 2 exHeap exGs := by
  intro g hg
  simp only [exGs, List.mem_cons, List.not_mem_nil, or_false] at hg
  rcases hg with rfl | rfl <;> rfl

/-- the heap after `Aggregate(AnyPointer)`: the six old cells are unchanged, the merged
key lives in three new ones (call cell 2 → arg cell 4 → nested arg cell 5) -/
private def exHeap' : Heap :=
  { argCells := exHeap.argCells ++
      [ [.agg (some 5) false, .scalar [] 5 false false false],                  -- 4: key args
        [.scalar star 0xc000012340 true false false] ],                         -- 5: key {*}
    callCells := exHeap.callCells ++
      [ [{ exCall 4 with }] ] }                                                 -- 2: key stack

/-- after the first goroutine the only key aliases goroutine 1's stack (call cell 0) … -/
example : bucketLoopH idHOracle 2 .anyPointer 0 exHeap [] (exGs.take 1) =
    (exHeap, [{ key := { state := b!"chan receive", stack := { calls := some 0 } },
                ids := [1], first := true, order := 0 }]) := by decide +kernel

private theorem ex_loop : bucketLoopH idHOracle 2 .anyPointer 0 exHeap [] exGs =
    (exHeap', [{ key := { state := b!"chan receive", stack := { calls := some 2 } },
                 ids := [1, 2], first := true, order := 0 }]) := by decide +kernel

/-- … and after the second one bucket is left, whose key points to the NEW call cell 2
(→ new arg cells 4, 5), while every cell of both goroutines is as before -/
example : aggregateH 2 .anyPointer exHeap exGs =
    (exHeap', [{ sig := { state := b!"chan receive", stack := { calls := some 2 } },
                 ids := [1, 2], first := true }]) := by
  rw [aggregateH, aggregateHWith, ex_loop, sortBucketsH, idHOracle, List.mergeSort_singleton]
  rfl

/-- `aggregate_refines` and `aggregate_twice` apply to the example -/
example : (aggregateH 2 .anyPointer exHeap exGs).2.map
      (absBucket 2 (aggregateH 2 .anyPointer exHeap exGs).1) =
    aggregate .anyPointer (absGoroutines 2 exHeap exGs) :=
  aggregate_refines 2 .anyPointer exHeap exGs exWF

example : (aggregateH 2 .anyPointer
      (afterAggregations 2 exGs [(idHOracle, .anyValue), (idHOracle, .exactFlags)] exHeap) exGs).2.map
      (absBucket 2 (aggregateH 2 .anyPointer
        (afterAggregations 2 exGs [(idHOracle, .anyValue), (idHOracle, .exactFlags)] exHeap) exGs).1) =
    (aggregateH 2 .anyPointer exHeap exGs).2.map
      (absBucket 2 (aggregateH 2 .anyPointer exHeap exGs).1) :=
  aggregate_twice 2 .anyPointer exHeap exGs exWF _

example : exHeap'.argCells.take 4 = exHeap.argCells ∧ exHeap'.callCells.take 2 = exHeap.callCells :=
  ⟨List.take_left' rfl, List.take_left' rfl⟩

/-- read back, the key is `main.f({*}, 5)` and the goroutines still carry their pointers -/
example : (absSig 2 exHeap' { state := b!"chan receive", stack := { calls := some 2 } }).stack.calls.map
      (·.args.values) =
    [[.agg [.scalar star 0xc000012340 true false false] false, .scalar [] 5 false false false]] ∧
    absGoroutines 2 exHeap' exGs = absGoroutines 2 exHeap exGs :=
  ⟨rfl, absGoroutines_ext ⟨LExt.append _ _, LExt.append _ _⟩ exWF 2⟩

end Example

#print axioms merge_frame
#print axioms mergeArgs_frame
#print axioms aggregate_frame
#print axioms snapshot_unchanged
#print axioms snapshot_wf_preserved
#print axioms snapshot_unchanged_seq
#print axioms merge_refines
#print axioms aggregate_refines
#print axioms aggregate_twice
#print axioms heapWF_mono

end PP.Alias
