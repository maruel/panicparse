import PP.Lemmas.ReaderLemmas
/-
C09 — the line reader (`fill` / `readSlice` / `readLine`, stack/reader.go) returns the
canonical line split of the byte stream, for every buffer capacity `N > 0`, every
retry bound, every delivery schedule whose runs of zero-length reads stay below the
retry bound, and independently of whether the terminal error arrives with or after
the last data.  Helpers are in `PP/Lemmas/ReaderLemmas.lean`.

Reader invariant used below (defined in the lemma file):
  `Good N r := r.buf.length ≤ N ∧ (r.err = none ∨ (r.err = some r.src.final ∧ r.src.rest = []))`
-/
namespace PP

/-! ### 1. No panic -/

set_option linter.unusedVariables false in
/-- `fill`'s "tried to fill full buffer" panic is unreachable from `readSlice`. -/
theorem readSlice_no_panic (N retry fuel : Nat) (r : Rd) (hN : 0 < N) (hb : r.buf.length ≤ N) :
    readSlice N retry fuel r ≠ some (.error .fillFull) :=
  (readSlice_inv N retry fuel r hb).1 .fillFull

/-- the capacity invariant is preserved by `readSlice` -/
theorem readSlice_buf_le (N retry fuel : Nat) (r : Rd) (hb : r.buf.length ≤ N)
    (l : Bytes) (e : Option SliceErr) (r' : Rd)
    (h : readSlice N retry fuel r = some (.ok (l, e, r'))) : r'.buf.length ≤ N :=
  ((readSlice_inv N retry fuel r hb).2 l e r' h).1

theorem readLine_no_panic (N retry fuel : Nat) (acc : Bytes) (r : Rd) (hb : r.buf.length ≤ N) :
    readLine N retry fuel acc r ≠ some (.error .fillFull) :=
  (readLine_inv N retry fuel acc r hb).1 .fillFull

/-- the capacity invariant is preserved by `readLine` -/
theorem readLine_buf_le (N retry fuel : Nat) (acc : Bytes) (r : Rd) (hb : r.buf.length ≤ N)
    (l : Bytes) (e : Option RErr) (r' : Rd)
    (h : readLine N retry fuel acc r = some (.ok (l, e, r'))) : r'.buf.length ≤ N :=
  (readLine_inv N retry fuel acc r hb).2 l e r' h

theorem readAll_no_panic (N retry fuel : Nat) (r : Rd) (hb : r.buf.length ≤ N) :
    readAll N retry fuel r ≠ some (.error .fillFull) := by
  fun_induction readAll N retry fuel r with
  | case1 | case2 | case4 | case5 => simp
  | case3 k r p hp => exact absurd hp ((readLine_inv N retry _ [] r hb).1 p)
  | case6 k r l r' hl hn ih => exact ih ((readLine_inv N retry _ [] r hb).2 _ _ _ hl)

/-! ### 2. The fuel built into the model suffices -/

set_option linter.unusedVariables false in
theorem readSlice_fuel (N retry : Nat) (r : Rd) (hN : 0 < N) (hb : r.buf.length ≤ N) :
    (readSlice N retry (N + 2) r).isSome :=
  readSlice_isSome N retry (N + 2) r hb (by omega) (by intro; omega)

theorem readLine_fuel (N retry : Nat) (r : Rd) (hN : 0 < N) (hb : r.buf.length ≤ N) :
    (readLine N retry (lineFuel r) [] r).isSome :=
  readLine_isSome N retry (lineFuel r) [] r hN hb (by simp [lineFuel])

/-- fuel and no-panic together: `readLine` always produces a result -/
theorem readLine_total (N retry : Nat) (r : Rd) (hN : 0 < N) (hb : r.buf.length ≤ N) :
    ∃ line e r', readLine N retry (lineFuel r) [] r = some (.ok (line, e, r')) := by
  have h1 := readLine_fuel N retry r hN hb
  rcases h : readLine N retry (lineFuel r) [] r with _ | p | ⟨l, e, r'⟩
  · rw [h] at h1; cases h1
  · exact absurd h ((readLine_inv N retry _ [] r hb).1 p)
  · exact ⟨l, e, r', rfl⟩

/-! ### 3. Refinement -/

/-- `readLine` returns the canonical next line of the remaining stream
`acc ++ r.buf ++ r.src.rest`: up to and including the first '\n' with no error, or, when
there is no '\n', the whole remainder together with the terminal error. -/
theorem readLine_spec (N retry fuel : Nat) (acc : Bytes) (r : Rd) (line : Bytes)
    (e : Option RErr) (r' : Rd)
    (hG : Good N r) (hR : maxZeroRun r.src.sched < retry) (hacc : cutNL acc = none)
    (h : readLine N retry fuel acc r = some (.ok (line, e, r'))) :
    Good N r' ∧ r'.src.final = r.src.final ∧ maxZeroRun r'.src.sched ≤ maxZeroRun r.src.sched ∧
    match cutNL (acc ++ r.buf ++ r.src.rest) with
    | some (l, rest) => line = l ∧ e = none ∧ r'.buf ++ r'.src.rest = rest
    | none => line = acc ++ r.buf ++ r.src.rest ∧ e = some r.src.final ∧
        r'.buf = [] ∧ r'.src.rest = [] ∧ r'.err = none := by
  obtain ⟨s1, s2, s3, s4⟩ := readLine_spec_aux N retry fuel acc r line e r' hG hR hacc h
  refine ⟨s1, s2, s3, ?_⟩
  rw [List.append_assoc]
  rcases s4 with ⟨t0, t1⟩ | ⟨t0, t1, t2, t3⟩
  · rw [t1]; exact ⟨rfl, t0, rfl⟩
  · rw [t1]; exact ⟨t2, t0, t3⟩

/-- the same statement without `cutNL`: in terms of "contains a '\n'" -/
theorem readLine_spec' (N retry fuel : Nat) (r : Rd) (line : Bytes)
    (e : Option RErr) (r' : Rd)
    (hG : Good N r) (hR : maxZeroRun r.src.sched < retry)
    (h : readLine N retry fuel [] r = some (.ok (line, e, r'))) :
    ((10 : UInt8) ∈ r.buf ++ r.src.rest →
        e = none ∧ (∃ p, (10 : UInt8) ∉ p ∧ line = p ++ [10]) ∧
        line ++ (r'.buf ++ r'.src.rest) = r.buf ++ r.src.rest) ∧
    ((10 : UInt8) ∉ r.buf ++ r.src.rest →
        e = some r.src.final ∧ line = r.buf ++ r.src.rest ∧ r'.buf = [] ∧ r'.src.rest = []) := by
  obtain ⟨_, _, _, s4⟩ :=
    readLine_spec_aux N retry fuel [] r line e r' hG hR (by simp [cutNL]) h
  simp only [List.nil_append] at s4
  rcases s4 with ⟨t0, t1⟩ | ⟨t0, t1, t2, t3, t4, _⟩
  · obtain ⟨p, hp, hl, hb⟩ := cutNL_some_spec t1
    refine ⟨fun _ => ⟨t0, ⟨p, hp, hl⟩, hb.symm⟩, fun hno => ?_⟩
    rw [(cutNL_none_iff _).mpr hno] at t1
    simp at t1
  · refine ⟨fun hin => absurd hin ((cutNL_none_iff _).mp t1), fun _ => ⟨t0, t2, t3, t4⟩⟩

/-- the sequence of lines depends only on the bytes and the terminal error; general form: from any reader state
satisfying the invariant -/
theorem readAll_spec_from (N retry fuel : Nat) (r : Rd) (hN : 0 < N) (hG : Good N r)
    (hR : maxZeroRun r.src.sched < retry) (hf : r.buf.length + r.src.rest.length + 1 ≤ fuel) :
    readAll N retry fuel r = some (.ok (specLines (r.buf ++ r.src.rest) r.src.final)) := by
  induction fuel generalizing r with
  | zero => omega
  | succ fuel ih =>
    obtain ⟨l, e, r1, hl⟩ := readLine_total N retry r hN hG.1
    obtain ⟨s1, s2, s3, s4⟩ := readLine_spec_aux _ _ _ _ _ _ _ _ hG hR rfl hl
    rw [List.nil_append] at s4
    rw [readAll, hl]
    rcases s4 with ⟨rfl, t1⟩ | ⟨rfl, t1, rfl, _⟩
    · have hlen := cutNL_some_length t1
      rw [List.length_append, List.length_append] at hlen
      rw [specLines_of_cutNL_some _ t1, ← s2]
      simp only [ih r1 s1 (Nat.lt_of_le_of_lt s3 hR) (by omega)]
    · rw [specLines_of_cutNL_none _ t1]

/-- … from the initial state -/
theorem readAll_spec (N retry : Nat) (hN : 0 < N) (s : Src) (hR : maxZeroRun s.sched < retry)
    (fuel : Nat) (hf : fuel ≥ s.rest.length + 1) :
    readAll N retry fuel { src := s } = some (.ok (specLines s.rest s.final)) := by
  have := readAll_spec_from N retry fuel { src := s } hN ⟨by simp, Or.inl rfl⟩ hR
    (by simp; omega)
  simpa using this

/-- independence of schedule, capacity, retry bound, and error-with-data -/
theorem readAll_delivery_indep (N₁ N₂ retry₁ retry₂ : Nat) (hN₁ : 0 < N₁) (hN₂ : 0 < N₂)
    (s₁ s₂ : Src) (hrest : s₁.rest = s₂.rest) (hfinal : s₁.final = s₂.final)
    (hR₁ : maxZeroRun s₁.sched < retry₁) (hR₂ : maxZeroRun s₂.sched < retry₂)
    (fuel₁ fuel₂ : Nat) (hf₁ : fuel₁ ≥ s₁.rest.length + 1) (hf₂ : fuel₂ ≥ s₂.rest.length + 1) :
    readAll N₁ retry₁ fuel₁ { src := s₁ } = readAll N₂ retry₂ fuel₂ { src := s₂ } := by
  rw [readAll_spec N₁ retry₁ hN₁ s₁ hR₁ fuel₁ hf₁, readAll_spec N₂ retry₂ hN₂ s₂ hR₂ fuel₂ hf₂,
    hrest, hfinal]

/-! ### 4. A source that delivers nothing is given up on (`io.ErrNoProgress`) -/

/-- `retry` consecutive zero-length reads without error make `fill` give up with
`io.ErrNoProgress`; no byte moves. -/
theorem fill_noProgress (N retry : Nat) (r : Rd) (t : List Nat)
    (hs : r.src.sched = List.replicate retry 0 ++ t) (hne : r.src.rest ≠ []) :
    (fillLoop N retry r).err = some .noProgress ∧ (fillLoop N retry r).buf = r.buf ∧
    (fillLoop N retry r).src.rest = r.src.rest ∧ (fillLoop N retry r).src.sched = t := by
  rw [fillLoop_noProgress N retry r t hs hne]
  exact ⟨rfl, rfl, rfl, rfl⟩

/-! ### Non-vacuity -/

section NonVacuity

/-- zero-length reads, error delivered together with the last data, a 7-byte line through
a 4-byte buffer -/
private def src1 : Src :=
  { rest := b!"ab\ncdefgh\n\nxyz", sched := [1, 0, 0, 2, 100, 3], final := .eof, withData := true }

example : maxZeroRun src1.sched < 100 := by decide
example : 0 < 4 ∧ 100 ≥ src1.rest.length + 1 := by decide

example : readAll 4 100 50 { src := src1 } =
    some (.ok [(b!"ab\n", none), (b!"cdefgh\n", none), (b!"\n", none), (b!"xyz", some .eof)]) := by
  rfl

example : specLines src1.rest src1.final =
    [(b!"ab\n", none), (b!"cdefgh\n", none), (b!"\n", none), (b!"xyz", some .eof)] := rfl

/-- the theorem applies to this source -/
example : readAll 4 100 50 { src := src1 } = some (.ok (specLines src1.rest src1.final)) :=
  readAll_spec 4 100 (by decide) src1 (by decide) 50 (by decide)

/-- a different delivery (big reads, separate EOF, other capacity) of the same bytes -/
example : readAll 4 100 50 { src := src1 } =
    readAll 16 3 20 { src := { rest := src1.rest, sched := [], final := .eof } } :=
  readAll_delivery_indep 4 16 100 3 (by decide) (by decide) _ _ rfl rfl (by decide) (by decide)
    50 20 (by decide) (by decide)

/-- the hypothesis on zero runs is needed: two zero reads with retry bound 2 give
`ErrNoProgress` in the middle of the stream -/
example : readAll 4 2 50 { src := { rest := b!"ab\ncd", sched := [1, 0, 0, 2], final := .eof } } =
    some (.ok [(b!"a", some .noProgress)]) := by rfl

/-- `fill_noProgress` applies -/
example : (fillLoop 4 2 { buf := b!"a", src := { rest := b!"b\ncd", sched := [0, 0, 2] } }).err =
    some .noProgress :=
  (fill_noProgress 4 2 _ [2] rfl (by decide)).1

/-- a pending error with complete lines still buffered satisfies the invariant, and the lines
come out first -/
example : Good 4 { buf := b!"a\nb", err := some .eof, src := { rest := [], sched := [] } } :=
  ⟨by decide, Or.inr ⟨rfl, rfl⟩⟩
example : readAll 4 1 5 { buf := b!"a\nb", err := some .eof, src := { rest := [], sched := [] } } =
    some (.ok [(b!"a\n", none), (b!"b", some .eof)]) := by rfl

end NonVacuity

end PP

#print axioms PP.readSlice_no_panic
#print axioms PP.readSlice_buf_le
#print axioms PP.readLine_no_panic
#print axioms PP.readLine_buf_le
#print axioms PP.readAll_no_panic
#print axioms PP.readSlice_fuel
#print axioms PP.readLine_fuel
#print axioms PP.readLine_total
#print axioms PP.readLine_spec
#print axioms PP.readLine_spec'
#print axioms PP.readAll_spec
#print axioms PP.readAll_spec_from
#print axioms PP.readAll_delivery_indep
#print axioms PP.fill_noProgress
#print axioms PP.splitLines_join
#print axioms PP.splitLines_lines
#print axioms PP.splitLines_tail_noNL
#print axioms PP.splitLines_line_append
