import PP.Lemmas.RoundTrip
import PP.Lemmas.ArgsPtr
/-
C01 — goroutine dump parse fidelity.

For every dump that the model of the Go runtime's traceback printer
(`PP.Spec.printDump`, tied byte for byte to the Go generator `PrintCfg.Dump` by
the harness property `SPEC`) can emit from a well-formed description, the
scanner returns exactly the goroutines the dump describes
(`PP.Spec.expected`, tied to `ExpectedGoroutines`).

Well-formedness (`PP.Spec.WF`, a decidable `Bool`, see PP/Spec/WF.lean):
* configuration: the dump indentation consists of tabs/spaces; the file
  indentation is one tab or `n ≥ 1` spaces;
* ids, minutes and line numbers `< 10^18` (atou accepts 18 digits);
* status text (`state[ (scan)]`): non-empty, no newline, no `]`, no `", "`;
* `gp=`/`m=`/`mp=` words: non-empty, no space, no newline;
* function symbol: the name has no newline, '/', '%' and does not end in CR;
  a C-like symbol (empty package) has a non-empty name without '.'; unless it
  is a creator printed with ` in goroutine N`, the name does not itself have
  the form `… in goroutine X`; the printed symbol starts neither with a blank
  nor with `created by `;  the package path is arbitrary (it is escaped);
* arguments: every word `< 2^64`, aggregates nested at most 5 deep (or the
  frame is printed inlined, `(...)`);
* file: no newline; `??`, `<autogenerated>` or a non-empty stem followed by
  `.go`/`.s`/`.c`; does not start with a space when the file indentation
  consists of spaces;  offsets and fp/sp/pc annotations are arbitrary;
* a goroutine has an unavailable stack or at least one frame; the elision
  marker comes after the first frame and before some frame.
-/
namespace PP.Spec
open PP Bytes

/-- **C01 round trip**, all print variants (LF and CRLF, any blank dump indentation, tab or
space file indentation, `gp=/m=/mp=` header annotations, ` +0x…` offsets, `fp=/sp=/pc=`
annotations, both elision markers, unavailable stacks, creators with and without parent,
inlined frames, nested/elided/`_`/`?` arguments, escaped package paths):
the read-scan-forward loop over the lines of the printed dump consumes every line, forwards
nothing, leaves nothing unread, ends on the reader's EOF without panic, and has built exactly
the described goroutines. -/
theorem roundtrip (c : PrintCfg) (d : List GSpec) (hne : d ≠ []) (hwf : WF c d = true) :
    let o := scanL {} [] [] (specLines (printDump c d) .eof)
    o.err = some (.reader .eof) ∧ o.fwd = [] ∧ o.rest = [] ∧ o.s.gs = expected d ∧
      o.panicked = none ∧ o.broke = false ∧ o.consumed = dumpRaw c d ∧ o.s.st ≠ .done := by
  obtain ⟨st, hst, h⟩ := roundtrip_aux c d hne hwf
  rw [h]
  refine ⟨rfl, rfl, rfl, rfl, rfl, rfl, rfl, ?_⟩
  show st ≠ .done
  rcases hst with h | h | h <;> rw [h] <;> simp

/-- the same through `ScanSnapshot`'s line-level model: the snapshot is the description, nothing
is forwarded, no suffix is handed back -/
theorem roundtrip_snapshot (c : PrintCfg) (d : List GSpec) (hne : d ≠ []) (hwf : WF c d = true) :
    let r := scanSnapshotL false (printDump c d) .eof
    r.snap = some (expected d) ∧ r.fwd = [] ∧ r.suffix = none ∧ r.unread = [] ∧
      r.err = some (.reader .eof) ∧ r.panicked = false := by
  obtain ⟨st, hst, h⟩ := roundtrip_aux c d hne hwf
  have hexp : (expected d).isEmpty = false := by
    cases d with
    | nil => exact absurd rfl hne
    | cons g t => rfl
  have hnd : (st == St.done) = false := by
    rcases hst with h | h | h <;> rw [h] <;> rfl
  simp only [scanSnapshotL, h, hexp, hnd]
  simp

/-- only the first goroutine of the described snapshot is marked `first` -/
theorem first_only_first (d : List GSpec) :
    (expected d).map (·.first) = (List.replicate d.length false).set 0 true := by
  cases d with
  | nil => rfl
  | cons g t =>
    simp only [expected, List.map_cons, List.map_map, List.length_cons, List.replicate_succ, List.set_cons_zero]
    congr 1
    exact List.map_const' (l := t) (b := false)

/-- the same in the form `true :: false :: … :: false` -/
theorem first_only_first' (d : List GSpec) (hne : d ≠ []) :
    (expected d).map (·.first) = true :: List.replicate (d.length - 1) false := by
  rw [first_only_first]
  cases d with
  | nil => exact absurd rfl hne
  | cons g t => simp [List.replicate_succ]

/-- pointer-likeness of a parsed value depends only on the value: every scalar that `parseArgs`
produces, for EVERY input line, has `isPtr = isPtrValue value` -/
theorem isPtr_iff (line : Bytes) (a : Args) (h : parseArgs line = .ok a) : ArgsPtrOK a.values :=
  parseArgs_isPtr line a h

/-! ### non-vacuity -/

/-- three goroutines: nested / elided / `_` / `?` arguments, an inlined frame, an elision marker,
fp/sp/pc and gp/m/mp annotations, an escaped package path, a creator with parent, an
unavailable stack with a C-like creator without parent -/
def exDump : List GSpec := [
  { id := 1, state := b!"running", locked := true,
    frames := [
      { pkg := b!"main", name := b!"main",
        args := [.val 0xc000012345 false, .agg [.val 1 true, .otl, .agg [] true] false], argsElide := true,
        file := b!"/root/main.go", line := 12, off := some 0x1f },
      { pkg := b!"gopkg.in/yaml.v2", name := b!"(*T).Do", inlined := true, file := b!"<autogenerated>", line := 1 },
      { pkg := b!"runtime", name := b!"goexit", file := b!"/usr/lib/go/src/runtime/asm_amd64.s", line := 1650,
        off := some 1, fp := some (0xc000100000, 0xc0000fff00, some 0x401000) } ],
    elided := some (some 7, 2) },
  { id := 18, state := b!"chan receive", scan := true, waitMin := 5,
    gpm := some (b!"0xc000002000", b!"3", some b!"0xc000040000"),
    frames := [ { pkg := b!"a b/c.d", name := b!"F.func1", args := [.otl], file := b!"C:/x y/z.go", line := 3 } ],
    created := some ({ pkg := b!"main", name := b!"main", file := b!"/root/main.go", line := 10, off := some 0x45 }, some 1) },
  { id := 19, state := b!"runnable", unavail := true,
    created := some ({ pkg := [], name := b!"_cgo_thread", file := b!"??", line := 0 }, none) } ]

def exCfg : PrintCfg := { crlf := true, indent := b!"  ", fileIndent := b!"    " }

example : exDump ≠ [] := by decide
theorem exDump_wf : WF {} exDump = true := by decide +kernel
theorem exDump_wf_cfg : WF exCfg exDump = true := by decide +kernel

example : WF {} exDump = true := exDump_wf
example : WF exCfg exDump = true := exDump_wf_cfg

set_option maxRecDepth 100000 in
example : printDump {} exDump =
    b!"goroutine 1 [running, locked to thread]:\nmain.main(0xc000012345, {0x1?, _, {...}}, ...)\n\t/root/main.go:12 +0x1f\ngopkg.in/yaml%2ev2.(*T).Do(...)\n\t<autogenerated>:1\n...7 frames elided...\nruntime.goexit()\n\t/usr/lib/go/src/runtime/asm_amd64.s:1650 +0x1 fp=0xc000100000 sp=0xc0000fff00 pc=0x401000\n\ngoroutine 18 gp=0xc000002000 m=3 mp=0xc000040000 [chan receive (scan), 5 minutes]:\na%20b/c%2ed.F.func1(_)\n\tC:/x y/z.go:3\ncreated by main.main in goroutine 1\n\t/root/main.go:10 +0x45\n\ngoroutine 19 [runnable]:\n\tgoroutine running on other thread; stack unavailable\ncreated by _cgo_thread\n\t??:0\n" := by
  decide +kernel

/-- the theorem applies to it, in both configurations -/
example := roundtrip {} exDump (by decide) exDump_wf
example := roundtrip exCfg exDump (by decide) exDump_wf_cfg

/-- and the description it promises: three goroutines, the first one `first`, the third with
an unavailable stack -/
example : (expected exDump).map (fun g => (g.id, g.first, g.sig.stack.calls.length, g.sig.createdBy.calls.length)) =
    [(1, true, 3, 0), (18, false, 1, 1), (19, false, 1, 1)] := by decide

end PP.Spec

#print axioms PP.Spec.roundtrip
#print axioms PP.Spec.roundtrip_snapshot
#print axioms PP.Spec.first_only_first
#print axioms PP.Spec.first_only_first'
#print axioms PP.Spec.isPtr_iff
