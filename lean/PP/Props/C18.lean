import PP.Lemmas.RootsUpd
import PP.Lemmas.RootsFind
import PP.Lemmas.RootsLayout
import PP.Lemmas.RootsSplit
import PP.Lemmas.RootsMulti
/-
C18  Path rebasing maps remote paths to the right local files and classes.

The statements, with the numbers their docstrings carry:
* 1–6  `Call.updateLocations`: 1 the suffix of a resolved path, 2 the root used,
  3 class and import path, 4 when it returns false / true, 5 the generated test
  main, 6 the innermost root and independence of map order.  They hold for every
  goroot, every pair of maps and every call, without well-formedness hypothesis.
* `findRoots` and `guessPaths` do not panic.
* 7  `findRoots` is sound, for every file-system oracle: what it records has a
  witness among the frames of the dump.
* 8  single-GOPATH layout, one frame (`layout_correct_partial`, under `LayoutHyp`
  and `NoOtherClaim`).
* 9  several roots at once (`layout_correct_multi`, under `MultiHyp`); 9a–9c the
  frame's own file as witness.
* 10, 10'  local `go.mod` modules and `go run` directories (`layout_correct_gomod`,
  `layout_correct_gorun`), same hypotheses as 9.
-/
namespace PP.C18
open PP Bytes

/-! ## `Call.updateLocations` -/

variable {c c' : Call} {goroot lg : Bytes} {gomods gopaths : AMap}

/-- The complete description of a successful update: which root, which
separator, and every field that was written. -/
theorem resolved_shape (h : c.updateLocations goroot lg gomods gopaths = (c', true)) :
    Resolved c goroot lg gomods gopaths c' :=
  updateLocations?_resolved (updateLocations_true.mp h)

theorem suffix_of_sep (root s rel : Bytes) :
    hasSuffix (root ++ (s ++ b!"/") ++ rel) (b!"/" ++ rel) = true ∧ hasSuffix (root ++ (s ++ b!"/") ++ rel) rel = true :=
  ⟨(hasSuffix_iff _ _).mpr ⟨root ++ s, by simp⟩, hasSuffix_append _ _⟩

/-- 1. A resolved local path ends with `/` + the relative path, and so does the
remote path. -/
theorem resolved_suffix (h : c.updateLocations goroot lg gomods gopaths = (c', true)) :
    hasSuffix c'.localSrcPath (b!"/" ++ c'.relSrcPath) = true ∧
    hasSuffix c'.localSrcPath c'.relSrcPath = true ∧
    hasSuffix c.remoteSrcPath (b!"/" ++ c'.relSrcPath) = true := by
  cases resolved_shape h with
  | goroot rel hg hr hc =>
    subst hc
    exact ⟨pathJoin_src lg rel ▸ (suffix_of_sep lg b!"/src" rel).1, pathJoin_src lg rel ▸ (suffix_of_sep lg b!"/src" rel).2,
      hr ▸ (suffix_of_sep goroot b!"/src" rel).1⟩
  | src k rel hk hr hc =>
    subst hc
    exact ⟨pathJoin_src _ rel ▸ (suffix_of_sep _ b!"/src" rel).1, pathJoin_src _ rel ▸ (suffix_of_sep _ b!"/src" rel).2,
      hr ▸ (suffix_of_sep k b!"/src" rel).1⟩
  | pkgmod k rel hk hr hc =>
    subst hc
    exact ⟨pathJoin_pkgmod _ rel ▸ (suffix_of_sep _ b!"/pkg/mod" rel).1,
      pathJoin_pkgmod _ rel ▸ (suffix_of_sep _ b!"/pkg/mod" rel).2, hr ▸ (suffix_of_sep k b!"/pkg/mod" rel).1⟩
  | gomod k rel hk hr hc =>
    subst hc
    exact ⟨hr ▸ (suffix_of_sep k [] rel).1, hr ▸ (suffix_of_sep k [] rel).2, hr ▸ (suffix_of_sep k [] rel).1⟩

/-- 1, module case: the local path is the remote path. -/
theorem resolved_gomod_local (h : c.updateLocations goroot lg gomods gopaths = (c', true))
    (hl : c'.location = .goMod) (hu : c.location = .unknown) :
    c'.localSrcPath = c.remoteSrcPath := by
  cases resolved_shape h with
  | goroot rel hg hr hc => subst hc; simp [setLoc, hu] at hl
  | src k rel hk hr hc => subst hc; simp [setLoc, hu] at hl
  | pkgmod k rel hk hr hc => subst hc; simp [setLoc, hu] at hl
  | gomod k rel hk hr hc => subst hc; rfl

/-- 2. The root used is one of the given roots and a prefix of the frame:
remote = root ++ sep ++ rel with sep one of `/src/`, `/pkg/mod/`, `/`. -/
theorem root_is_prefix (h : c.updateLocations goroot lg gomods gopaths = (c', true)) :
    ∃ root ∈ goroot :: (gopaths.keys ++ gomods.keys), ∃ sep ∈ [srcSep, pkgmodSep, b!"/"],
      c.remoteSrcPath = root ++ sep ++ c'.relSrcPath ∧
      hasPrefix c.remoteSrcPath (root ++ b!"/") = true := by
  cases resolved_shape h with
  | goroot rel hg hr hc =>
    subst hc
    exact ⟨goroot, by simp, srcSep, by simp, hr, under_of_src ((hasPrefix_iff _ _).mpr ⟨rel, hr⟩)⟩
  | src k rel hk hr hc =>
    subst hc
    exact ⟨k, by simp [hk], srcSep, by simp, hr, under_of_src ((hasPrefix_iff _ _).mpr ⟨rel, hr⟩)⟩
  | pkgmod k rel hk hr hc =>
    subst hc
    exact ⟨k, by simp [hk], pkgmodSep, by simp, hr, under_of_pkgmod ((hasPrefix_iff _ _).mpr ⟨rel, hr⟩)⟩
  | gomod k rel hk hr hc =>
    subst hc
    exact ⟨k, by simp [hk], b!"/", by simp, hr, (hasPrefix_iff _ _).mpr ⟨rel, hr⟩⟩

/-- 3a. A location that was already set (the generated test main) is never
changed. -/
theorem location_kept (h : c.updateLocations goroot lg gomods gopaths = (c', true))
    (hl : c.location ≠ .unknown) : c'.location = c.location := by
  cases resolved_shape h <;> rename_i hc <;> subst hc <;> simp [setLoc, hl]

/-- 3b. From `unknown`, the class follows the branch. -/
theorem class_by_branch (h : c.updateLocations goroot lg gomods gopaths = (c', true))
    (hl : c.location = .unknown) :
    (c'.location = .stdlib ∧ goroot ≠ [] ∧ c.remoteSrcPath = goroot ++ srcSep ++ c'.relSrcPath ∧
        c'.localSrcPath = pathJoin [lg, b!"src", c'.relSrcPath]) ∨
    (c'.location = .gopath ∧ ∃ k ∈ gopaths.keys, c.remoteSrcPath = k ++ srcSep ++ c'.relSrcPath ∧
        c'.localSrcPath = pathJoin [gopaths.get k, b!"src", c'.relSrcPath]) ∨
    (c'.location = .goPkg ∧ ∃ k ∈ gopaths.keys, c.remoteSrcPath = k ++ pkgmodSep ++ c'.relSrcPath ∧
        c'.localSrcPath = pathJoin [gopaths.get k, b!"pkg/mod", c'.relSrcPath]) ∨
    (c'.location = .goMod ∧ ∃ k ∈ gomods.keys, c.remoteSrcPath = k ++ b!"/" ++ c'.relSrcPath ∧
        c'.localSrcPath = c.remoteSrcPath ∧ c'.importPath = gomodImport (gomods.get k) c'.relSrcPath) := by
  cases resolved_shape h with
  | goroot rel hg hr hc => subst hc; exact Or.inl ⟨by simp [setLoc, hl], hg, hr, rfl⟩
  | src k rel hk hr hc => subst hc; exact Or.inr (Or.inl ⟨by simp [setLoc, hl], k, hk, hr, rfl⟩)
  | pkgmod k rel hk hr hc =>
    subst hc; exact Or.inr (Or.inr (Or.inl ⟨by simp [setLoc, hl], k, hk, hr, rfl⟩))
  | gomod k rel hk hr hc =>
    subst hc; exact Or.inr (Or.inr (Or.inr ⟨by simp [setLoc, hl], k, hk, hr, rfl, rfl⟩))

/-- 3c. In the three GOROOT/GOPATH branches the import path is the directory of
the relative path (unchanged when the relative path has no directory). -/
theorem import_of_rel (h : c.updateLocations goroot lg gomods gopaths = (c', true))
    (hl : c'.location ≠ .goMod) (hu : c.location = .unknown) :
    c'.importPath = importOfRel c'.relSrcPath c.importPath := by
  cases resolved_shape h with
  | goroot rel hg hr hc => subst hc; rfl
  | src k rel hk hr hc => subst hc; rfl
  | pkgmod k rel hk hr hc => subst hc; rfl
  | gomod k rel hk hr hc => subst hc; simp [setLoc, hu] at hl

/-- 4. When `updateLocations` returns false no field is touched. -/
theorem unresolved_stays_unknown (h : (c.updateLocations goroot lg gomods gopaths).2 = false) :
    (c.updateLocations goroot lg gomods gopaths).1 = c := by
  unfold Call.updateLocations at h ⊢
  cases hu : c.updateLocations? goroot lg gomods gopaths with
  | none => rfl
  | some c' => simp [hu] at h

/-- 4'. It returns true exactly when the frame has a path and lies under one of
the roots (at a `/src/`, `/pkg/mod/`, resp. `/` boundary). -/
theorem resolved_iff :
    (c.updateLocations goroot lg gomods gopaths).2 = true ↔
      c.remoteSrcPath ≠ [] ∧
      ((goroot ≠ [] ∧ hasPrefix c.remoteSrcPath (goroot ++ srcSep) = true) ∨
       (∃ k ∈ gopaths.keys, hasPrefix c.remoteSrcPath (k ++ srcSep) = true ∨
          hasPrefix c.remoteSrcPath (k ++ pkgmodSep) = true) ∨
       (∃ k ∈ gomods.keys, hasPrefix c.remoteSrcPath (k ++ b!"/") = true)) := by
  constructor
  · intro h
    have h' : c.updateLocations goroot lg gomods gopaths =
        ((c.updateLocations goroot lg gomods gopaths).1, true) := by
      rw [← h]
    refine ⟨(updateLocations?_cases.mp (updateLocations_true.mp h')).1, ?_⟩
    cases resolved_shape h' with
    | goroot rel hg hr hc => exact Or.inl ⟨hg, (hasPrefix_iff _ _).mpr ⟨rel, hr⟩⟩
    | src k rel hk hr hc => exact Or.inr (Or.inl ⟨k, hk, Or.inl ((hasPrefix_iff _ _).mpr ⟨rel, hr⟩)⟩)
    | pkgmod k rel hk hr hc => exact Or.inr (Or.inl ⟨k, hk, Or.inr ((hasPrefix_iff _ _).mpr ⟨rel, hr⟩)⟩)
    | gomod k rel hk hr hc => exact Or.inr (Or.inr ⟨k, hk, (hasPrefix_iff _ _).mpr ⟨rel, hr⟩⟩)
  · rintro ⟨hne, hroot⟩
    unfold Call.updateLocations
    cases hu : c.updateLocations? goroot lg gomods gopaths with
    | some c' => rfl
    | none =>
      exfalso
      obtain ⟨hg, hp, hm⟩ := (updateLocations?_eq_none.mp hu).resolve_left hne
      rw [gopathLoop_eq, List.findSome?_eq_none_iff] at hp
      rw [gomodLoop_eq, List.findSome?_eq_none_iff] at hm
      rcases hroot with ⟨hg1, hg2⟩ | ⟨k, hk, hk2⟩ | ⟨k, hk, hk2⟩
      · rcases tryGoroot_eq_none.mp hg with h | h
        · exact hg1 h
        · rw [hg2] at h; cases h
      · have := tryGopath_eq_none.mp (hp k (mem_sortedByLen.mpr hk))
        rcases hk2 with h | h
        · rw [h] at this; cases this.1
        · rw [h] at this; cases this.2
      · have := tryGomod_eq_none.mp (hm k (mem_sortedByLen.mpr hk))
        rw [hk2] at this
        cases this

/-- 5. The go-test generated main is standard library from `Call.init` on … -/
theorem testmain_stdlib (c : Call) (path : Bytes) (line : Nat) (hp : path ≠ [])
    (h : (Call.init c path line).dirSrc = testMainSrc) :
    (Call.init c path line).location = .stdlib := by
  have key : ∀ c1 : Call,
      (if c1.dirSrc == testMainSrc then { c1 with location := Loc.stdlib } else c1).dirSrc = testMainSrc →
      (if c1.dirSrc == testMainSrc then { c1 with location := Loc.stdlib } else c1).location = .stdlib := by
    intro c1 h1
    by_cases hc : c1.dirSrc == testMainSrc
    · rw [if_pos hc]
    · rw [if_neg hc] at h1
      exact absurd (beq_iff_eq.mpr h1) hc
  unfold Call.init at h ⊢
  have hp' : (path != []) = true := by simpa using hp
  simp only [hp', if_true] at h ⊢
  exact key _ h

/-- … and `updateLocations` keeps it, whatever the roots. -/
theorem testmain_kept (h : c.updateLocations goroot lg gomods gopaths = (c', b)) (hl : c.location = .stdlib) :
    c'.location = .stdlib := by
  cases b with
  | true => rw [location_kept h (by simp [hl]), hl]
  | false =>
    have h2 : (c.updateLocations goroot lg gomods gopaths).2 = false := by rw [h]
    have := unresolved_stays_unknown h2
    rw [h] at this
    simp only at this
    rw [this, hl]

/-- 6a. Among the GOPATH keys (resp. module keys) that are prefixes of the
frame at the right boundary, the longest one is used. -/
theorem innermost_root (h : c.updateLocations goroot lg gomods gopaths = (c', true)) :
    c.tryGoroot goroot lg = some c' ∨
    (∃ k ∈ gopaths.keys, c.tryGopath k (gopaths.get k) = some c' ∧
      ∀ k' ∈ gopaths.keys, (hasPrefix c.remoteSrcPath (k' ++ srcSep) = true ∨
        hasPrefix c.remoteSrcPath (k' ++ pkgmodSep) = true) → k'.length ≤ k.length) ∨
    (∃ k ∈ gomods.keys, c.tryGomod k (gomods.get k) = some c' ∧
      ∀ k' ∈ gomods.keys, hasPrefix c.remoteSrcPath (k' ++ b!"/") = true → k'.length ≤ k.length) := by
  obtain ⟨_, h | ⟨_, h⟩ | ⟨_, _, h⟩⟩ := updateLocations?_cases.mp (updateLocations_true.mp h)
  · exact Or.inl h
  · obtain ⟨k, hk, hf, hmax⟩ := sortedByLen_findSome (gopathLoop_eq .. ▸ h)
    refine Or.inr (Or.inl ⟨k, hk, hf, fun k' hk' hm => hmax k' hk' fun hn => ?_⟩)
    have := tryGopath_eq_none.mp hn
    rcases hm with hm | hm
    · rw [hm] at this; cases this.1
    · rw [hm] at this; cases this.2
  · obtain ⟨k, hk, hf, hmax⟩ := sortedByLen_findSome (gomodLoop_eq .. ▸ h)
    refine Or.inr (Or.inr ⟨k, hk, hf, fun k' hk' hm => hmax k' hk' fun hn => ?_⟩)
    rw [tryGomod_eq_none.mp hn] at hm
    cases hm

/-- 6b. Determinism w.r.t. map order: permuting the association lists (distinct
keys) does not change the result. -/
theorem updateLocations_perm {gomods' gopaths' : AMap}
    (pm : gomods.Perm gomods') (pp : gopaths.Perm gopaths') (ndm : gomods.Nodup) (ndp : gopaths.Nodup) :
    c.updateLocations goroot lg gomods gopaths = c.updateLocations goroot lg gomods' gopaths' := by
  unfold Call.updateLocations
  rw [updateLocations?_perm pm pp ndm ndp]

/-- 6b for a whole goroutine (stack and creator). -/
theorem goroutine_updateLocations_perm {gomods' gopaths' : AMap} (g : Goroutine)
    (pm : gomods.Perm gomods') (pp : gopaths.Perm gopaths') (ndm : gomods.Nodup) (ndp : gopaths.Nodup) :
    g.updateLocations goroot lg gomods gopaths = g.updateLocations goroot lg gomods' gopaths' := by
  have e : ∀ c : Call, c.updateLocations goroot lg gomods gopaths = c.updateLocations goroot lg gomods' gopaths' :=
    fun c => updateLocations_perm pm pp ndm ndp
  simp only [PP.Goroutine.updateLocations, Signature.updateLocations, Stack.updateLocations, e]

end PP.C18

namespace PP.C18
open PP Bytes

/-! ## `findRoots` and `guessPaths` -/

/-- `findRoots` cannot panic: the slice expressions `r[:len(r)-len(src)]` are
guarded by `strings.HasSuffix(r, "/src")` resp. `"/pkg/mod"` (a test `r != ""`
would not be enough), so they are in range for every oracle and every dump. -/
theorem findRoots_no_panic (fs : FS) (s : Snapshot) : ∃ st, Snapshot.findRoots fs s = .ok st :=
  findRootsLoop_ok fs s.localGOROOT s.localGOPATHs _ _

/-- … and neither can `guessPaths`. -/
theorem guessPaths_no_panic (fs : FS) (s : Snapshot) : ∃ r, Snapshot.guessPaths fs s = .ok r := by
  obtain ⟨st, h⟩ := findRoots_no_panic fs s
  unfold Snapshot.guessPaths
  rw [h]
  exact ⟨_, rfl⟩

/-- the slice is valid whenever the suffix test succeeds -/
theorem hasSuffix_length_le {r suf : Bytes} (h : hasSuffix r suf = true) : suf.length ≤ r.length :=
  length_le_of_hasSuffix h

/-- 7. `findRoots` soundness, for every oracle (`RootWitness fs f loc suf k`:
`k ++ suf` is `parts[:i]` joined for some `0 < i < len(parts)`,
`parts = splitPath f`, and `loc/parts[i:]` is a file):
* `RemoteGOROOT` is what it was, or there is a stack frame file `f` such that
  `RemoteGOROOT ++ "/src"` is a proper prefix `parts[:i]` of its parts and the
  rest is a file under `LocalGOROOT/src`;
* every `RemoteGOPATHs` entry `(k, l)` has `l ∈ LocalGOPATHs` and such a witness
  with `k ++ "/src"` under `l/src`, or `k ++ "/pkg/mod"` under `l/pkg/mod`;
* every `LocalGomods` entry is a proper directory prefix `parts[:i]` of a stack
  frame file whose `go.mod` was read and matched `module` with that value, or
  `path.Dir(f)` of an existing frame file with value `main`. -/
theorem findRoots_sound (fs : FS) (s : Snapshot) {st : RootsState} (h : s.findRoots fs = .ok st) :
    (st.goroot = s.remoteGOROOT ∨
      ∃ f ∈ getFiles s.goroutines, RootWitness fs f (s.localGOROOT ++ srcDir) srcDir st.goroot) ∧
    (∀ kv ∈ st.gopaths, GopathOK fs s.localGOPATHs (getFiles s.goroutines) kv) ∧
    (∀ kv ∈ st.gomods, GomodOK fs (getFiles s.goroutines) kv) := by
  have hs : Sound fs s.localGOROOT s.localGOPATHs (getFiles s.goroutines) s.remoteGOROOT
      { goroot := s.remoteGOROOT } := ⟨Or.inl rfl, by simp, by simp⟩
  have := findRootsLoop_sound (getFiles s.goroutines) (fun _ h => h) hs h
  exact ⟨this.goroot, this.gopaths, this.gomods⟩

/-- 7, GOPATH, at the level of path components: for a detected entry `(k, l)`
there is a frame of some stack, with parts `parts = splitPath(path)`, and a cut
`0 < i < len(parts)` such that `k ++ "/src"` (resp. `k ++ "/pkg/mod"`) is exactly
`parts[:i]` joined, and `parts[i:]` joined exists under `l/src` (resp.
`l/pkg/mod`).  The cut is at a component boundary and what was removed from
`parts[:i]` to get `k` is the directory `/src` (resp. `/pkg/mod`) itself. -/
theorem detected_gopath_at_boundary (fs : FS) (s : Snapshot) {st : RootsState} (h : s.findRoots fs = .ok st)
    {k l : Bytes} (hk : (k, l) ∈ st.gopaths) :
    l ∈ s.localGOPATHs ∧ ∃ g ∈ s.goroutines, ∃ c ∈ g.sig.stack.calls,
      ∃ i, 0 < i ∧ i < (splitPath c.remoteSrcPath).length ∧
      ((k ++ srcDir = pathJoin ((splitPath c.remoteSrcPath).take i) ∧
          fs.isFile (l ++ srcDir ++ b!"/" ++ pathJoin ((splitPath c.remoteSrcPath).drop i)) = true) ∨
       (k ++ pkgmodDir = pathJoin ((splitPath c.remoteSrcPath).take i) ∧
          fs.isFile (l ++ pkgmodDir ++ b!"/" ++ pathJoin ((splitPath c.remoteSrcPath).drop i)) = true)) := by
  obtain ⟨hl, f, hf, hw⟩ := (findRoots_sound fs s h).2.1 _ hk
  obtain ⟨g, hg, c, hc, rfl⟩ := mem_getFiles.mp hf
  refine ⟨hl, g, hg, c, hc, ?_⟩
  rcases hw with ⟨i, h1, h2, h3, h4⟩ | ⟨i, h1, h2, h3, h4⟩
  · exact ⟨i, h1, h2, Or.inl ⟨h3, h4⟩⟩
  · exact ⟨i, h1, h2, Or.inr ⟨h3, h4⟩⟩

/-- 7, GOROOT, at the level of path components. -/
theorem detected_goroot_at_boundary (fs : FS) (s : Snapshot) {st : RootsState} (h : s.findRoots fs = .ok st)
    (hne : st.goroot ≠ s.remoteGOROOT) :
    ∃ g ∈ s.goroutines, ∃ c ∈ g.sig.stack.calls, ∃ i, 0 < i ∧ i < (splitPath c.remoteSrcPath).length ∧
      st.goroot ++ srcDir = pathJoin ((splitPath c.remoteSrcPath).take i) ∧
      fs.isFile (s.localGOROOT ++ srcDir ++ b!"/" ++ pathJoin ((splitPath c.remoteSrcPath).drop i)) = true := by
  rcases (findRoots_sound fs s h).1 with h1 | ⟨f, hf, hw⟩
  · exact absurd h1 hne
  · obtain ⟨g, hg, c, hc, rfl⟩ := mem_getFiles.mp hf
    exact ⟨g, hg, c, hc, hw⟩

/-- 7, the directory cut off really is the part `src`: when `k ++ "/src"` is
`parts[:i]` joined (`parts = splitPath f`, the shape given by
`detected_gopath_at_boundary` / `detected_goroot_at_boundary`) and `i ≥ 2`, then
`parts[i-1] = "src"` and `k` is `parts[:i-1]` joined — the cut is between two
parts of the frame's path. -/
theorem cut_is_src_part {f k : Bytes} {i : Nat} (h2 : 2 ≤ i) (hi : i ≤ (splitPath f).length)
    (h : k ++ srcDir = pathJoin ((splitPath f).take i)) :
    (splitPath f)[i - 1]? = some b!"src" ∧ k = pathJoin ((splitPath f).take (i - 1)) :=
  cut_last_part (x := b!"src") (splitPath_shape f) h2 hi (by decide) h

/-- … and for `i = 1` the first part (which keeps the leading slashes of the
path) is `k ++ "/src"` with `k` a run of `/` (`/src/fmt/print.go` gives the
root `""`). -/
theorem cut_in_first_part {f k : Bytes} (h : k ++ srcDir = pathJoin ((splitPath f).take 1)) :
    (splitPath f).head? = some (k ++ srcDir) ∧ ∀ c ∈ k, c = 47 := by
  have hs := (splitPath_shape f).head
  cases hp : splitPath f with
  | nil =>
    rw [hp] at h
    exact absurd (congrArg List.length h) (by simp [srcDir, pathJoin, Bytes.join])
  | cons a t =>
    rw [hp] at h hs
    have e : a = k ++ srcDir := h.symm
    refine ⟨by simp [e], ?_⟩
    have := hs a (by simp)
    rw [e] at this
    exact firstShape_cut (x := b!"src") this

/-- 7, `/pkg/mod`: when `k ++ "/pkg/mod"` is `parts[:i]` joined and `i ≥ 3`, then
`parts[i-2] = "pkg"`, `parts[i-1] = "mod"` and `k` is `parts[:i-2]` joined. -/
theorem cut_is_pkgmod_parts {f k : Bytes} {i : Nat} (h3 : 3 ≤ i) (hi : i ≤ (splitPath f).length)
    (h : k ++ pkgmodDir = pathJoin ((splitPath f).take i)) :
    (splitPath f)[i - 2]? = some b!"pkg" ∧ (splitPath f)[i - 1]? = some b!"mod" ∧
      k = pathJoin ((splitPath f).take (i - 2)) := by
  have h' : (k ++ b!"/pkg") ++ 47 :: b!"mod" = pathJoin ((splitPath f).take i) := by
    rw [← h]; simp [pkgmodDir]
  obtain ⟨e1, e2⟩ := cut_last_part (splitPath_shape f) (by omega) hi (by decide) h'
  obtain ⟨e3, e4⟩ := cut_last_part (k := k) (x := b!"pkg") (splitPath_shape f) (i := i - 1) (by omega) (by omega)
    (by decide) e2
  exact ⟨by rw [← e3]; congr 1, e1, by rw [e4]; congr 2⟩

/-- 7, "a detected root is a prefix of the frames it explains": a detected
GOPATH key is a prefix of the normalised path of a frame of some stack, followed
by `/src/` (resp. `/pkg/mod/`) and a path that exists under the local root. -/
theorem detected_gopath_is_prefix (fs : FS) (s : Snapshot) {st : RootsState} (h : s.findRoots fs = .ok st)
    {k l : Bytes} (hk : (k, l) ∈ st.gopaths) :
    l ∈ s.localGOPATHs ∧ ∃ g ∈ s.goroutines, ∃ c ∈ g.sig.stack.calls, ∃ rel,
      (pathJoin (splitPath c.remoteSrcPath) = k ++ srcSep ++ rel ∧
          fs.isFile (l ++ srcSep ++ rel) = true) ∨
      (pathJoin (splitPath c.remoteSrcPath) = k ++ pkgmodSep ++ rel ∧
          fs.isFile (l ++ pkgmodSep ++ rel) = true) := by
  obtain ⟨hl, f, hf, hw⟩ := (findRoots_sound fs s h).2.1 _ hk
  obtain ⟨g, hg, c, hc, rfl⟩ := mem_getFiles.mp hf
  refine ⟨hl, g, hg, c, hc, ?_⟩
  rcases hw with hw | hw
  · obtain ⟨rel, h2, h3⟩ := hw.prefix
    exact ⟨rel, Or.inl ⟨by rw [h2]; simp [srcDir, srcSep], by rw [← h3]; simp [srcDir, srcSep]⟩⟩
  · obtain ⟨rel, h2, h3⟩ := hw.prefix
    exact ⟨rel, Or.inr ⟨by rw [h2]; simp [pkgmodDir, pkgmodSep], by rw [← h3]; simp [pkgmodDir, pkgmodSep]⟩⟩

theorem detected_goroot_is_prefix (fs : FS) (s : Snapshot) {st : RootsState} (h : s.findRoots fs = .ok st)
    (hne : st.goroot ≠ s.remoteGOROOT) :
    ∃ g ∈ s.goroutines, ∃ c ∈ g.sig.stack.calls, ∃ rel,
      pathJoin (splitPath c.remoteSrcPath) = st.goroot ++ srcSep ++ rel ∧
      fs.isFile (s.localGOROOT ++ srcSep ++ rel) = true := by
  rcases (findRoots_sound fs s h).1 with h1 | ⟨f, hf, hw⟩
  · exact absurd h1 hne
  · obtain ⟨g, hg, c, hc, rfl⟩ := mem_getFiles.mp hf
    obtain ⟨rel, h2, h3⟩ := hw.prefix
    exact ⟨g, hg, c, hc, rel, by rw [h2]; simp [srcDir, srcSep], by rw [← h3]; simp [srcDir, srcSep]⟩

/-- 7, modules: a detected module root is a directory prefix of a stack frame
(`parts[:i]` joined) whose go.mod matched, or `path.Dir` of an existing frame. -/
theorem detected_gomod_is_prefix (fs : FS) (s : Snapshot) {st : RootsState} (h : s.findRoots fs = .ok st)
    {k v : Bytes} (hk : (k, v) ∈ st.gomods) :
    ∃ g ∈ s.goroutines, ∃ c ∈ g.sig.stack.calls,
      (∃ i b, 0 < i ∧ i < (splitPath c.remoteSrcPath).length ∧
        pathJoin (splitPath c.remoteSrcPath) = k ++ b!"/" ++ pathJoin ((splitPath c.remoteSrcPath).drop i) ∧
        fs.readFile (pathJoin [k, b!"go.mod"]) = some b ∧ reModule b = some v) ∨
      (fs.isFile c.remoteSrcPath = true ∧ k = pathDir c.remoteSrcPath ∧ v = b!"main") := by
  obtain ⟨f, hf, hw⟩ := (findRoots_sound fs s h).2.2 _ hk
  obtain ⟨g, hg, c, hc, rfl⟩ := mem_getFiles.mp hf
  refine ⟨g, hg, c, hc, ?_⟩
  rcases hw with ⟨i, b, h1, h2, h3, h4, h5⟩ | hw
  · left
    refine ⟨i, b, h1, h2, ?_, h4, h5⟩
    simp only at h3
    rw [h3, pathJoin_take_drop _ i h1 h2]
  · exact Or.inr hw

/-- On a path that `splitPath` does not alter (no empty element, no trailing
slash, valid UTF-8), the witness reads `f = root ++ "/src/" ++ rel`. -/
theorem witness_clean_src {f k rel : Bytes} (hclean : pathJoin (splitPath f) = f)
    (h : pathJoin (splitPath f) = k ++ srcSep ++ rel) :
    f = k ++ srcSep ++ rel := by
  rw [hclean] at h
  exact h

/-- 7, clean paths: when the frames' paths are clean (`splitPath` then `pathJoin`
gives the path back: no `//`, no trailing `/`, valid UTF-8), a detected GOPATH
entry `(k, l)` is literally a prefix of a frame of some stack:
`path = k ++ "/src/" ++ rel` with `l ++ "/src/" ++ rel` a file, or
`path = k ++ "/pkg/mod/" ++ rel` with `l ++ "/pkg/mod/" ++ rel` a file.  No
hypothesis on the bytes that were cut is needed. -/
theorem detected_gopath_clean (fs : FS) (s : Snapshot) {st : RootsState} (h : s.findRoots fs = .ok st)
    (hclean : ∀ g ∈ s.goroutines, ∀ c ∈ g.sig.stack.calls,
      pathJoin (splitPath c.remoteSrcPath) = c.remoteSrcPath)
    {k l : Bytes} (hk : (k, l) ∈ st.gopaths) :
    l ∈ s.localGOPATHs ∧ ∃ g ∈ s.goroutines, ∃ c ∈ g.sig.stack.calls, ∃ rel,
      (c.remoteSrcPath = k ++ srcSep ++ rel ∧ fs.isFile (l ++ srcSep ++ rel) = true) ∨
      (c.remoteSrcPath = k ++ pkgmodSep ++ rel ∧ fs.isFile (l ++ pkgmodSep ++ rel) = true) := by
  obtain ⟨hl, g, hg, c, hc, rel, hw⟩ := detected_gopath_is_prefix fs s h hk
  refine ⟨hl, g, hg, c, hc, rel, ?_⟩
  rw [hclean g hg c hc] at hw
  exact hw

/-- 7, clean paths, GOROOT: a `RemoteGOROOT` that `findRoots` set satisfies
`path = RemoteGOROOT ++ "/src/" ++ rel` for a frame of some stack, with
`LocalGOROOT ++ "/src/" ++ rel` a file. -/
theorem detected_goroot_clean (fs : FS) (s : Snapshot) {st : RootsState} (h : s.findRoots fs = .ok st)
    (hclean : ∀ g ∈ s.goroutines, ∀ c ∈ g.sig.stack.calls,
      pathJoin (splitPath c.remoteSrcPath) = c.remoteSrcPath)
    (hne : st.goroot ≠ s.remoteGOROOT) :
    ∃ g ∈ s.goroutines, ∃ c ∈ g.sig.stack.calls, ∃ rel,
      c.remoteSrcPath = st.goroot ++ srcSep ++ rel ∧ fs.isFile (s.localGOROOT ++ srcSep ++ rel) = true := by
  obtain ⟨g, hg, c, hc, rel, h1, h2⟩ := detected_goroot_is_prefix fs s h hne
  exact ⟨g, hg, c, hc, rel, by rw [← hclean g hg c hc]; exact h1, h2⟩

/-- `guessPaths` = `findRoots`, then `updateLocations` of every goroutine with
the roots found: the per-call theorems above apply to each frame. -/
theorem guessPaths_shape (fs : FS) (s s' : Snapshot) (b : Bool) (h : s.guessPaths fs = .ok (s', b)) :
    ∃ st, s.findRoots fs = .ok st ∧ s'.remoteGOROOT = st.goroot ∧ s'.remoteGOPATHs = st.gopaths ∧
      s'.localGomods = st.gomods ∧
      s'.goroutines = s.goroutines.map
        (fun g => (g.updateLocations st.goroot s.localGOROOT st.gomods st.gopaths).1) := by
  unfold Snapshot.guessPaths at h
  split at h
  · cases h
  · rename_i st hst
    simp only [Except.ok.injEq, Prod.mk.injEq] at h
    obtain ⟨rfl, _⟩ := h
    exact ⟨st, hst, rfl, rfl, rfl, by simp [List.map_map]⟩

/-- 8. Single-GOPATH layout, one frame.  Let the snapshot have
`LocalGOPATHs = [L]`, and let a stack frame `c` (class still unknown) have the
source path `f` whose parts are `pR ++ ["src"] ++ pRel`, i.e.
`f = R ++ "/src/" ++ rel` with `R = join pR`, `rel = join pRel`, where
* `splitPath` loses nothing on `f` (`clean`),
* `L/src/rel` is a file (`present`),
* no proper suffix of `f` longer than `rel` is a file under `L/src`
  (`noSpurious`), and no suffix of `f` is a file under `LocalGOROOT/src`
  (`noGoroot`),
* among the roots finally detected, neither the remote GOROOT, nor a GOPATH key
  other than `R`, nor a module root is a prefix of `f` at its boundary
  (`NoOtherClaim`, a decidable condition on the outputs `RemoteGOROOT`,
  `RemoteGOPATHs`, `LocalGomods`).
Then `guessPaths` detects `R ↦ L` and the frame comes out with
`LocalSrcPath = L/src/rel`, `RelSrcPath = rel`, `ImportPath = dir(rel)`,
`Location = GOPATH`.

`NoOtherClaim` is a condition on what the other files of the dump made
`findRoots` detect, and `noSpurious` / `noGoroot` are conditions on the disk.
They cannot be dropped for arbitrary disk contents: an accidental suffix
collision (`L/src/x/src/a/b.go` next to `L/src/a/b.go`, a user package
`fmt/print.go` against GOROOT) defeats the heuristic, a root nested in another
root's `src` is shadowed when a file of the outer root sorts first, and several
local GOPATHs holding the same import path are resolved by their order.
`layout_correct_multi` (9) states the result from hypotheses on the layout and
on the probes alone, for roots that are pairwise disjoint and not nested. -/
theorem layout_correct_partial (fs : FS) (s s' : Snapshot) (b : Bool) {L f : Bytes} {pR pRel : List Bytes}
    (hgp : s.localGOPATHs = [L])
    (hguess : s.guessPaths fs = .ok (s', b))
    {g : Goroutine} (hg : g ∈ s.goroutines) {c : Call} (hc : c ∈ g.sig.stack.calls)
    (hf : c.remoteSrcPath = f) (hl : c.location = .unknown)
    (hlay : LayoutHyp fs s.localGOROOT L f pR pRel)
    (hno : NoOtherClaim { goroot := s'.remoteGOROOT, gopaths := s'.remoteGOPATHs, gomods := s'.localGomods }
            f (pathJoin pR)) :
    (pathJoin pR, L) ∈ s'.remoteGOPATHs ∧
    ∃ g' ∈ s'.goroutines, ∃ c' ∈ g'.sig.stack.calls,
      c' = { c with relSrcPath := pathJoin pRel,
                    localSrcPath := L ++ srcSep ++ pathJoin pRel,
                    importPath := importOfRel (pathJoin pRel) c.importPath,
                    location := .gopath } := by
  obtain ⟨st, hst, e1, e2, e3, e4⟩ := guessPaths_shape fs s s' b hguess
  have hno' : NoOtherClaim st f (pathJoin pR) :=
    ⟨e1 ▸ hno.goroot, fun k hk => hno.gopaths k (by rw [e2]; exact hk), fun k hk => hno.gomods k (by rw [e3]; exact hk)⟩
  have hfiles : f ∈ getFiles s.goroutines := mem_getFiles.mpr ⟨g, hg, c, hc, hf⟩
  have hloop : findRootsLoop fs s.localGOROOT [L] { goroot := s.remoteGOROOT } (getFiles s.goroutines) = .ok st := by
    rw [← hgp]; exact hst
  have hsound : Sound fs s.localGOROOT [L] (getFiles s.goroutines) s.remoteGOROOT { goroot := s.remoteGOROOT } :=
    ⟨Or.inl rfl, by simp, by simp⟩
  obtain ⟨hk, hv⟩ := hlay.final hsound hfiles hloop hno'
  have hupd := hlay.update hf hl hno' hk hv
  refine ⟨?_, ?_⟩
  · rw [e2, ← hv]; exact AMap.get_of_mem_keys hk
  · refine ⟨(g.updateLocations st.goroot s.localGOROOT st.gomods st.gopaths).1, ?_, ?_⟩
    · rw [e4]; exact List.mem_map_of_mem hg
    · refine ⟨(c.updateLocations st.goroot s.localGOROOT st.gomods st.gopaths).1, ?_, ?_⟩
      · simp only [PP.Goroutine.updateLocations, Signature.updateLocations, Stack.updateLocations, List.map_map]
        exact List.mem_map_of_mem (f := fun c => (c.updateLocations st.goroot s.localGOROOT st.gomods st.gopaths).1) hc
      · rw [hupd]
        simp [pathJoin_triple, srcSep]

/-- 9. Several roots at once.  A `Layout` gives the local GOROOT `lg`, the GOROOT
`rg` of the machine that produced the dump, the pairs `(R, L)` (remote GOPATH,
local GOPATH) in the order of `LocalGOPATHs`, and the module directories that
may be recorded (`mods`, empty for a layout without local modules).
Hypotheses (`MultiHyp`):
* the snapshot is configured with `LocalGOROOT = lg`, `LocalGOPATHs` = the `L`s,
  and `RemoteGOROOT` is empty or already `rg`;
* `lay.Disjoint` (decidable): for any two of the remote roots `rg`, the `R`s and
  the module directories, neither `a/` is a prefix of `b/` nor `b/` of `a/`;
* every file of the dump is `Tame` (tests on the answers of the probes): a probe of
  `findRoots` on it that succeeds gives a root of the layout — the GOROOT probe
  answers `rg/src` or nothing ending in `/src`, the loop over `LocalGOPATHs`
  answers a pair of `gps` or nothing, and a file claimed by neither probe
  finds only admitted `go.mod`s (none when `mods = []`) and, if it exists
  itself, its directory is an admitted `main` module or it is a clean path
  with a `go.mod` above it.
Conclusions, for `guessPaths`:
(a) only roots of the layout are recorded;
(b) every goroutine is updated with exactly these roots;
(c) for EVERY call `c` (a stack frame, or a creator frame), by the tree it lies in:
  * `rg/src/rel`, with `RemoteGOROOT = rg` beforehand or some file `w` of the dump
    for which the GOROOT probe answers `rg/src` (`DetectsGoroot`): `rg` is
    recorded and `c` gets `RelSrcPath = rel`, `LocalSrcPath = lg/src/rel`,
    `ImportPath = dir(rel)`, class Stdlib;
  * `R/src/rel`, with some file `w` of the dump under `R/src/` or `R/pkg/mod/`
    that the GOROOT probe does not claim and for which the loop over
    `LocalGOPATHs` answers `(R, L)` (`DetectsGopath`): `R ↦ L` is recorded and
    `c` gets `rel`, `L/src/rel`, `dir(rel)`, class GOPATH;
  * `R/pkg/mod/rel`, same witness: `rel`, `L/pkg/mod/rel`, `dir(rel)`, class GoPkg;
  * under no root of the layout (`Unclaimed`, decidable): `c` is left untouched
    and `updateLocations` returns false.
  A class that was already set (the generated test main: Stdlib) is kept
  (`setLoc`).
The witness `w` may be the frame's own file (`layout_correct_multi_frame_*`
below) or any other file of the dump under the same root: a frame whose own
file is missing locally is still rebased once its root is known.

Frames in local `go.mod` modules and in `go run` directories: same hypotheses,
`layout_correct_gomod` and `layout_correct_gorun` below.

Not covered: nested roots (a GOPATH, module or GOROOT inside another root —
rejected by `Disjoint`), and two local GOPATHs that both hold a frame's
relative path under different remote roots (excluded by the witness condition:
the loop over `LocalGOPATHs` must answer the pair of the layout). -/
theorem layout_correct_multi (fs : FS) (lay : Layout) (s s' : Snapshot) (b : Bool)
    (H : MultiHyp fs lay s) (hguess : s.guessPaths fs = .ok (s', b)) :
    (s'.remoteGOROOT = [] ∨ s'.remoteGOROOT = lay.rg) ∧
    (∀ kv ∈ s'.remoteGOPATHs, kv ∈ lay.gps) ∧
    (∀ kv ∈ s'.localGomods, kv ∈ lay.mods) ∧
    s'.goroutines = s.goroutines.map
      (fun g => (g.updateLocations s'.remoteGOROOT lay.lg s'.localGomods s'.remoteGOPATHs).1) ∧
    ∀ c : Call,
      (∀ rel, c.remoteSrcPath = lay.rg ++ srcSep ++ rel → lay.rg ≠ [] →
        (s.remoteGOROOT = lay.rg ∨ ∃ w ∈ getFiles s.goroutines, DetectsGoroot lay fs w) →
        s'.remoteGOROOT = lay.rg ∧
        c.updateLocations s'.remoteGOROOT lay.lg s'.localGomods s'.remoteGOPATHs =
          ({ c with relSrcPath := rel, localSrcPath := lay.lg ++ srcSep ++ rel,
                    importPath := importOfRel rel c.importPath, location := setLoc c .stdlib }, true)) ∧
      (∀ R L rel, c.remoteSrcPath = R ++ srcSep ++ rel →
        (∃ w ∈ getFiles s.goroutines, DetectsGopath lay fs w R L) →
        (R, L) ∈ s'.remoteGOPATHs ∧
        c.updateLocations s'.remoteGOROOT lay.lg s'.localGomods s'.remoteGOPATHs =
          ({ c with relSrcPath := rel, localSrcPath := L ++ srcSep ++ rel,
                    importPath := importOfRel rel c.importPath, location := setLoc c .gopath }, true)) ∧
      (∀ R L rel, c.remoteSrcPath = R ++ pkgmodSep ++ rel →
        (∃ w ∈ getFiles s.goroutines, DetectsGopath lay fs w R L) →
        (R, L) ∈ s'.remoteGOPATHs ∧
        c.updateLocations s'.remoteGOROOT lay.lg s'.localGomods s'.remoteGOPATHs =
          ({ c with relSrcPath := rel, localSrcPath := L ++ pkgmodSep ++ rel,
                    importPath := importOfRel rel c.importPath, location := setLoc c .goPkg }, true)) ∧
      (Unclaimed lay c.remoteSrcPath →
        c.updateLocations s'.remoteGOROOT lay.lg s'.localGomods s'.remoteGOPATHs = (c, false)) := by
  obtain ⟨st, hst, e1, e2, e3, e4⟩ := guessPaths_shape fs s s' b hguess
  have hfin : Inv lay st := H.inv hst
  have hloop := H.loop hst
  rw [e1, e2, e3]
  refine ⟨hfin.goroot, hfin.gopaths, hfin.gomods, by rw [e4, H.localGoroot], ?_⟩
  intro c
  refine ⟨?_, ?_, ?_, ?_⟩
  · intro rel hc hne hw
    have hg : st.goroot = lay.rg := by
      rcases hw with h0 | ⟨w, hwf, hw⟩
      · have := (findRootsLoop_mono _ hloop).goroot (by rw [h0]; exact hne)
        rw [this]; exact h0
      · exact hw.final H.disjoint hne H.tame hwf H.inv0 hloop
    refine ⟨hg, ?_⟩
    rw [hg]
    exact update_goroot hne hc
  · intro R L rel hc ⟨w, hwf, hw⟩
    obtain ⟨hk, hv⟩ := hw.final H.disjoint H.tame hwf H.inv0 hloop
    exact ⟨hv ▸ AMap.get_of_mem_keys hk, update_src H.disjoint hfin hc hk hv⟩
  · intro R L rel hc ⟨w, hwf, hw⟩
    obtain ⟨hk, hv⟩ := hw.final H.disjoint H.tame hwf H.inv0 hloop
    exact ⟨hv ▸ AMap.get_of_mem_keys hk, update_pkgmod H.disjoint hfin hc hk hv⟩
  · intro hu
    exact update_unclaimed hfin hu

/-- 9a. A stack frame under `R/src/` whose own file is the witness.  The side
conditions are on the probes `findRoots` makes on this file, in the order it
makes them: the GOROOT probe does not answer a path ending in `/src` (`hG`); for
every local GOPATH listed before `L`, neither its `/src` nor its `/pkg/mod` probe
answers a root (`hpre`); the probe under `L/src` answers `R/src` (`hhit`: the file
exists as `L/src/rel` and no longer suffix of the path exists under `L/src`, see
`isRootedIn_of_present`).  Probes that come later are not made and are not
constrained. -/
theorem layout_correct_multi_frame_gopath (fs : FS) (lay : Layout) (s s' : Snapshot) (b : Bool)
    (H : MultiHyp fs lay s) (hguess : s.guessPaths fs = .ok (s', b))
    {g : Goroutine} (hg : g ∈ s.goroutines) {c : Call} (hc : c ∈ g.sig.stack.calls)
    {R L rel : Bytes} {pre post : List (Bytes × Bytes)} (hgps : lay.gps = pre ++ (R, L) :: post)
    (hf : c.remoteSrcPath = R ++ srcSep ++ rel)
    (hG : hasSuffix (isRootedIn fs (lay.lg ++ srcDir) (splitPath c.remoteSrcPath)) srcDir = false)
    (hpre : ∀ p ∈ pre, QuietGopath fs (splitPath c.remoteSrcPath) p.2)
    (hhit : isRootedIn fs (L ++ srcDir) (splitPath c.remoteSrcPath) = R ++ srcDir) :
    (R, L) ∈ s'.remoteGOPATHs ∧
    c.updateLocations s'.remoteGOROOT lay.lg s'.localGomods s'.remoteGOPATHs =
      ({ c with relSrcPath := rel, localSrcPath := L ++ srcSep ++ rel,
                importPath := importOfRel rel c.importPath, location := setLoc c .gopath }, true) :=
  ((layout_correct_multi fs lay s s' b H hguess).2.2.2.2 c).2.1 R L rel hf
    ⟨c.remoteSrcPath, mem_getFiles.mpr ⟨g, hg, c, hc, rfl⟩, DetectsGopath.of_src_probe hgps hf hG hpre hhit⟩

/-- 9b. A stack frame under `R/pkg/mod/` (module cache) whose own file is the
witness: as 9a, and the probe under `L/src` answers nothing ending in `/src`
(`hq`) before the probe under `L/pkg/mod` answers `R/pkg/mod` (`hhit`). -/
theorem layout_correct_multi_frame_gopkg (fs : FS) (lay : Layout) (s s' : Snapshot) (b : Bool)
    (H : MultiHyp fs lay s) (hguess : s.guessPaths fs = .ok (s', b))
    {g : Goroutine} (hg : g ∈ s.goroutines) {c : Call} (hc : c ∈ g.sig.stack.calls)
    {R L rel : Bytes} {pre post : List (Bytes × Bytes)} (hgps : lay.gps = pre ++ (R, L) :: post)
    (hf : c.remoteSrcPath = R ++ pkgmodSep ++ rel)
    (hG : hasSuffix (isRootedIn fs (lay.lg ++ srcDir) (splitPath c.remoteSrcPath)) srcDir = false)
    (hpre : ∀ p ∈ pre, QuietGopath fs (splitPath c.remoteSrcPath) p.2)
    (hq : hasSuffix (isRootedIn fs (L ++ srcDir) (splitPath c.remoteSrcPath)) srcDir = false)
    (hhit : isRootedIn fs (L ++ pkgmodDir) (splitPath c.remoteSrcPath) = R ++ pkgmodDir) :
    (R, L) ∈ s'.remoteGOPATHs ∧
    c.updateLocations s'.remoteGOROOT lay.lg s'.localGomods s'.remoteGOPATHs =
      ({ c with relSrcPath := rel, localSrcPath := L ++ pkgmodSep ++ rel,
                importPath := importOfRel rel c.importPath, location := setLoc c .goPkg }, true) :=
  ((layout_correct_multi fs lay s s' b H hguess).2.2.2.2 c).2.2.1 R L rel hf
    ⟨c.remoteSrcPath, mem_getFiles.mpr ⟨g, hg, c, hc, rfl⟩,
      DetectsGopath.of_pkgmod_probe hgps hf hG hpre hq hhit⟩

/-- 9c. A stack frame under `rg/src/` whose own file is the witness: the probe
under `LocalGOROOT/src` answers `rg/src` (the file exists as `lg/src/rel` and no
longer suffix of the path exists under `lg/src`).  It is the first probe made,
so nothing else is constrained. -/
theorem layout_correct_multi_frame_stdlib (fs : FS) (lay : Layout) (s s' : Snapshot) (b : Bool)
    (H : MultiHyp fs lay s) (hguess : s.guessPaths fs = .ok (s', b)) (hne : lay.rg ≠ [])
    {g : Goroutine} (hg : g ∈ s.goroutines) {c : Call} (hc : c ∈ g.sig.stack.calls) {rel : Bytes}
    (hf : c.remoteSrcPath = lay.rg ++ srcSep ++ rel)
    (hhit : isRootedIn fs (lay.lg ++ srcDir) (splitPath c.remoteSrcPath) = lay.rg ++ srcDir) :
    s'.remoteGOROOT = lay.rg ∧
    c.updateLocations s'.remoteGOROOT lay.lg s'.localGomods s'.remoteGOPATHs =
      ({ c with relSrcPath := rel, localSrcPath := lay.lg ++ srcSep ++ rel,
                importPath := importOfRel rel c.importPath, location := setLoc c .stdlib }, true) :=
  ((layout_correct_multi fs lay s s' b H hguess).2.2.2.2 c).1 rel hf hne
    (Or.inr ⟨c.remoteSrcPath, mem_getFiles.mpr ⟨g, hg, c, hc, rfl⟩,
      ⟨by rw [hf]; exact hasPrefix_root_sep _ _ _, hhit⟩⟩)

/-- 10. Local `go.mod` modules, same hypotheses as `layout_correct_multi` (the
layout lists the module directories with their module paths in `mods`; they are
part of `Disjoint`).  For every call `c` whose path is `k/rel`, if some file
`w` of the dump is a clean path that neither the GOROOT probe nor the loop over
`LocalGOPATHs` claims, has `k` among its directories `parts[:i]`, `k/go.mod`
declares `module m` and no directory between `k` and `w` has a `go.mod`
(`DetectsGomod`), then `k ↦ m` is recorded and `c` gets `RelSrcPath = rel`,
`LocalSrcPath` = its remote path, `ImportPath = m/dir(rel)` (`m` when `rel` has no
directory), class GoMod.  Whatever the go.mod cache holds when `w` is reached
(`findModule_trace`): the cache only short-cuts directories without a `go.mod`. -/
theorem layout_correct_gomod (fs : FS) (lay : Layout) (s s' : Snapshot) (b : Bool)
    (H : MultiHyp fs lay s) (hguess : s.guessPaths fs = .ok (s', b))
    (c : Call) {k m rel : Bytes} (hc : c.remoteSrcPath = k ++ b!"/" ++ rel)
    (hw : ∃ w ∈ getFiles s.goroutines, DetectsGomod lay fs w k m) :
    (k, m) ∈ s'.localGomods ∧
    c.updateLocations s'.remoteGOROOT lay.lg s'.localGomods s'.remoteGOPATHs =
      ({ c with relSrcPath := rel, localSrcPath := c.remoteSrcPath,
                importPath := gomodImport m rel, location := setLoc c .goMod }, true) := by
  obtain ⟨st, hst, e1, e2, e3, _⟩ := guessPaths_shape fs s s' b hguess
  obtain ⟨w, hwf, hw⟩ := hw
  obtain ⟨hk, hv⟩ := hw.final H.disjoint H.tame hwf H.inv0 (H.loop hst)
  rw [e1, e2, e3]
  exact ⟨hv ▸ AMap.get_of_mem_keys hk, update_gomod H.disjoint (H.inv hst) hc hk hv⟩

/-- 10'. Files that exist under their own path and have no `go.mod` above them
(`go run`): when such a file `w` of the dump is claimed by neither probe
(`DetectsGorun`), `path.Dir(w) ↦ "main"` is recorded and every call whose path
is `path.Dir(w)/rel` gets `RelSrcPath = rel`, `LocalSrcPath` = its remote path,
`ImportPath = main/dir(rel)` (`main` when `rel` has no directory), class GoMod. -/
theorem layout_correct_gorun (fs : FS) (lay : Layout) (s s' : Snapshot) (b : Bool)
    (H : MultiHyp fs lay s) (hguess : s.guessPaths fs = .ok (s', b))
    (c : Call) {w rel : Bytes} (hwf : w ∈ getFiles s.goroutines) (hw : DetectsGorun lay fs w)
    (hc : c.remoteSrcPath = pathDir w ++ b!"/" ++ rel) :
    (pathDir w, b!"main") ∈ s'.localGomods ∧
    c.updateLocations s'.remoteGOROOT lay.lg s'.localGomods s'.remoteGOPATHs =
      ({ c with relSrcPath := rel, localSrcPath := c.remoteSrcPath,
                importPath := gomodImport b!"main" rel, location := setLoc c .goMod }, true) := by
  obtain ⟨st, hst, e1, e2, e3, _⟩ := guessPaths_shape fs s s' b hguess
  obtain ⟨hk, hv⟩ := hw.final H.disjoint H.tame hwf H.inv0 (H.loop hst)
  rw [e1, e2, e3]
  exact ⟨hv ▸ AMap.get_of_mem_keys hk, update_gomod H.disjoint (H.inv hst) hc hk hv⟩

end PP.C18

/-! ### non-vacuity -/
namespace PP.C18.Examples
open PP Bytes PP.C18

def fs : FS :=
  { isFile := fun p => p == b!"/L/src/p/a.go" || p == b!"/G/src/fmt/print.go" || p == b!"/w/m/x.go",
    readFile := fun p => if p == b!"/w/m/go.mod" then some b!"// c\r\nmodule  example.com/m\r\n" else none }

def call (p : Bytes) : Call := { remoteSrcPath := p }

deriving instance DecidableEq for RootsState

instance {ε α : Type} [DecidableEq ε] [DecidableEq α] : DecidableEq (Except ε α)
  | .ok a, .ok b => decidable_of_iff (a = b) (by simp)
  | .error a, .error b => decidable_of_iff (a = b) (by simp)
  | .ok _, .error _ => isFalse (by simp)
  | .error _, .ok _ => isFalse (by simp)

def snap (ps : List Bytes) : Snapshot :=
  { goroutines := [{ sig := { stack := { calls := ps.map call } } }], localGOROOT := b!"/G", localGOPATHs := [b!"/L"] }

theorem sortedByLen_single (k v : Bytes) : sortedByLen [(k, v)] = [k] := by
  simp [sortedByLen, AMap.keys]

theorem sortedByLen_nested :
    sortedByLen [(b!"/r", b!"/L1"), (b!"/r/src/q", b!"/L2")] = [b!"/r/src/q", b!"/r"] := by
  simp [sortedByLen, AMap.keys, List.mergeSort, List.MergeSort.Internal.splitInTwo, lenLexLe]

/-- GOROOT branch -/
example : let r := (call b!"/g/src/fmt/print.go").updateLocations b!"/g" b!"/G" [] []
    (r.2, r.1.localSrcPath, r.1.relSrcPath, r.1.importPath, r.1.location) =
      (true, b!"/G/src/fmt/print.go", b!"fmt/print.go", b!"fmt", .stdlib) := by decide

/-- GOPATH branch -/
example : let r := (call b!"/r/src/p/a.go").updateLocations [] b!"/G" [] [(b!"/r", b!"/L")]
    (r.2, r.1.localSrcPath, r.1.relSrcPath, r.1.importPath, r.1.location) =
      (true, b!"/L/src/p/a.go", b!"p/a.go", b!"p", .gopath) := by
  unfold Call.updateLocations Call.updateLocations?
  rw [sortedByLen_single]
  decide

/-- nested roots: the innermost one is used whatever the order of the map -/
example : let r := (call b!"/r/src/q/src/z/f.go").updateLocations [] b!"/G" [] [(b!"/r", b!"/L1"), (b!"/r/src/q", b!"/L2")]
    (r.2, r.1.localSrcPath, r.1.relSrcPath) = (true, b!"/L2/src/z/f.go", b!"z/f.go") := by
  unfold Call.updateLocations Call.updateLocations?
  rw [sortedByLen_nested]
  decide

/-- under no root: untouched -/
example : ((call b!"/elsewhere/x.go").updateLocations b!"/g" b!"/G" [] []).2 = false := by
  have e : sortedByLen [] = [] := by simp [sortedByLen, AMap.keys]
  unfold Call.updateLocations Call.updateLocations?
  rw [e]
  decide

/-- the generated test main -/
example : (Call.init {} b!"/w/_test/_testmain.go" 1).dirSrc = testMainSrc := by decide
example : (Call.init {} b!"/w/_test/_testmain.go" 1).location = .stdlib := by decide
/-- the bare relative form is not recognised (`DirSrc` needs two slashes) -/
example : (Call.init {} b!"_test/_testmain.go" 1).location = .unknown := by decide

/-- findRoots on a GOPATH frame, a GOROOT frame and a go.mod frame -/
example : (snap [b!"/r/src/p/a.go", b!"/g/src/fmt/print.go", b!"/w/m/x.go"]).findRoots fs =
    .ok { goroot := b!"/g", gopaths := [(b!"/r", b!"/L")], gomods := [(b!"/w/m", b!"example.com/m")],
          missing := 0, cache := [b!"/w/m"] } := by decide +kernel

/-- the hypotheses of `layout_correct_partial` are satisfiable -/
example : LayoutHyp fs b!"/G" b!"/L" b!"/r/src/p/a.go" [b!"/r"] [b!"p", b!"a.go"] := by
  refine ⟨by decide +kernel, by decide, by decide, by decide +kernel, by decide +kernel, ?_, ?_⟩
  · intro j h1 h2
    have : j = 1 := by simp at h2; omega
    subst this; decide +kernel
  · intro j h1 h2
    have hl : (splitPath b!"/r/src/p/a.go").length = 4 := by decide +kernel
    have h3 : j = 1 ∨ j = 2 ∨ j = 3 := by omega
    rcases h3 with rfl | rfl | rfl <;> decide +kernel

example : NoOtherClaim { goroot := b!"/g", gopaths := [(b!"/r", b!"/L")], gomods := [(b!"/w/m", b!"example.com/m")] }
    b!"/r/src/p/a.go" b!"/r" :=
  ⟨Or.inr (by decide +kernel), by intro k hk hne; simp [AMap.keys] at hk; exact absurd hk hne,
   by intro k hk; simp [AMap.keys] at hk; subst hk; decide +kernel⟩

/-- `isRootedIn` answers `/x`, shorter than `/src`: the frame detects nothing and
is counted as missing.  Without the `HasSuffix` test of `findRoots` the slice
`r[:len(r)-len("/src")]` would be out of range here. -/
example : (snap [b!"/x/fmt/print.go"]).findRoots fs =
    .ok { goroot := [], gopaths := [], gomods := [], missing := 1, cache := [b!"/x", b!"/x/fmt"] } := by decide +kernel

example : (match (snap [b!"/x/fmt/print.go"]).guessPaths fs with
    | .ok (s', b) => s'.remoteGOROOT == [] && b == false | .error _ => false) = true := by decide +kernel

/-- A spurious suffix collision (`fmt/print.go` exists under the local GOROOT):
`isRootedIn` answers `/home`, which does not end with `/src`, so nothing is
detected.  Without the `HasSuffix` test of `findRoots` this frame would give
`RemoteGOROOT = "/"`. -/
example : isRootedIn fs b!"/G/src" (splitPath b!"/home/fmt/print.go") = b!"/home" := by decide +kernel
example : (snap [b!"/home/fmt/print.go"]).findRoots fs =
    .ok { goroot := [], gopaths := [], gomods := [], missing := 1, cache := [b!"/home", b!"/home/fmt"] } := by decide +kernel

/-- the same file under a real `/src` is still detected -/
example : (match (snap [b!"/home/src/fmt/print.go"]).findRoots fs with
    | .ok st => st.goroot == b!"/home" && st.missing == 0 | .error _ => false) = true := by decide +kernel

/-- the hypotheses of `cut_is_src_part` / `cut_in_first_part` are satisfiable -/
example : b!"/r" ++ srcDir = pathJoin ((splitPath b!"/r/src/p/a.go").take 2) := by decide +kernel
example : b!"/r" ++ pkgmodDir = pathJoin ((splitPath b!"/r/pkg/mod/m@v1/a.go").take 3) := by decide +kernel
example : [] ++ srcDir = pathJoin ((splitPath b!"/src/fmt/print.go").take 1) := by decide +kernel
/-- a frame directly under `/src`: the root is `""`, the frame is not missing -/
example : (snap [b!"/src/fmt/print.go"]).findRoots fs =
    .ok { goroot := [], gopaths := [], gomods := [], missing := 0, cache := [] } := by decide +kernel


/-! #### a layout with GOROOT, two GOPATHs and a module cache -/

/-- local disk: the standard library under `/G`, package `p` under the first
GOPATH `/L1`, package `q` and a module-cache copy of `m@v1` under the second
GOPATH `/L2`; no go.mod anywhere -/
def fsM : FS :=
  { isFile := fun p => p == b!"/G/src/fmt/print.go" || p == b!"/L1/src/p/a.go" ||
      p == b!"/L2/src/q/b.go" || p == b!"/L2/pkg/mod/m@v1/c.go",
    readFile := fun _ => none }

/-- the dump was produced under `/g` (GOROOT) and the GOPATHs `/r1`, `/r2` -/
def layM : Layout := { lg := b!"/G", rg := b!"/g", gps := [(b!"/r1", b!"/L1"), (b!"/r2", b!"/L2")] }

/-- one frame per tree, one frame under `/r1` whose file is missing locally (it
sorts before the witness of `/r1`, so it is probed, in vain, before the root is
known), one frame under no root -/
def snapM : Snapshot :=
  { goroutines := [{ sig := { stack := { calls := [b!"/g/src/fmt/print.go", b!"/r1/src/p/a.go",
      b!"/r2/src/q/b.go", b!"/r2/pkg/mod/m@v1/c.go", b!"/r1/src/a/gone.go", b!"/elsewhere/x.go"].map call } } }],
    localGOROOT := b!"/G", localGOPATHs := [b!"/L1", b!"/L2"] }

example : layM.Disjoint := by decide
/-- a remote GOPATH inside another one is rejected by `Disjoint` -/
example : ¬ ({ layM with gps := [(b!"/r1", b!"/L1"), (b!"/r1/src/q", b!"/L2")] } : Layout).Disjoint := by decide

theorem filesM : getFiles snapM.goroutines = [b!"/elsewhere/x.go", b!"/g/src/fmt/print.go",
    b!"/r1/src/a/gone.go", b!"/r1/src/p/a.go", b!"/r2/pkg/mod/m@v1/c.go", b!"/r2/src/q/b.go"] := rfl

theorem detM_goroot : DetectsGoroot layM fsM b!"/g/src/fmt/print.go" := ⟨by decide +kernel, by decide +kernel⟩
theorem detM_r1 : DetectsGopath layM fsM b!"/r1/src/p/a.go" b!"/r1" b!"/L1" :=
  ⟨Or.inl (by decide +kernel), by decide +kernel, by decide +kernel⟩
/-- second GOPATH, `/src` tree: the probes under `/L1` are made first and are silent -/
theorem detM_r2_src : DetectsGopath layM fsM b!"/r2/src/q/b.go" b!"/r2" b!"/L2" :=
  DetectsGopath.of_src_probe (pre := [(b!"/r1", b!"/L1")]) (post := []) (rel := b!"q/b.go") rfl (by decide +kernel) (by decide +kernel)
    (by intro p hp; simp at hp; subst hp; decide +kernel) (by decide +kernel)
/-- second GOPATH, module cache: moreover the probe under `/L2/src` is silent -/
theorem detM_r2_mod : DetectsGopath layM fsM b!"/r2/pkg/mod/m@v1/c.go" b!"/r2" b!"/L2" :=
  DetectsGopath.of_pkgmod_probe (pre := [(b!"/r1", b!"/L1")]) (post := []) (rel := b!"m@v1/c.go") rfl (by decide +kernel)
    (by decide +kernel) (by intro p hp; simp at hp; subst hp; decide +kernel) (by decide +kernel) (by decide +kernel)

/-- the probe condition read on the disk: `/L2/src/q/b.go` exists, and no longer
suffix of `/r2/src/q/b.go` exists under `/L2/src` -/
example : isRootedIn fsM b!"/L2/src" (splitPath b!"/r2/src/q/b.go") = b!"/r2" ++ b!"/" ++ pathJoin [b!"src"] :=
  isRootedIn_of_present (pR := [b!"/r2"]) (pDir := [b!"src"]) (pRel := [b!"q", b!"b.go"]) (by decide +kernel) (by decide)
    (by decide) (by decide) (by decide) (by decide +kernel)
    (by intro j h1 h2
        have : j = 1 := by simp at h2; omega
        subst this; decide +kernel)

theorem silentM (f : Bytes) (hf : f = b!"/elsewhere/x.go" ∨ f = b!"/r1/src/a/gone.go") : Tame layM fsM f := by
  apply tame_of_silent
  · rcases hf with rfl | rfl <;> decide +kernel
  · rcases hf with rfl | rfl <;> decide +kernel
  · intro i _ _; rfl
  · rcases hf with rfl | rfl <;> decide +kernel

/-- every hypothesis of `layout_correct_multi` holds for this layout -/
theorem hypM : MultiHyp fsM layM snapM := by
  refine ⟨rfl, rfl, Or.inl rfl, by decide, ?_⟩
  intro f hf
  rw [filesM] at hf
  simp only [List.mem_cons, List.not_mem_nil, or_false] at hf
  rcases hf with rfl | rfl | rfl | rfl | rfl | rfl
  · exact silentM _ (Or.inl rfl)
  · exact detM_goroot.tame (by decide +kernel)
  · exact silentM _ (Or.inr rfl)
  · exact detM_r1.tame (by decide)
  · exact detM_r2_mod.tame (by decide)
  · exact detM_r2_src.tame (by decide)

example : Unclaimed layM b!"/elsewhere/x.go" := ⟨by decide, by decide, by decide⟩

/-- … and the theorem gives, for this dump: both GOPATHs and the GOROOT recorded,
each frame rebased into its tree — the frame whose file is missing locally too —
and the frame under no root left alone. -/
example (s' : Snapshot) (b : Bool) (h : snapM.guessPaths fsM = .ok (s', b)) :
    s'.remoteGOROOT = b!"/g" ∧ (b!"/r1", b!"/L1") ∈ s'.remoteGOPATHs ∧ (b!"/r2", b!"/L2") ∈ s'.remoteGOPATHs ∧
    (call b!"/g/src/fmt/print.go").updateLocations s'.remoteGOROOT b!"/G" s'.localGomods s'.remoteGOPATHs =
      ({ call b!"/g/src/fmt/print.go" with
           relSrcPath := b!"fmt/print.go", localSrcPath := b!"/G/src/fmt/print.go",
           importPath := b!"fmt", location := .stdlib }, true) ∧
    (call b!"/r2/pkg/mod/m@v1/c.go").updateLocations s'.remoteGOROOT b!"/G" s'.localGomods s'.remoteGOPATHs =
      ({ call b!"/r2/pkg/mod/m@v1/c.go" with
           relSrcPath := b!"m@v1/c.go", localSrcPath := b!"/L2/pkg/mod/m@v1/c.go",
           importPath := b!"m@v1", location := .goPkg }, true) ∧
    (call b!"/r1/src/a/gone.go").updateLocations s'.remoteGOROOT b!"/G" s'.localGomods s'.remoteGOPATHs =
      ({ call b!"/r1/src/a/gone.go" with
           relSrcPath := b!"a/gone.go", localSrcPath := b!"/L1/src/a/gone.go",
           importPath := b!"a", location := .gopath }, true) ∧
    (call b!"/elsewhere/x.go").updateLocations s'.remoteGOROOT b!"/G" s'.localGomods s'.remoteGOPATHs =
      (call b!"/elsewhere/x.go", false) := by
  have T := (layout_correct_multi fsM layM snapM s' b hypM h).2.2.2.2
  have hr1 : ∃ w ∈ getFiles snapM.goroutines, DetectsGopath layM fsM w _ _ := ⟨_, by rw [filesM]; decide, detM_r1⟩
  have hr2 : ∃ w ∈ getFiles snapM.goroutines, DetectsGopath layM fsM w _ _ := ⟨_, by rw [filesM]; decide, detM_r2_mod⟩
  have t1 := (T (call b!"/g/src/fmt/print.go")).1 b!"fmt/print.go" rfl (by decide)
    (Or.inr ⟨_, by rw [filesM]; decide, detM_goroot⟩)
  have t2 := (T (call b!"/r2/pkg/mod/m@v1/c.go")).2.2.1 _ _ b!"m@v1/c.go" rfl hr2
  have t3 := (T (call b!"/r1/src/a/gone.go")).2.1 _ _ b!"a/gone.go" rfl hr1
  have t4 := (T (call b!"/elsewhere/x.go")).2.2.2 ⟨by decide, by decide, by decide⟩
  exact ⟨t1.1, t3.1, t2.1, t1.2, t2.2, t3.2, t4⟩

/-- `guessPaths` does return, so the conclusions are about an actual result -/
example : ∃ s' b, snapM.guessPaths fsM = .ok (s', b) ∧ s'.remoteGOROOT = b!"/g" ∧
    (b!"/r2", b!"/L2") ∈ s'.remoteGOPATHs := by
  obtain ⟨⟨s', b⟩, h⟩ := guessPaths_no_panic fsM snapM
  have T := (layout_correct_multi fsM layM snapM s' b hypM h).2.2.2.2
  exact ⟨s', b, h,
    ((T (call b!"/g/src/fmt/print.go")).1 b!"fmt/print.go" rfl (by decide)
      (Or.inr ⟨_, by rw [filesM]; decide, detM_goroot⟩)).1,
    ((T (call b!"/r2/src/q/b.go")).2.1 b!"/r2" b!"/L2" b!"q/b.go" rfl ⟨_, by rw [filesM]; decide, detM_r2_src⟩).1⟩

/-- the executable model agrees (and the hypothesis `h` above is satisfiable) -/
example : snapM.findRoots fsM =
    .ok { goroot := b!"/g", gopaths := [(b!"/r1", b!"/L1"), (b!"/r2", b!"/L2")], gomods := [], missing := 2,
          cache := [b!"/r1", b!"/r1/src", b!"/r1/src/a", b!"/elsewhere"] } := by decide +kernel


/-! #### the same with a local go.mod module and a `go run` file -/

def fsG : FS :=
  { isFile := fun p => p == b!"/G/src/fmt/print.go" || p == b!"/L1/src/p/a.go" ||
      p == b!"/w/m/sub/x.go" || p == b!"/w/m/y.go" || p == b!"/tmp/run/main.go",
    readFile := fun p => if p == b!"/w/m/go.mod" then some b!"module example.com/m\n" else none }

def layG : Layout :=
  { lg := b!"/G", rg := b!"/g", gps := [(b!"/r1", b!"/L1")],
    mods := [(b!"/w/m", b!"example.com/m"), (b!"/tmp/run", b!"main")] }

/-- `/w/a/z.go` is missing locally and sorts before the module's files: its walk
puts `/w/a` and `/w` in the go.mod cache before the module is looked for -/
def snapG : Snapshot :=
  { goroutines := [{ sig := { stack := { calls := [b!"/g/src/fmt/print.go", b!"/r1/src/p/a.go",
      b!"/w/m/sub/x.go", b!"/w/m/y.go", b!"/tmp/run/main.go", b!"/w/a/z.go"].map call } } }],
    localGOROOT := b!"/G", localGOPATHs := [b!"/L1"] }

example : layG.Disjoint := by decide

theorem filesG : getFiles snapG.goroutines = [b!"/g/src/fmt/print.go", b!"/r1/src/p/a.go",
    b!"/tmp/run/main.go", b!"/w/a/z.go", b!"/w/m/sub/x.go", b!"/w/m/y.go"] := rfl

theorem detG_goroot : DetectsGoroot layG fsG b!"/g/src/fmt/print.go" := ⟨by decide +kernel, by decide +kernel⟩
theorem detG_r1 : DetectsGopath layG fsG b!"/r1/src/p/a.go" b!"/r1" b!"/L1" :=
  ⟨Or.inl (by decide +kernel), by decide +kernel, by decide +kernel⟩

/-- which directories above the last four files declare a module -/
theorem modsG : ∀ f ∈ [b!"/w/m/sub/x.go", b!"/w/m/y.go", b!"/tmp/run/main.go", b!"/w/a/z.go"],
    ∀ i, i < (splitPath f).length → ∀ m ∈ modAt fsG (pathJoin ((splitPath f).take i)),
      f ∈ [b!"/w/m/sub/x.go", b!"/w/m/y.go"] ∧ i = 2 ∧ (pathJoin ((splitPath f).take i), m) ∈ layG.mods := by
  decide +kernel

theorem nomodG (f : Bytes) (hf : f = b!"/tmp/run/main.go" ∨ f = b!"/w/a/z.go") (i : Nat) (_ : 0 < i)
    (h2 : i < (splitPath f).length) : modAt fsG (pathJoin ((splitPath f).take i)) = none := by
  cases h : modAt fsG (pathJoin ((splitPath f).take i)) with
  | none => rfl
  | some m =>
    have := (modsG f (by rcases hf with rfl | rfl <;> decide +kernel) i h2 m h).1
    rcases hf with rfl | rfl <;> exact absurd this (by decide +kernel)

theorem detG_mod (f : Bytes) (hf : f = b!"/w/m/sub/x.go" ∨ f = b!"/w/m/y.go") :
    DetectsGomod layG fsG f b!"/w/m" b!"example.com/m" := by
  have hm : f ∈ [b!"/w/m/sub/x.go", b!"/w/m/y.go", b!"/tmp/run/main.go", b!"/w/a/z.go"] := by
    rcases hf with rfl | rfl <;> decide +kernel
  refine ⟨by rcases hf with rfl | rfl <;> decide +kernel, by rcases hf with rfl | rfl <;> decide +kernel,
    by rcases hf with rfl | rfl <;> decide +kernel, 2, by decide, by rcases hf with rfl | rfl <;> decide +kernel,
    by rcases hf with rfl | rfl <;> decide +kernel, by rcases hf with rfl | rfl <;> decide +kernel, ?_⟩
  intro j h1 h2
  cases h : modAt fsG (pathJoin ((splitPath f).take j)) with
  | none => rfl
  | some m => exact absurd (modsG f hm j h2 m h).2.1 (by omega)

theorem detG_run : DetectsGorun layG fsG b!"/tmp/run/main.go" :=
  ⟨by decide +kernel, by decide +kernel, by decide +kernel, nomodG _ (Or.inl rfl), by decide +kernel⟩

/-- every hypothesis of `layout_correct_multi` / `layout_correct_gomod` /
`layout_correct_gorun` holds for this layout -/
theorem hypG : MultiHyp fsG layG snapG := by
  refine ⟨rfl, rfl, Or.inl rfl, by decide, ?_⟩
  intro f hf
  rw [filesG] at hf
  simp only [List.mem_cons, List.not_mem_nil, or_false] at hf
  rcases hf with rfl | rfl | rfl | rfl | rfl | rfl
  · exact detG_goroot.tame (by decide +kernel)
  · exact detG_r1.tame (by decide)
  · exact detG_run.tame (by decide)
  · exact tame_of_silent (by decide +kernel) (by rfl) (nomodG _ (Or.inr rfl)) (by decide +kernel)
  · exact (detG_mod _ (Or.inl rfl)).tame fun i m _ h2 h => (modsG _ (by decide +kernel) i h2 m h).2.2
  · exact (detG_mod _ (Or.inr rfl)).tame fun i m _ h2 h => (modsG _ (by decide +kernel) i h2 m h).2.2

/-- … and the theorems give: the module and the `go run` directory recorded, the
frames in them classed GoMod with their own path as local path and the import
path built from the module path. -/
example (s' : Snapshot) (b : Bool) (h : snapG.guessPaths fsG = .ok (s', b)) :
    (b!"/w/m", b!"example.com/m") ∈ s'.localGomods ∧ (b!"/tmp/run", b!"main") ∈ s'.localGomods ∧
    (call b!"/w/m/sub/x.go").updateLocations s'.remoteGOROOT b!"/G" s'.localGomods s'.remoteGOPATHs =
      ({ call b!"/w/m/sub/x.go" with
           relSrcPath := b!"sub/x.go", localSrcPath := b!"/w/m/sub/x.go",
           importPath := b!"example.com/m/sub", location := .goMod }, true) ∧
    (call b!"/w/m/y.go").updateLocations s'.remoteGOROOT b!"/G" s'.localGomods s'.remoteGOPATHs =
      ({ call b!"/w/m/y.go" with
           relSrcPath := b!"y.go", localSrcPath := b!"/w/m/y.go",
           importPath := b!"example.com/m", location := .goMod }, true) ∧
    (call b!"/tmp/run/main.go").updateLocations s'.remoteGOROOT b!"/G" s'.localGomods s'.remoteGOPATHs =
      ({ call b!"/tmp/run/main.go" with
           relSrcPath := b!"main.go", localSrcPath := b!"/tmp/run/main.go",
           importPath := b!"main", location := .goMod }, true) := by
  have hx : ∃ w ∈ getFiles snapG.goroutines, DetectsGomod layG fsG w b!"/w/m" b!"example.com/m" :=
    ⟨_, by rw [filesG]; decide, detG_mod _ (Or.inl rfl)⟩
  have t1 := layout_correct_gomod fsG layG snapG s' b hypG h (call b!"/w/m/sub/x.go") (rel := b!"sub/x.go") rfl hx
  have t2 := layout_correct_gomod fsG layG snapG s' b hypG h (call b!"/w/m/y.go") (rel := b!"y.go") rfl hx
  have t3 := layout_correct_gorun fsG layG snapG s' b hypG h (call b!"/tmp/run/main.go") (w := b!"/tmp/run/main.go")
    (rel := b!"main.go") (by rw [filesG]; decide) detG_run (by decide)
  exact ⟨t1.1, t3.1, t1.2, t2.2, t3.2⟩

/-- the executable model agrees; the cache holds `/w` when the module is looked for -/
example : snapG.findRoots fsG =
    .ok { goroot := b!"/g", gopaths := [(b!"/r1", b!"/L1")],
          gomods := [(b!"/tmp/run", b!"main"), (b!"/w/m", b!"example.com/m")], missing := 1,
          cache := [b!"/w/m", b!"/w/m/sub", b!"/w", b!"/w/a", b!"/tmp", b!"/tmp/run"] } := by decide +kernel


/-! #### what the witness condition excludes -/

/-- The same relative path in an EARLIER local GOPATH captures the remote root:
`/r2/src/q/b.go` exists under `/L2/src`, but also under `/L1/src`, which is
probed first.  `/r2 ↦ /L1` is recorded, and the second frame, which exists
only under `/L2`, is sent to a file that does not exist.  (`DetectsGopath`
fails: the loop answers `(/r2, /L1)`, not a pair of the layout.) -/
def fsDup : FS :=
  { isFile := fun p => p == b!"/L1/src/q/b.go" || p == b!"/L2/src/q/b.go" || p == b!"/L2/src/q/only2.go",
    readFile := fun _ => none }

example : findGopath fsDup (splitPath b!"/r2/src/q/b.go") [b!"/L1", b!"/L2"] = .ok (some (b!"/r2", b!"/L1")) := by decide +kernel

example : ({ goroutines := [{ sig := { stack := { calls := [b!"/r2/src/q/b.go", b!"/r2/src/q/only2.go"].map call } } }],
             localGOROOT := b!"/G", localGOPATHs := [b!"/L1", b!"/L2"] } : Snapshot).findRoots fsDup =
    .ok { goroot := [], gopaths := [(b!"/r2", b!"/L1")], gomods := [], missing := 0, cache := [] } := by decide +kernel

example : let r := (call b!"/r2/src/q/only2.go").updateLocations [] b!"/G" [] [(b!"/r2", b!"/L1")]
    (r.1.localSrcPath, fsDup.isFile r.1.localSrcPath, fsDup.isFile b!"/L2/src/q/only2.go") =
      (b!"/L1/src/q/only2.go", false, true) := by
  unfold Call.updateLocations Call.updateLocations?
  rw [sortedByLen_single]
  decide +kernel

end PP.C18.Examples

#print axioms PP.C18.resolved_shape
#print axioms PP.C18.resolved_suffix
#print axioms PP.C18.resolved_gomod_local
#print axioms PP.C18.root_is_prefix
#print axioms PP.C18.location_kept
#print axioms PP.C18.class_by_branch
#print axioms PP.C18.import_of_rel
#print axioms PP.C18.unresolved_stays_unknown
#print axioms PP.C18.resolved_iff
#print axioms PP.C18.testmain_stdlib
#print axioms PP.C18.testmain_kept
#print axioms PP.C18.innermost_root
#print axioms PP.C18.updateLocations_perm
#print axioms PP.C18.goroutine_updateLocations_perm
#print axioms PP.C18.findRoots_no_panic
#print axioms PP.C18.guessPaths_no_panic
#print axioms PP.C18.hasSuffix_length_le
#print axioms PP.C18.findRoots_sound
#print axioms PP.C18.detected_gopath_at_boundary
#print axioms PP.C18.detected_goroot_at_boundary
#print axioms PP.C18.cut_is_src_part
#print axioms PP.C18.cut_in_first_part
#print axioms PP.C18.cut_is_pkgmod_parts
#print axioms PP.C18.detected_gopath_is_prefix
#print axioms PP.C18.detected_goroot_is_prefix
#print axioms PP.C18.detected_gomod_is_prefix
#print axioms PP.C18.witness_clean_src
#print axioms PP.C18.detected_gopath_clean
#print axioms PP.C18.detected_goroot_clean
#print axioms PP.C18.guessPaths_shape
#print axioms PP.C18.layout_correct_partial
#print axioms PP.C18.layout_correct_multi
#print axioms PP.C18.layout_correct_multi_frame_gopath
#print axioms PP.C18.layout_correct_multi_frame_gopkg
#print axioms PP.C18.layout_correct_multi_frame_stdlib
#print axioms PP.C18.layout_correct_gomod
#print axioms PP.C18.layout_correct_gorun
