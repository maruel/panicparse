import PP.Lemmas.FuncAtLemmas
import PP.Lemmas.LineOffsetsLemmas
/-
C19d  Which function declaration a traceback line is attributed to:
`(*parsedFile).getFuncAST` (stack/source.go:114-168).

Model: `PP.FA.getFuncAST` (PP/Model/FuncAt.lean) — `ast.Inspect` with the
closure of the Go code over a rose tree of (position, is-FuncDecl, which
declaration).  Vocabulary: PP/Spec/FuncTree.lean (`nodes`, `AllBeforeL`,
`ReachesL`, `NoDeclL`, `Ordered`, `lastDecl`).

`off` is `p.lineToByteOffset[l]`; positions are `int(n.Pos())` (1-based), the
table is 0-based, the code compares them as they are (see the header of the
model file); the theorems are about the comparison the code makes.

Trusted, not modelled: go/parser and the order in which `ast.Walk` visits the
children of each node kind; the harness (C19 stream f) converts the real tree
with `ast.Inspect` and compares every line of generated files.
-/
namespace PP.FA
open PP PP.Bytes

/-! ### 1. errors -/

/-- the line is over the line count: the error, whatever the tree -/
theorem getFuncAST_lineOver (offsets : List Nat) (root : Node) (l : Nat) (h : offsets.length ≤ l) :
    getFuncAST offsets root l = .error .lineOver := by
  unfold getFuncAST; rw [if_pos h]

/-- **No index out of range.**  The only table index read is `l`, behind the
length test: the run-time panic of `p.lineToByteOffset[l]` (`.error .index` in
the model) is unreachable -/
theorem getFuncAST_indexes_in_range (offsets : List Nat) (root : Node) (l : Nat) :
    getFuncAST offsets root l ≠ .error .index := by
  rcases getFuncAST_cases offsets root l with ⟨_, h⟩ | ⟨_, d, h⟩
  · rw [h]; exact nofun
  · rw [h]; exact nofun

/-- the result is an error exactly when the line is over the line count -/
theorem getFuncAST_error_iff (offsets : List Nat) (root : Node) (l : Nat) (e : Err) :
    getFuncAST offsets root l = .error e ↔ e = .lineOver ∧ offsets.length ≤ l := by
  rcases getFuncAST_cases offsets root l with ⟨hle, h⟩ | ⟨hle, d, h⟩
  · rw [h]
    exact ⟨fun hc => by cases hc; exact ⟨rfl, hle⟩, fun ⟨he, _⟩ => by rw [he]⟩
  · rw [h]
    exact ⟨nofun, fun ⟨_, h'⟩ => absurd h' hle⟩

/-! ### 2. a line inside a function -/

/-- **Inside, general form.**  The children of the file node are `before`,
then the declaration `k`, then anything.  Everything in `before` starts before
the line, the declaration starts before the line, some node under the
declaration starts on the line or later, and no node under it is a `FuncDecl`
(function literals are not): the answer is declaration `k` — for every shape
of `before`, of the subtrees of the declaration (nested literals included) and
of what follows. -/
theorem getFuncAST_inside_of_before (offsets : List Nat) (l off : Nat) (hoff : offsets[l]? = some off)
    (p0 x : Nat) (before after : List Node) (pk k : Nat) (body : List Node)
    (hroot : p0 < off) (hbefore : AllBeforeL off before)
    (hpk : pk < off) (hbody : NoDeclL body) (hreach : ReachesL off body) :
    getFuncAST offsets ⟨p0, false, x, before ++ ⟨pk, true, k, body⟩ :: after⟩ l = .ok (some k) := by
  rw [getFuncAST_items offsets l off hoff p0 x before _ hroot hbefore, walkList, walk]
  have hp : ¬ pk ≥ off := by omega
  rw [if_neg (not_onLine_of_lt hp)]
  simp only [Option.isSome_none, Bool.false_eq_true, if_false, hp, if_true]
  rw [walkList_stop off k _ _ rfl rfl body hbody hreach, walkList_done off _ _ rfl after]

/-- **Inside.**  The top-level items of the file (package name, import, type,
variable and function declarations) are in source order (`Ordered`: every node
of an earlier item lies before the start of every later item).  Item `i` is
the function declaration `k`; the line's offset lies strictly after its
position and at or before the position of some node of its subtree (a line
inside the function, not its first line): the answer is `k`. -/
theorem getFuncAST_inside (offsets : List Nat) (l off : Nat) (hoff : offsets[l]? = some off)
    (p0 x : Nat) (items : List Node) (i pk k : Nat) (body : List Node)
    (hroot : p0 < off) (hord : Ordered items)
    (hi : items[i]? = some ⟨pk, true, k, body⟩)
    (hpk : pk < off) (hbody : NoDeclL body) (hreach : ReachesL off body) :
    getFuncAST offsets ⟨p0, false, x, items⟩ l = .ok (some k) := by
  obtain ⟨hlt, hget⟩ := List.getElem?_eq_some_iff.mp hi
  have hsplit : items = items.take i ++ ⟨pk, true, k, body⟩ :: items.drop (i + 1) := by
    rw [← hget, List.getElem_cons_drop, List.take_append_drop]
  have hbefore : AllBeforeL off (items.take i) := by
    intro m hm
    obtain ⟨c, hc, hmc⟩ := exists_of_mem_nodesL _ m hm
    unfold Ordered at hord
    rw [hsplit, List.pairwise_append] at hord
    have hlt' : m.pos < pk := hord.2.2 c hc ⟨pk, true, k, body⟩ (by simp) m hmc
    omega
  rw [hsplit]
  exact getFuncAST_inside_of_before offsets l off hoff p0 x _ _ pk k body hroot hbefore hpk hbody hreach

/-! ### 3. the first line of a declaration, and the lines between declarations -/

/-- **The first line (finding F12).**  The declaration `k` starts on the line
itself (`off ≤ pk ≤ eol`, `eol` the offset at which the next line starts, no
bound on the last line), some node under it starts on the line or later (its
name does) and no node under it is a `FuncDecl`: the answer is `k`.  A frame
in a one-line function `func k(…) { … }` gets the parameter types of `k`, not
those of the declaration before it. -/
theorem getFuncAST_first_line_is_self (offsets : List Nat) (l off : Nat) (hoff : offsets[l]? = some off)
    (p0 x : Nat) (before after : List Node) (pk k : Nat) (body : List Node)
    (hroot : p0 < off) (hbefore : AllBeforeL off before)
    (hk : off ≤ pk) (heol : leEol pk offsets[l + 1]? = true)
    (hbody : NoDeclL body) (hreach : ReachesL off body) :
    getFuncAST offsets ⟨p0, false, x, before ++ ⟨pk, true, k, body⟩ :: after⟩ l = .ok (some k) := by
  rw [getFuncAST_items offsets l off hoff p0 x before _ hroot hbefore, walkList,
    walk_enter_self off _ _ rfl pk k body hk heol hbody hreach, walkList_done off _ _ rfl after]

/-- **Stop at a top-level item, general form.**  Everything in `before` starts
before the line, the next item `dk` stops the walk (`Stops`: it starts on the
line or later and is not a function declaration that starts on the line) and
the last function declaration in `before` is `j`: the answer is `j`.  These
are the closing-brace line of `j`, the blank and comment lines after it, and
the lines of a following variable or type declaration. -/
theorem getFuncAST_stop_at_item (offsets : List Nat) (l off : Nat) (hoff : offsets[l]? = some off)
    (p0 x : Nat) (before after : List Node) (dk : Node) (j : Nat)
    (hroot : p0 < off) (hbefore : AllBeforeL off before)
    (hlast : lastDecl none (nodesL before) = some j) (hk : Stops off offsets[l + 1]? dk) :
    getFuncAST offsets ⟨p0, false, x, before ++ dk :: after⟩ l = .ok (some j) := by
  rw [getFuncAST_items offsets l off hoff p0 x before _ hroot hbefore, walkList, hlast,
    walk_stops off _ _ rfl dk hk, walkList_done off _ _ rfl after]

/-- **Between two declarations.**  Declaration `j` lies entirely before the
line and the next declaration `k` starts after the line (`eol < pk`): the line
(closing brace of `j`, blank lines, comments) is attributed to `j`. -/
theorem getFuncAST_between_is_previous (offsets : List Nat) (l off eol : Nat) (hoff : offsets[l]? = some off)
    (heol : offsets[l + 1]? = some eol)
    (p0 x : Nat) (before after : List Node) (pj j : Nat) (bodyj : List Node) (pk k : Nat) (bodyk : List Node)
    (hroot : p0 < off) (hbefore : AllBeforeL off before)
    (hpj : pj < off) (hbj : AllBeforeL off bodyj) (hnd : NoDeclL bodyj)
    (hk : off ≤ pk) (hk' : eol < pk) :
    getFuncAST offsets ⟨p0, false, x, before ++ ⟨pj, true, j, bodyj⟩ :: ⟨pk, true, k, bodyk⟩ :: after⟩ l
      = .ok (some j) := by
  have hj : ∀ m ∈ nodes ⟨pj, true, j, bodyj⟩, m.pos < off := by
    rw [nodes]
    intro m hm
    rcases List.mem_cons.mp hm with rfl | h
    · exact hpj
    · exact hbj m h
  have hs : Stops off offsets[l + 1]? ⟨pk, true, k, bodyk⟩ := by
    refine ⟨hk, ?_⟩
    rintro ⟨_, hle⟩
    rw [heol] at hle
    exact Nat.not_le_of_lt hk' (of_decide_eq_true hle)
  rw [getFuncAST_items offsets l off hoff p0 x before _ hroot hbefore, walkList,
    walk_allBefore off _ _ rfl _ hj, walkList, lastDecl_decl _ pj j bodyj hnd,
    walk_stops off _ _ rfl _ hs, walkList_done off _ _ rfl after]

/-- when no function declaration comes before and every later top-level item
stops the walk, there is no answer.  (The walk does not end at the first stop:
`d` is still nil, every later item is a stop again.) -/
theorem getFuncAST_above_first_is_none (offsets : List Nat) (l off : Nat)
    (hoff : offsets[l]? = some off) (p0 x : Nat) (before rest : List Node)
    (hroot : p0 < off) (hbefore : AllBeforeL off before) (hnd : NoDeclL before)
    (hrest : ∀ c ∈ rest, Stops off offsets[l + 1]? c) :
    getFuncAST offsets ⟨p0, false, x, before ++ rest⟩ l = .ok none := by
  rw [getFuncAST_items offsets l off hoff p0 x before _ hroot hbefore, lastDecl_of_none _ _ hnd,
    walkList_all_stop_none off _ rest hrest]

/-! ### 4. outside every node -/

/-- a line beyond every node position (after the last statement of the last
function: its closing brace, trailing blank lines and comments) yields no
declaration -/
theorem getFuncAST_after_last (offsets : List Nat) (l off : Nat) (hoff : offsets[l]? = some off)
    (root : Node) (h : AllBefore off root) :
    getFuncAST offsets root l = .ok none := by
  rw [getFuncAST_eq_walk offsets _ l off hoff, walk_allBefore off _ {} rfl root h]

/-- a line at or above the `package` clause stops at the file node itself:
nothing is visited -/
theorem getFuncAST_before_package (offsets : List Nat) (l off : Nat) (hoff : offsets[l]? = some off)
    (root : Node) (h : off ≤ root.pos) (hf : root.isFuncDecl = false) :
    getFuncAST offsets root l = .ok none := by
  rw [getFuncAST_eq_walk offsets _ l off hoff,
    walk_stops off _ {} rfl root ⟨h, fun hc => by rw [hf] at hc; cases hc.1⟩]

/-- lines 0 and 1 of any source never yield a declaration (their offset is 0) -/
theorem getFuncASTSrc_line01 (src : Bytes) (root : Node) (hf : root.isFuncDecl = false) (l : Nat) (hl : l ≤ 1) :
    getFuncASTSrc src root l = .ok none := by
  unfold getFuncASTSrc
  apply getFuncAST_before_package _ l 0 _ root (Nat.zero_le _) hf
  rw [AugGlue.lineToByteOffsets_eq]
  rcases Nat.le_one_iff_eq_zero_or_eq_one.mp hl with rfl | rfl <;> rfl

/-! ### 5. the oracle of AugmentGlue -/

/-- `AugGlue.ParsedFile.getFuncAST` with the `Parsed` built from the tree is
this walk followed by the type extraction of the declaration found: the
oracle `Parsed.funcAt` of PP/Model/AugmentGlue.lean is discharged for every
tree -/
theorem glue_getFuncAST (offsets : List Nat) (root : Node) (types : Nat → Option (List Bytes × Bool))
    (f : Bytes) (l : Nat) :
    AugGlue.ParsedFile.getFuncAST ⟨offsets, toParsed offsets root types⟩ f l =
      match getFuncAST offsets root l with
      | .error _ => .error .lineOver
      | .ok r => .ok (r.bind types) := by
  unfold AugGlue.ParsedFile.getFuncAST
  rcases getFuncAST_cases offsets root l with ⟨hle, h⟩ | ⟨hle, d, h⟩
  · rw [if_pos hle, h]
  · simp only [if_neg hle, toParsed, h]
    cases d <;> rfl

/-! ### 6. a concrete file -/

/-- three functions: one with a nested literal, one declared on a single line,
one pointer-receiver method -/
def exSrc : Bytes :=
  b!"package p\n\nfunc a(x int) {\n\tg := func() {\n\t\th()\n\t}\n\tg()\n}\n\nfunc b(x, y int) { panic(1) }\n\nfunc (t *T) c(x, y, z int) {\n\th()\n}\n"

/-- the bodies, as `ast.Inspect` reports them on go/parser's tree of `exSrc` -/
def exBodyA : List Node := [
    ⟨17, false, 0, []⟩,
    ⟨12, false, 0, [⟨18, false, 0, [⟨19, false, 0, [⟨19, false, 0, []⟩, ⟨21, false, 0, []⟩]⟩]⟩]⟩,
    ⟨26, false, 0, [
      ⟨29, false, 0, [
        ⟨29, false, 0, []⟩,
        ⟨34, false, 0, [
          ⟨34, false, 0, [⟨38, false, 0, []⟩]⟩,
          ⟨41, false, 0, [⟨45, false, 0, [⟨45, false, 0, [⟨45, false, 0, []⟩]⟩]⟩]⟩]⟩]⟩,
      ⟨53, false, 0, [⟨53, false, 0, [⟨53, false, 0, []⟩]⟩]⟩]⟩]

def exBodyB : List Node := [
    ⟨65, false, 0, []⟩,
    ⟨60, false, 0, [⟨66, false, 0, [⟨67, false, 0, [⟨67, false, 0, []⟩, ⟨70, false, 0, []⟩, ⟨72, false, 0, []⟩]⟩]⟩]⟩,
    ⟨77, false, 0, [⟨79, false, 0, [⟨79, false, 0, [⟨79, false, 0, []⟩, ⟨85, false, 0, []⟩]⟩]⟩]⟩]

def exBodyC : List Node := [
    ⟨96, false, 0, [⟨97, false, 0, [⟨97, false, 0, []⟩, ⟨99, false, 0, [⟨100, false, 0, []⟩]⟩]⟩]⟩,
    ⟨103, false, 0, []⟩,
    ⟨91, false, 0, [⟨104, false, 0, [⟨105, false, 0,
      [⟨105, false, 0, []⟩, ⟨108, false, 0, []⟩, ⟨111, false, 0, []⟩, ⟨113, false, 0, []⟩]⟩]⟩]⟩,
    ⟨118, false, 0, [⟨121, false, 0, [⟨121, false, 0, [⟨121, false, 0, []⟩]⟩]⟩]⟩]

def exItems : List Node :=
  [⟨9, false, 0, []⟩, ⟨12, true, 0, exBodyA⟩, ⟨60, true, 1, exBodyB⟩, ⟨91, true, 2, exBodyC⟩]

def exRoot : Node := ⟨1, false, 0, exItems⟩

/-- the line table of `exSrc`, evaluated once for the examples below -/
theorem exOffsets :
    AugGlue.lineToByteOffsets exSrc = [0, 0, 10, 11, 27, 42, 48, 51, 56, 58, 59, 89, 90, 119, 124, 126] := by
  decide +kernel

theorem exOrdered : Ordered exItems := by decide

theorem exNoDecl : NoDeclL exBodyA ∧ NoDeclL exBodyB ∧ NoDeclL exBodyC := by decide

/-- line by line (0 … 16): nothing above `a`; `a` from its first line to the
line before `b`; the one-line function `b` on its own line (line 10) and on
the blank line after it; `c` on its two lines; nothing on the closing brace of
the last function and after; the error beyond -/
example : (List.range 17).map (getFuncASTSrc exSrc exRoot) =
    [.ok none, .ok none, .ok none,
     .ok (some 0),                     -- line 3: `func a(x int) {`
     .ok (some 0), .ok (some 0), .ok (some 0), .ok (some 0), .ok (some 0), .ok (some 0),
     .ok (some 1),                     -- line 10: `func b(x, y int) { panic(1) }`
     .ok (some 1),
     .ok (some 2),                     -- line 12: `func (t *T) c(x, y, z int) {`
     .ok (some 2),
     .ok none, .ok none,
     .error .lineOver] := by
  unfold getFuncASTSrc
  rw [exOffsets]
  decide +kernel

example : AugGlue.lineToByteOffsets exSrc = [0, 0, 10, 11, 27, 42, 48, 51, 56, 58, 59, 89, 90, 119, 124, 126] :=
  exOffsets

example : Ordered exItems := exOrdered

/-- `getFuncAST_inside` applies: line 5 (`h()` inside the literal inside `a`) -/
example : getFuncASTSrc exSrc exRoot 5 = .ok (some 0) := by
  rw [getFuncASTSrc, exOffsets]
  exact getFuncAST_inside _ 5 42 rfl 1 0 exItems 1 12 0 exBodyA (by decide) exOrdered rfl (by decide) exNoDecl.1
    (by decide)

/-- `getFuncAST_inside` applies: line 13 (`h()` inside the method `c`) -/
example : getFuncASTSrc exSrc exRoot 13 = .ok (some 2) := by
  rw [getFuncASTSrc, exOffsets]
  exact getFuncAST_inside _ 13 119 rfl 1 0 exItems 3 91 2 exBodyC (by decide) exOrdered rfl (by decide) exNoDecl.2.2
    (by decide)

/-- `getFuncAST_first_line_is_self` applies: line 10, the one-line function
`b` (declaration 1) -/
example : getFuncASTSrc exSrc exRoot 10 = .ok (some 1) := by
  rw [getFuncASTSrc, exOffsets]
  exact getFuncAST_first_line_is_self _ 10 59 rfl 1 0
    [⟨9, false, 0, []⟩, ⟨12, true, 0, exBodyA⟩] [⟨91, true, 2, exBodyC⟩]
    60 1 exBodyB (by decide) (by decide) (by decide) rfl exNoDecl.2.1 (by decide)

/-- `getFuncAST_between_is_previous` applies: line 9, the blank line between
`a` and `b` -/
example : getFuncASTSrc exSrc exRoot 9 = .ok (some 0) := by
  rw [getFuncASTSrc, exOffsets]
  exact getFuncAST_between_is_previous _ 9 58 59 rfl rfl 1 0 [⟨9, false, 0, []⟩]
    [⟨91, true, 2, exBodyC⟩] 12 0 exBodyA 60 1 exBodyB (by decide) (by decide) (by decide)
    (by decide) exNoDecl.1 (by decide) (by decide)

/-- `getFuncAST_above_first_is_none` applies: line 2, the blank line above the
first function -/
example : getFuncASTSrc exSrc exRoot 2 = .ok none := by
  rw [getFuncASTSrc, exOffsets]
  exact getFuncAST_above_first_is_none _ 2 10 rfl 1 0 [⟨9, false, 0, []⟩]
    [⟨12, true, 0, exBodyA⟩, ⟨60, true, 1, exBodyB⟩, ⟨91, true, 2, exBodyC⟩]
    (by decide) (by decide) (by decide) (by decide)

/-- `getFuncAST_after_last` applies: line 14, the closing brace of the last
function -/
example : getFuncASTSrc exSrc exRoot 14 = .ok none := by
  rw [getFuncASTSrc, exOffsets]
  exact getFuncAST_after_last _ 14 124 rfl exRoot (by decide)

/-- `getFuncAST_lineOver` applies: line 16 of a 14-line file (15 is the empty
line after the final newline) -/
example : getFuncASTSrc exSrc exRoot 16 = .error .lineOver := by
  rw [getFuncASTSrc, exOffsets]
  exact getFuncAST_lineOver _ exRoot 16 (by decide)

/-- the walk does continue after a stop with nothing remembered: a tree (not
one go/parser builds) whose second item starts before the first one -/
example : getFuncAST [0, 0, 10] ⟨1, false, 0, [⟨20, false, 0, []⟩, ⟨5, true, 7, []⟩, ⟨30, false, 0, []⟩]⟩ 2
    = .ok (some 7) := by decide

#print axioms getFuncAST_lineOver
#print axioms getFuncAST_indexes_in_range
#print axioms getFuncAST_error_iff
#print axioms getFuncAST_inside_of_before
#print axioms getFuncAST_inside
#print axioms getFuncAST_stop_at_item
#print axioms getFuncAST_first_line_is_self
#print axioms getFuncAST_between_is_previous
#print axioms getFuncAST_above_first_is_none
#print axioms getFuncAST_after_last
#print axioms getFuncAST_before_package
#print axioms getFuncASTSrc_line01
#print axioms glue_getFuncAST

end PP.FA
