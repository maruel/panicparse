import PP.Lemmas.ConsoleLemmas
import PP.Lemmas.ConsoleWidth
import PP.Lemmas.ColourStrip
import PP.Lemmas.ConsoleSamples
/-
C16: console rendering is complete, aligned and colour-independent.
-/
namespace PP.Console
open PP PP.Bytes

/-! ## 1. every admitted bucket / goroutine exactly once and in order -/

/-- The console output of an aggregation is the banner (when requested)
followed by the blocks (header then stack lines) of exactly the admitted
buckets, each once, in bucket order. -/
theorem blocks_buckets (p : Palette) (bs : List Bucket) (pf : PathFormat) (needsEnv : Bool)
    (filter mtch : Option (Bytes → Bool)) :
    writeBuckets p bs pf needsEnv filter mtch
      = (if needsEnv then banner else []) ++ render (bucketBlocks p bs pf filter mtch)
    ∧ bucketBlocks p bs pf filter mtch
      = ((bs.filter fun b => admitted filter mtch (bucketHeader p b pf (decide (bs.length > 1)))).map fun b =>
          (bucketHeader p b pf (decide (bs.length > 1)),
           stackLines p b.sig (calcBucketsLengths bs pf).1 (calcBucketsLengths bs pf).2 pf)) := by
  constructor
  · simp only [writeBuckets, bucketBlocks, writeLoop_eq_render]
  · rfl

/-- Same for a race report: one block per admitted goroutine. -/
theorem blocks_goroutines (p : Palette) (gs : List Goroutine) (pf : PathFormat) (needsEnv : Bool)
    (filter mtch : Option (Bytes → Bool)) :
    writeGoroutines p gs pf needsEnv filter mtch
      = (if needsEnv then banner else []) ++ render (goroutineBlocks p gs pf filter mtch)
    ∧ goroutineBlocks p gs pf filter mtch
      = ((gs.filter fun g => admitted filter mtch (goroutineHeader p g pf (decide (gs.length > 1)))).map fun g =>
          (goroutineHeader p g pf (decide (gs.length > 1)),
           stackLines p g.sig (calcGoroutinesLengths gs pf).1 (calcGoroutinesLengths gs pf).2 pf)) := by
  constructor
  · simp only [writeGoroutines, goroutineBlocks, writeLoop_eq_render]
  · rfl

/-- With no filter every bucket has its block. -/
theorem blocks_buckets_unfiltered (p : Palette) (bs : List Bucket) (pf : PathFormat) :
    (bucketBlocks p bs pf none none).length = bs.length := by
  simp [bucketBlocks, blocksOf_none]

theorem blocks_goroutines_unfiltered (p : Palette) (gs : List Goroutine) (pf : PathFormat) :
    (goroutineBlocks p gs pf none none).length = gs.length := by
  simp [goroutineBlocks, blocksOf_none]

/-! ## 2. 'filter out' and 'match only' split the unfiltered blocks in two -/

/-- For any predicate `q` on header text (the regular expression): the blocks
written with `-f q` are the unfiltered blocks whose header `q` rejects, those
written with `-m q` the ones it accepts, with identical text; the two are
disjoint sublists of the unfiltered list and together a permutation of it. -/
theorem filter_match_split_buckets (p : Palette) (bs : List Bucket) (pf : PathFormat) (q : Bytes → Bool) :
    let all := bucketBlocks p bs pf none none
    let a := bucketBlocks p bs pf (some q) none
    let b := bucketBlocks p bs pf none (some q)
    a = all.filter (fun blk => !q blk.1) ∧ b = all.filter (fun blk => q blk.1) ∧
    all.Perm (a ++ b) ∧ a.length + b.length = all.length ∧
    a.Sublist all ∧ b.Sublist all ∧ (∀ x, x ∈ a → x ∉ b) :=
  blocksOf_split _ _ q bs

theorem filter_match_split_goroutines (p : Palette) (gs : List Goroutine) (pf : PathFormat) (q : Bytes → Bool) :
    let all := goroutineBlocks p gs pf none none
    let a := goroutineBlocks p gs pf (some q) none
    let b := goroutineBlocks p gs pf none (some q)
    a = all.filter (fun blk => !q blk.1) ∧ b = all.filter (fun blk => q blk.1) ∧
    all.Perm (a ++ b) ∧ a.length + b.length = all.length ∧
    a.Sublist all ∧ b.Sublist all ∧ (∀ x, x ∈ a → x ∉ b) :=
  blocksOf_split _ _ q gs

/-! ## 3. the file and function columns are aligned over the whole output -/

/-- For every frame of every signature the widths were computed from (fmt
accepts the widths, i.e. they are at most 10^6): without colours the call line
is 4 spaces, the package directory padded to `pkgLen` runes, a space, the
location padded to `srcLen` runes, a space, then function and arguments.  The
texts fit their columns (rune count ≤ byte length ≤ maximum), so the file
column starts at rune offset `4 + pkgLen + 1` and the function column at
`4 + pkgLen + 1 + srcLen + 1` on every call line of the output. -/
theorem aligned (pf : PathFormat) (sigs : List Signature) (s : Signature) (c : Call)
    (hs : s ∈ sigs) (hc : c ∈ s.stack.calls)
    (hsrc : (calcLengths pf sigs).1 ≤ fmtMaxWidth) (hpkg : (calcLengths pf sigs).2 ≤ fmtMaxWidth) :
    let srcLen := (calcLengths pf sigs).1
    let pkgLen := (calcLengths pf sigs).2
    let col1 := b!"    " ++ padRight pkgLen c.fn.dirName ++ b!" "
    let col2 := col1 ++ padRight srcLen (formatCall pf c) ++ b!" "
    callLine emptyPalette c srcLen pkgLen pf = col2 ++ c.fn.name ++ b!"(" ++ argsString c.args ++ b!")" ∧
    runeCount c.fn.dirName ≤ pkgLen ∧ runeCount (formatCall pf c) ≤ srcLen ∧
    padRight pkgLen c.fn.dirName = c.fn.dirName ++ List.replicate (pkgLen - runeCount c.fn.dirName) 32 ∧
    padRight srcLen (formatCall pf c) = formatCall pf c ++ List.replicate (srcLen - runeCount (formatCall pf c)) 32 ∧
    runeCount col1 = 4 + pkgLen + 1 ∧ runeCount col2 = 4 + pkgLen + 1 + srcLen + 1 := by
  intro srcLen pkgLen col1 col2
  have hm := calcLengths_mem pf sigs s c hs hc
  have h1 : runeCount c.fn.dirName ≤ pkgLen := Nat.le_trans (runeCount_le _) hm.2
  have h2 : runeCount (formatCall pf c) ≤ srcLen := Nat.le_trans (runeCount_le _) hm.1
  have hcol1 : runeCount col1 = 4 + pkgLen + 1 := by
    show runeCount (b!"    " ++ padRight pkgLen c.fn.dirName ++ [32]) = _
    rw [List.append_assoc, runeCount_indent, runeCount_padRight_space _ _ h1]; omega
  refine ⟨?_, h1, h2, rfl, rfl, hcol1, ?_⟩
  · rw [callLine, functionColor, funcColor_empty, fmtPadRight_eq _ _ hsrc, fmtPadRight_eq _ _ hpkg]
    simp only [emptyPalette, List.append_nil]
    rfl
  · have e : col2 = (b!"    " ++ padRight pkgLen c.fn.dirName) ++ 32 :: (padRight srcLen (formatCall pf c) ++ [32]) := by
      simp [col2, col1]
    rw [e, runeCount_snoc_ascii_append _ _ _ (by decide), runeCount_padRight_space _ _ h2]
    have : runeCount (b!"    " ++ padRight pkgLen c.fn.dirName ++ [32]) = 4 + pkgLen + 1 := hcol1
    rw [this]; omega

/-- `aligned` for an aggregation: the widths of writeBucketsToConsole. -/
theorem aligned_buckets (pf : PathFormat) (bs : List Bucket) (b : Bucket) (c : Call)
    (hb : b ∈ bs) (hc : c ∈ b.sig.stack.calls)
    (hsrc : (calcBucketsLengths bs pf).1 ≤ fmtMaxWidth) (hpkg : (calcBucketsLengths bs pf).2 ≤ fmtMaxWidth) :
    let srcLen := (calcBucketsLengths bs pf).1
    let pkgLen := (calcBucketsLengths bs pf).2
    let col1 := b!"    " ++ padRight pkgLen c.fn.dirName ++ b!" "
    let col2 := col1 ++ padRight srcLen (formatCall pf c) ++ b!" "
    callLine emptyPalette c srcLen pkgLen pf = col2 ++ c.fn.name ++ b!"(" ++ argsString c.args ++ b!")" ∧
    runeCount col1 = 4 + pkgLen + 1 ∧ runeCount col2 = 4 + pkgLen + 1 + srcLen + 1 := by
  have h := aligned pf (bs.map (fun b : Bucket => b.sig)) b.sig c (List.mem_map_of_mem hb) hc hsrc hpkg
  exact ⟨h.1, h.2.2.2.2.2.1, h.2.2.2.2.2.2⟩

/-- `aligned` for a race report: the widths of writeGoroutinesToConsole. -/
theorem aligned_goroutines (pf : PathFormat) (gs : List Goroutine) (g : Goroutine) (c : Call)
    (hg : g ∈ gs) (hc : c ∈ g.sig.stack.calls)
    (hsrc : (calcGoroutinesLengths gs pf).1 ≤ fmtMaxWidth) (hpkg : (calcGoroutinesLengths gs pf).2 ≤ fmtMaxWidth) :
    let srcLen := (calcGoroutinesLengths gs pf).1
    let pkgLen := (calcGoroutinesLengths gs pf).2
    let col1 := b!"    " ++ padRight pkgLen c.fn.dirName ++ b!" "
    let col2 := col1 ++ padRight srcLen (formatCall pf c) ++ b!" "
    callLine emptyPalette c srcLen pkgLen pf = col2 ++ c.fn.name ++ b!"(" ++ argsString c.args ++ b!")" ∧
    runeCount col1 = 4 + pkgLen + 1 ∧ runeCount col2 = 4 + pkgLen + 1 + srcLen + 1 := by
  have h := aligned pf (gs.map (fun g : Goroutine => g.sig)) g.sig c (List.mem_map_of_mem hg) hc hsrc hpkg
  exact ⟨h.1, h.2.2.2.2.2.1, h.2.2.2.2.2.2⟩

/-! ## 4. one line per frame and a marker where frames were elided -/

/-- StackLines is its lines joined by "\n" plus a final "\n"; there is one line
per call (the call lines, in order) plus one when frames were elided, and the
last line is the marker `    (...)` exactly when frames were elided. -/
theorem elided_marker (p : Palette) (sig : Signature) (srcLen pkgLen : Nat) (pf : PathFormat) :
    let lines := stackLineList p sig srcLen pkgLen pf
    stackLines p sig srcLen pkgLen pf = join b!"\n" lines ++ b!"\n" ∧
    lines.length = sig.stack.calls.length + (if sig.stack.elided then 1 else 0) ∧
    lines.take sig.stack.calls.length = sig.stack.calls.map (fun c => callLine p c srcLen pkgLen pf) ∧
    (lines.getLast? = some elidedLine ↔ sig.stack.elided = true) := by
  intro lines
  refine ⟨rfl, ?_⟩
  show (stackLineList p sig srcLen pkgLen pf).length = _ ∧ (stackLineList p sig srcLen pkgLen pf).take _ = _ ∧
    ((stackLineList p sig srcLen pkgLen pf).getLast? = _ ↔ _)
  unfold stackLineList
  have hlen : (sig.stack.calls.map (fun c => callLine p c srcLen pkgLen pf)).length = sig.stack.calls.length :=
    List.length_map _
  cases sig.stack.elided
  · -- the lines are the call lines, none of which is the marker
    simp only [Bool.false_eq_true, if_false, Nat.add_zero, iff_false]
    refine ⟨hlen, by rw [← hlen, List.take_length], fun hl => ?_⟩
    obtain ⟨c, _, hc⟩ := List.mem_map.1 (List.mem_of_getLast? hl)
    exact callLine_ne_elidedLine p c srcLen pkgLen pf hc
  · simp only [if_true, iff_true]
    exact ⟨by rw [List.length_append, hlen]; rfl, by rw [← hlen, List.take_left], List.getLast?_concat⟩

/-! ## 5. the fields of a header -/

/-- Without colours a bucket header is: member count, state, then sleep range,
lock and creator when present, then a newline. -/
theorem header_fields_bucket (b : Bucket) (pf : PathFormat) (multi : Bool) :
    bucketHeader emptyPalette b pf multi
      = fmtDec b.ids.length ++ b!": " ++ b.sig.state
        ++ (if sleepString b.sig ≠ [] then b!" [" ++ sleepString b.sig ++ b!"]" else [])
        ++ (if b.sig.locked then b!" [locked]" else [])
        ++ (if createdByString pf b.sig ≠ [] then b!" [Created by " ++ createdByString pf b.sig ++ b!"]" else [])
        ++ b!"\n" := by
  rw [bucketHeader, headerExtra_empty]
  simp only [routineColor, emptyPalette, ite_self, List.nil_append, List.append_assoc]

/-- Without colours a goroutine header is: goroutine id, state, sleep range,
lock, creator and the racing access when present, then a newline. -/
theorem header_fields_goroutine (g : Goroutine) (pf : PathFormat) (multi : Bool) :
    goroutineHeader emptyPalette g pf multi
      = fmtDec g.id ++ b!": " ++ g.sig.state
        ++ (if sleepString g.sig ≠ [] then b!" [" ++ sleepString g.sig ++ b!"]" else [])
        ++ (if g.sig.locked then b!" [locked]" else [])
        ++ (if createdByString pf g.sig ≠ [] then b!" [Created by " ++ createdByString pf g.sig ++ b!"]" else [])
        ++ (if g.raceAddr ≠ 0 then b!" Race " ++ (if g.raceWrite then b!"write" else b!"read") ++ b!" @ 0x" ++ fmtHex08 g.raceAddr else [])
        ++ b!"\n" := by
  rw [goroutineHeader, headerExtra_empty]
  simp only [routineColor, emptyPalette, ite_self, List.nil_append, List.append_assoc, ite_append_left,
    ite_append_self]

/-- the creator text: package directory, function, location -/
theorem createdBy_fields (pf : PathFormat) (s : Signature) (c : Call) (rest : List Call)
    (h : s.createdBy.calls = c :: rest) :
    createdByString pf s = c.fn.dirName ++ b!"." ++ c.fn.name ++ b!" @ " ++ formatCall pf c := by
  simp [createdByString, h]

/-! ## 6. colouring never changes the text -/

/-- With no filter active, for a palette whose fields are concatenations of
escape sequences `ESC [ … m` and dump-derived strings free of ESC: removing
the escape sequences from the coloured output of an aggregation gives the
uncoloured output. -/
theorem colour_strip_buckets (p : Palette) (hp : PaletteIsAnsi p) (bs : List Bucket)
    (hbs : ∀ b ∈ bs, SigNoEsc b.sig) (pf : PathFormat) (needsEnv : Bool) :
    stripAnsi (writeBuckets p bs pf needsEnv none none) = writeBuckets emptyPalette bs pf needsEnv none none := by
  apply StripsTo.strip
  unfold writeBuckets
  exact (banner_strips needsEnv).append
    (writeLoop_strips _ _ _ _ bs (fun b hb => bucketHeader_strips hp (hbs b hb) pf _)
      (fun b hb => stackLines_strips hp (hbs b hb) _ _ pf))

/-- Same hypotheses, for a race report: removing the escape sequences from the
coloured output gives the uncoloured output. -/
theorem colour_strip_goroutines (p : Palette) (hp : PaletteIsAnsi p) (gs : List Goroutine)
    (hgs : ∀ g ∈ gs, SigNoEsc g.sig) (pf : PathFormat) (needsEnv : Bool) :
    stripAnsi (writeGoroutines p gs pf needsEnv none none) = writeGoroutines emptyPalette gs pf needsEnv none none := by
  apply StripsTo.strip
  unfold writeGoroutines
  exact (banner_strips needsEnv).append
    (writeLoop_strips _ _ _ _ gs (fun g hg => goroutineHeader_strips hp (hgs g hg) pf _)
      (fun g hg => stackLines_strips hp (hgs g hg) _ _ pf))

/-- The pieces too: a coloured header / stack without its escape sequences is
the uncoloured one (this is what a filter expression would see differently). -/
theorem colour_strip_pieces (p : Palette) (hp : PaletteIsAnsi p) (b : Bucket) (hb : SigNoEsc b.sig)
    (pf : PathFormat) (multi : Bool) (srcLen pkgLen : Nat) :
    stripAnsi (bucketHeader p b pf multi) = bucketHeader emptyPalette b pf multi ∧
    stripAnsi (stackLines p b.sig srcLen pkgLen pf) = stackLines emptyPalette b.sig srcLen pkgLen pf :=
  ⟨(bucketHeader_strips hp hb pf multi).strip, (stackLines_strips hp hb srcLen pkgLen pf).strip⟩

/-! ## examples: the sample palette and a rendered aggregation -/

/-- the hypothesis of `colour_strip_*` holds of that palette -/
example : PaletteIsAnsi samplePalette where
  eolReset := ansiCodes_two b!"39" [] (by decide) (by decide)
  routineFirst := ansiCodes_one b!"0;1;35" (by decide)
  routine := AnsiCodes.nil
  createdBy := ansiCodes_one b!"0;90" (by decide)
  race := ansiCodes_one b!"0;91" (by decide)
  pkg := ansiCodes_one b!"0;1;39" (by decide)
  srcFile := ansiCodes_two b!"39" [] (by decide) (by decide)
  funcMain := ansiCodes_one b!"0;1;33" (by decide)
  funcLocationUnknown := ansiCodes_one b!"0;37" (by decide)
  funcLocationUnknownExported := ansiCodes_one b!"0;1;37" (by decide)
  funcGoMod := ansiCodes_one b!"0;31" (by decide)
  funcGoModExported := ansiCodes_one b!"0;1;31" (by decide)
  funcGOPATH := ansiCodes_one b!"0;36" (by decide)
  funcGOPATHExported := ansiCodes_one b!"0;1;36" (by decide)
  funcGoPkg := ansiCodes_one b!"0;34" (by decide)
  funcGoPkgExported := ansiCodes_one b!"0;1;34" (by decide)
  funcStdLib := ansiCodes_one b!"0;32" (by decide)
  funcStdLibExported := ansiCodes_one b!"0;1;32" (by decide)
  arguments := ansiCodes_two b!"39" [] (by decide) (by decide)

/-- the uncoloured rendering of the sample, written out (the widths are 6 and
12 bytes; `h\u00e9llo` has 6 bytes but 5 runes and is padded to 6 runes) -/
example : writeBuckets emptyPalette sampleBuckets .basePath false none none =
    b!"3: chan receive [2~5 minutes] [locked] [Created by h\u00e9llo.Foo @ w\u00f6rld.go:12]\n    h\u00e9llo  w\u00f6rld.go:12  Foo(1, {#1, ...}, ...)\n    main   w\u00f6rld.go:12  main()\n    (...)\n1: running\n    h\u00e9llo  w\u00f6rld.go:3   Foo(1, {#1, ...}, ...)\n" := by
  decide +kernel

/-- colours present, and removing them gives back the uncoloured text -/
example : writeBuckets samplePalette sampleBuckets .basePath false none none
      ≠ writeBuckets emptyPalette sampleBuckets .basePath false none none ∧
    stripAnsi (writeBuckets samplePalette sampleBuckets .basePath false none none)
      = writeBuckets emptyPalette sampleBuckets .basePath false none none := by
  decide +kernel

/-- a proper split: the expression "locked" keeps one block on each side -/
example : (bucketBlocks emptyPalette sampleBuckets .basePath (some (containsSub b!"locked")) none).length = 1 ∧
    (bucketBlocks emptyPalette sampleBuckets .basePath none (some (containsSub b!"locked"))).length = 1 := by
  decide +kernel

/-- the hypotheses of `aligned_buckets` are satisfiable: the sample's widths (bytes) -/
example : calcBucketsLengths sampleBuckets .basePath = (12, 6) ∧ (12 : Nat) ≤ fmtMaxWidth ∧
    runeCount (b!"h\u00e9llo") = 5 ∧ (b!"h\u00e9llo").length = 6 := by
  decide +kernel

/-- the width hypothesis of `aligned` is needed: fmt rejects a `*` width above 10^6 -/
example : fmtPadRight 1000001 b!"x" = b!"%!(BADWIDTH)x" := by decide +kernel

/-- the ESC-freeness hypothesis holds of the sample call (names, paths, argument names) -/
example : CallNoEsc sampleCall where
  dirName := noEsc_lit _
  name := noEsc_lit _
  remote := noEsc_lit _
  loc := noEsc_lit _
  rel := noEsc_lit _
  srcName := noEsc_lit _
  processed := nofun
  values := ⟨noEsc_nil, ⟨noEsc_lit _, trivial⟩, trivial⟩

#print axioms blocks_buckets
#print axioms blocks_goroutines
#print axioms blocks_buckets_unfiltered
#print axioms blocks_goroutines_unfiltered
#print axioms filter_match_split_buckets
#print axioms filter_match_split_goroutines
#print axioms aligned
#print axioms aligned_buckets
#print axioms aligned_goroutines
#print axioms elided_marker
#print axioms header_fields_bucket
#print axioms header_fields_goroutine
#print axioms createdBy_fields
#print axioms colour_strip_buckets
#print axioms colour_strip_goroutines
#print axioms colour_strip_pieces

end PP.Console
