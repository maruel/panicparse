import PP.Lemmas.Delimit
import PP.Lemmas.GrammarDfa
import PP.Lemmas.GrammarLemmas
/-
C07 — trace delimitation and resumable multi-dump scanning.

Sections 1–4 are about the loop `scanL` over reader items and hold for arbitrary bytes.
Sections 5–7 relate the state machine `scan` to the documented line grammar
(`PP/Spec/Grammar.lean`: kinds, canonical lines, grammar, reference automaton) on canonical lines.

What the statements speak of is defined, each name with its description, in
`PP/Lemmas/Delimit.lean` (sections 1–4) and `PP/Lemmas/GrammarLemmas.lean` (sections 5–7); `Inv` is
the scanner invariant of C03 (`PP/Lemmas/ScanInv.lean`).
-/
namespace PP
open Spec

/-! ### 1. A dump is recognised wherever it starts -/

/-- text that starts no dump, in front of anything, is forwarded and does not influence the scan -/
theorem scanL_prefix_nostart (fwd : Bytes) (cons : List Bytes) (pre rest : List (Bytes × Option RErr))
    (h : ∀ p ∈ pre, NoStart p) :
    scanL {} fwd cons (pre ++ rest) = scanL {} (fwd ++ itemsBytes pre) cons rest :=
  scanL_plain_prefix {} rfl rfl fwd cons pre rest h

/-! ### 2. Everything after the terminating line is returned untouched -/

/-- when the loop stops inside `xs` (for whatever reason), whatever follows `xs` is appended
to `rest` and nothing else changes -/
theorem scanL_stopped_append (s : S) (fwd : Bytes) (cons : List Bytes) (xs ys : List (Bytes × Option RErr))
    (h : (scanL s fwd cons xs).stopped = true) :
    scanL s fwd cons (xs ++ ys) =
      { scanL s fwd cons xs with rest := (scanL s fwd cons xs).rest ++ ys } := by
  rw [scanL_append, if_pos h]

/-- otherwise the loop continues over `ys` from where it got -/
theorem scanL_continue_append (s : S) (fwd : Bytes) (cons : List Bytes) (xs ys : List (Bytes × Option RErr))
    (h : (scanL s fwd cons xs).stopped = false) :
    scanL s fwd cons (xs ++ ys) =
      scanL (scanL s fwd cons xs).s (scanL s fwd cons xs).fwd (scanL s fwd cons xs).consumed ys := by
  rw [scanL_append, h]; rfl

/-- the loop left through `suffix = …; break` on a line of `xs` -/
theorem scanL_broke_append (s : S) (fwd : Bytes) (cons : List Bytes) (xs ys : List (Bytes × Option RErr))
    (h : (scanL s fwd cons xs).broke = true) :
    scanL s fwd cons (xs ++ ys) =
      { scanL s fwd cons xs with rest := (scanL s fwd cons xs).rest ++ ys } :=
  scanL_stopped_append s fwd cons xs ys (by simp [OutL.stopped, h])

/-- the state reached `done` (the closing separator of a race report was consumed) -/
theorem scanL_done_append (s : S) (fwd : Bytes) (cons : List Bytes) (xs ys : List (Bytes × Option RErr))
    (h : (scanL s fwd cons xs).s.st = .done) :
    scanL s fwd cons (xs ++ ys) =
      { scanL s fwd cons xs with rest := (scanL s fwd cons xs).rest ++ ys } :=
  scanL_stopped_append s fwd cons xs ys (by simp [OutL.stopped, h])

/-! ### 3. Locality -/

/-- A dump `d` whose scan hands exactly the terminating line `t` back is scanned in the same
way between arbitrary text: `pre` is forwarded, the final scanner state (hence the goroutines),
the withheld lines, the error and the exit are those of scanning `d ++ [t]` alone, and
`t :: post` is handed back.  (The hypothesis covers both the `break` exit and the `done` exit;
it does not require `err = none`.) -/
theorem locality (pre d post : List (Bytes × Option RErr)) (t : Bytes × Option RErr)
    (hpre : ∀ p ∈ pre, NoStart p) (hd : (scanL {} [] [] (d ++ [t])).rest = [t]) :
    scanL {} [] [] (pre ++ d ++ t :: post) =
      { scanL {} [] [] (d ++ [t]) with
        fwd := itemsBytes pre ++ (scanL {} [] [] (d ++ [t])).fwd, rest := t :: post } := by
  have e1 : pre ++ d ++ t :: post = pre ++ ((d ++ [t]) ++ post) := by simp
  have hst : (scanL {} [] [] (d ++ [t])).stopped = true := by simp [OutL.stopped, hd]
  rw [e1, scanL_prefix_nostart [] [] pre _ hpre, scanL_acc, scanL_append, if_pos hst, hd]
  simp

/-- the same, field by field -/
theorem locality_fields (pre d post : List (Bytes × Option RErr)) (t : Bytes × Option RErr)
    (hpre : ∀ p ∈ pre, NoStart p) (hd : (scanL {} [] [] (d ++ [t])).rest = [t]) :
    let o := scanL {} [] [] (pre ++ d ++ t :: post)
    let o₀ := scanL {} [] [] (d ++ [t])
    o.s = o₀.s ∧ o.fwd = itemsBytes pre ++ o₀.fwd ∧ o.consumed = o₀.consumed ∧ o.err = o₀.err ∧
    o.broke = o₀.broke ∧ o.panicked = o₀.panicked ∧ o.rest = t :: post := by
  simp only [locality pre d post t hpre hd, and_self]

/-- on a clean end the terminating line contributes nothing: the goroutines are those found in
the lines of the dump alone -/
theorem locality_goroutines (pre d post : List (Bytes × Option RErr)) (t : Bytes × Option RErr)
    (hpre : ∀ p ∈ pre, NoStart p) (hd : (scanL {} [] [] (d ++ [t])).rest = [t])
    (he : (scanL {} [] [] (d ++ [t])).err = none) :
    (scanL {} [] [] (pre ++ d ++ t :: post)).s.gs = (scanL {} [] [] d).s.gs := by
  rw [locality pre d post t hpre hd]
  exact scanL_clean_end_gs {} [] [] d t hd he

/-! ### 4. Resumption -/

/-- a remainder that starts at a line boundary re-splits into the same items -/
theorem specLines_suffix (bs : Bytes) (fin : RErr) (xs ys : List (Bytes × Option RErr))
    (h : specLines bs fin = xs ++ ys) (hy : ys ≠ []) : specLines (itemsBytes ys) fin = ys :=
  specLines_of_isSpec ys fin (isSpec_suffix xs ys fin (h ▸ isSpec_specLines bs fin) hy)

/-- what a call hands back is a suffix of what it was given -/
theorem rest_is_suffix (s : S) (fwd : Bytes) (cons : List Bytes) (items : List (Bytes × Option RErr)) :
    ∃ pre, items = pre ++ (scanL s fwd cons items).rest :=
  scanL_rest_suffix s fwd cons items

/-- so after a call without error the remainder re-splits into the items handed back -/
theorem specLines_rest (bs : Bytes) (fin : RErr)
    (he : (scanL {} [] [] (specLines bs fin)).err = none) :
    specLines (itemsBytes (scanL {} [] [] (specLines bs fin)).rest) fin =
      (scanL {} [] [] (specLines bs fin)).rest := by
  -- the remainder is not empty: the last item carries the terminal error
  have hne : (scanL {} [] [] (specLines bs fin)).rest ≠ [] := by
    have hl := scanL_last_err {} [] [] ((splitLines bs).1.map (fun l => (l, none))) (splitLines bs).2 fin
    rw [← specLines_eq] at hl
    rcases hl with h | h | ⟨init', h⟩
    · rw [he] at h; cases h
    · rw [scanL_init_no_panic] at h; cases h
    · rw [h]; simp
  obtain ⟨pre, hpre⟩ := rest_is_suffix {} [] [] (specLines bs fin)
  exact specLines_suffix bs fin pre _ hpre hne

/-- the caller's loop around `ScanSnapshot`, feeding `suffix ++ unread` back, is the line-level
protocol `scanAll` on the canonical split of the stream -/
theorem resume_bytes (names : Bool) (n : Nat) (bs : Bytes) (fin : RErr) :
    scanAllB names n bs fin = (scanAll n (specLines bs fin)).map (fun c => resultOf names c.2) := by
  induction n generalizing bs with
  | zero => rfl
  | succ n ih =>
    rw [scanAll_succ]
    simp only [scanAllB]
    rw [scanSnapshotL_eq, resultOf_remaining]
    have hc : ((resultOf names (scanL {} [] [] (specLines bs fin))).err.isNone &&
        !(resultOf names (scanL {} [] [] (specLines bs fin))).panicked) =
        ((scanL {} [] [] (specLines bs fin)).err.isNone && (scanL {} [] [] (specLines bs fin)).panicked.isNone) := by
      simp only [resultOf]
      cases (scanL {} [] [] (specLines bs fin)).panicked <;> simp
    rw [hc]
    split
    · rename_i hcond
      simp only [Bool.and_eq_true, Option.isNone_iff_eq_none] at hcond
      rw [List.map_cons, ih, specLines_rest bs fin hcond.1]
    · rfl

/-- each call is a scan from the initial state of what the previous call handed back, and only
a call without error is followed by another one -/
theorem resume_chain (n : Nat) (items : List (Bytes × Option RErr)) :
    (∀ c ∈ scanAll n items, c.2 = scanL {} [] [] c.1) ∧
    (∀ c t, scanAll n items = c :: t → c.1 = items) ∧
    (∀ t1 c1 c2 t2, scanAll n items = t1 ++ c1 :: c2 :: t2 → c2.1 = c1.2.rest ∧
      c1.2.err = none ∧ c1.2.panicked = none) := by
  induction n generalizing items with
  | zero => simp [scanAll]
  | succ n ih =>
    rw [scanAll_succ]
    split
    · rename_i hc
      obtain ⟨i1, i2, i3⟩ := ih (scanL {} [] [] items).rest
      refine ⟨?_, ?_, ?_⟩
      · intro c hc'
        simp only [List.mem_cons] at hc'
        rcases hc' with rfl | hc'
        · rfl
        · exact i1 c hc'
      · intro c t h; simp at h; rw [← h.1]
      · intro t1 c1 c2 t2 h
        cases t1 with
        | nil =>
          simp only [List.nil_append, List.cons.injEq] at h
          obtain ⟨rfl, h2⟩ := h
          simp only [Bool.and_eq_true, Option.isNone_iff_eq_none] at hc
          exact ⟨i2 c2 t2 h2, hc.1, hc.2⟩
        | cons x t1 =>
          simp only [List.cons_append, List.cons.injEq] at h
          exact i3 t1 c1 c2 t2 h.2
    · refine ⟨?_, ?_, ?_⟩
      · intro c hc'; simp at hc'; rw [hc']
      · intro c t h; simp at h; rw [← h.1]
      · intro t1 c1 c2 t2 h
        have := congrArg List.length h
        simp at this
        omega

/-- (a) the calls tile the input: the lines processed (forwarded or withheld) by the successive
calls, in order, followed by what the last call handed back, are the input.  No position is
scanned into two snapshots, none is skipped. -/
theorem resume_tiles (n : Nat) (items : List (Bytes × Option RErr)) :
    tiles (scanAll n items) ++ itemsBytes (remaining (scanAll n items) items) = itemsBytes items := by
  induction n generalizing items with
  | zero => simp [scanAll, tiles, remaining]
  | succ n ih =>
    rw [scanAll_succ]
    split
    · rw [remaining_cons, tiles_cons, List.append_assoc, ih]
      exact trace_conservation _ _ _ _
    · rw [remaining_cons, tiles_cons]
      simp only [tiles, remaining, List.flatMap_nil, List.getLast?_nil, List.append_nil]
      exact trace_conservation _ _ _ _

/-- the same for a stream -/
theorem resume_tiles_stream (n : Nat) (bs : Bytes) (fin : RErr) :
    tiles (scanAll n (specLines bs fin)) ++
      itemsBytes (remaining (scanAll n (specLines bs fin)) (specLines bs fin)) = bs := by
  rw [resume_tiles, itemsBytes_specLines]

/-- (b) progress: a call from the initial state never hands its first item back (it is
withheld, forwarded, or an empty read), so every call strictly shortens the input — whatever
its outcome -/
theorem resume_progress (fwd : Bytes) (cons : List Bytes) (items : List (Bytes × Option RErr))
    (hne : items ≠ []) : (scanL {} fwd cons items).rest.length < items.length := by
  cases items with
  | nil => exact absurd rfl hne
  | cons x xs =>
    have := scanL_first_not_rest {} rfl rfl fwd cons x xs
    simp only [List.length_cons]
    omega

/-- no call panics (C03) -/
theorem resume_no_panic (n : Nat) (items : List (Bytes × Option RErr)) :
    ∀ c ∈ scanAll n items, c.2.panicked = none := by
  intro c hc
  rw [(resume_chain n items).1 c hc]
  exact scanL_init_no_panic [] [] c.1

/-- (b) termination: on the items of a stream (the last one carries the terminal error)
repeated scanning reaches a call that reports an error within `length` calls -/
theorem resume_terminates (n : Nat) (init : List (Bytes × Option RErr)) (t : Bytes) (r : RErr)
    (hn : (init ++ [(t, some r)]).length ≤ n) :
    ∃ cs c, scanAll n (init ++ [(t, some r)]) = cs ++ [c] ∧ c.2.err.isSome = true := by
  induction n generalizing init with
  | zero => simp at hn
  | succ n ih =>
    rw [scanAll_succ, scanL_init_no_panic]
    cases he : (scanL {} [] [] (init ++ [(t, some r)])).err with
    | some e => exact ⟨[], _, rfl, by rw [he]; rfl⟩
    | none =>
      rcases scanL_last_err {} [] [] init t r with h | h | ⟨init', h⟩
      · rw [he] at h; cases h
      · rw [scanL_init_no_panic] at h; cases h
      · have hp := resume_progress [] [] (init ++ [(t, some r)]) (by simp)
        rw [h] at hp ⊢
        obtain ⟨cs, c, h1, h2⟩ := ih init' (by omega)
        exact ⟨_ :: cs, c, by rw [h1]; rfl, h2⟩

theorem resume_terminates_stream (bs : Bytes) (fin : RErr) :
    ∃ cs c, scanAll (specLines bs fin).length (specLines bs fin) = cs ++ [c] ∧ c.2.err.isSome = true :=
  resume_terminates _ ((splitLines bs).1.map (fun l => (l, none))) (splitLines bs).2 fin (Nat.le_refl _)

/-- (c) one dump: the call that meets a block returns the result of scanning the dump alone,
relocated, and the next call starts at the terminating line -/
theorem resume_step (n : Nat) (pre d post : List (Bytes × Option RErr)) (t : Bytes × Option RErr)
    (hpre : ∀ p ∈ pre, NoStart p) (hd : (scanL {} [] [] (d ++ [t])).rest = [t])
    (he : (scanL {} [] [] (d ++ [t])).err = none) :
    scanAll (n + 1) (pre ++ d ++ t :: post) =
      (pre ++ d ++ t :: post,
        { scanL {} [] [] (d ++ [t]) with
          fwd := itemsBytes pre ++ (scanL {} [] [] (d ++ [t])).fwd, rest := t :: post }) ::
      scanAll n (t :: post) := by
  rw [scanAll_succ, locality pre d post t hpre hd]
  have hp := scanL_init_no_panic [] [] (d ++ [t])
  simp only [he, hp, Option.isNone_none, Bool.and_self, if_true]

/-- (c) k dumps, by induction: on a stream made of `k` blocks, the first `k` calls return the results of
scanning each dump alone (relocated: `fwd` is prefixed by the text before the dump, `rest` is
everything from the terminating line on) -/
theorem resume_blocks (items : List (Bytes × Option RErr)) (outs : List OutL) (h : Blocks items outs) :
    (scanAll outs.length items).map (·.2) = outs := by
  induction h with
  | nil items => rfl
  | cons pre d post t outs hpre hrest herr _ ih =>
    rw [List.length_cons, resume_step _ pre d post t hpre hrest herr, List.map_cons, ih]

/-! ### 5. The grammar and the reference automaton -/

/-- a canonical line is its kind and a payload -/
theorem isKind_iff_canon (k : Kind) (l : Line) : l.isKind k ↔ ∃ p, l = canon k p :=
  Spec.isKind_iff_canon k l

/-- the automaton accepts exactly the dumps of the grammar -/
theorem dfa_dump_iff (ks : List Kind) :
    Dump ks ↔ ∃ q, run .start ks = some q ∧ acceptingDump q = true :=
  ⟨dump_accepted, fun ⟨_, h, ha⟩ => accepted_dump h ha⟩

/-- … and exactly the race reports -/
theorem dfa_race_iff (ks : List Kind) : Race ks ↔ run .start ks = some .fin :=
  ⟨race_accepted, accepted_race⟩

theorem dfa_iff (ks : List Kind) :
    (Dump ks ∨ Race ks) ↔ ∃ q, run .start ks = some q ∧ accepting q = true := by
  constructor
  · rintro (h | h)
    · obtain ⟨q, h1, h2⟩ := dump_accepted h
      exact ⟨q, h1, by simp [accepting, h2]⟩
    · exact ⟨.fin, race_accepted h, rfl⟩
  · rintro ⟨q, h1, h2⟩
    simp only [accepting, Bool.or_eq_true, beq_iff_eq] at h2
    rcases h2 with h2 | rfl
    · exact Or.inl (accepted_dump h1 h2)
    · exact Or.inr (accepted_race h1)

/-- `munch` is the longest readable prefix -/
theorem munch_spec (q : GState) (ks : List Kind) :
    (munch q ks).1 ≤ ks.length ∧ run q (ks.take (munch q ks).1) = some (munch q ks).2 ∧
    ((munch q ks).1 < ks.length →
      ∃ k, ks[(munch q ks).1]? = some k ∧ step (munch q ks).2 k = none) :=
  ⟨munch_le q ks, munch_run q ks, munch_stuck q ks⟩

/-! ### 6. `scan` follows the automaton on canonical lines -/

/-- One line.  From a state satisfying the scanner invariant, on a canonical line of kind `k`
(a race goroutine header naming a declared goroutine), `scan` does not panic, keeps the
invariant, and:
* if the automaton can take `k`: the line is withheld, without error, and the new state stands
  for the new automaton state;
* if not: the line is not withheld; in a `cleanEnd` state the dump ends (no error, state
  `done`); in `start` / after a lone separator the scanner is back in `looking` without error;
  in every other state the line invalidates the dump (an error). -/
theorem scan_on_canonical (s : S) (l : Line) (k : Kind) (hinv : Inv s) (hk : l.isKind k)
    (hg : GorKnown s l) :
    ∃ s' b e, scan s l = .ok (s', b, e) ∧ Inv s' ∧ Outcome (absSt s.st) k b e s'.st := by
  obtain ⟨s', b, e, h, hi⟩ := scan_stepOK s l hinv
  exact ⟨s', b, e, h, hi, sim_step hk hg h⟩

/-- the same without the invariant: whenever `scan` does not panic -/
theorem scan_on_canonical' {s s' : S} {l : Line} {k : Kind} {b e} (hk : l.isKind k)
    (hg : GorKnown s l) (h : scan s l = .ok (s', b, e)) : Outcome (absSt s.st) k b e s'.st :=
  sim_step hk hg h

/-- `Outcome` spelled out -/
theorem outcome_iff (q : GState) (k : Kind) (b : Bool) (e : Option Err) (st' : St) :
    Outcome q k b e st' ↔
      (∃ q', step q k = some q' ∧ b = true ∧ e = none ∧ absSt st' = q') ∨
      (step q k = none ∧ b = false ∧
        ((cleanEnd q = true ∧ e = none ∧ st' = .done) ∨
         (cleanEnd q = false ∧ (q = .start ∨ q = .r1) ∧ e = none ∧ st' = .looking) ∨
         (cleanEnd q = false ∧ q ≠ .start ∧ q ≠ .r1 ∧ e.isSome = true))) := by
  unfold Outcome Stopped
  cases step q k with
  | some q' => simp
  | none =>
    cases hc : cleanEnd q
    · by_cases hq : q = .start ∨ q = .r1
      · have hq' : ¬ (q ≠ .start ∧ q ≠ .r1) := by rcases hq with rfl | rfl <;> simp
        simp [hq]
        intro _ h1 h2
        exact absurd ⟨h1, h2⟩ hq'
      · have hq' : q ≠ .start ∧ q ≠ .r1 := by simpa [not_or] using hq
        simp [hq']
    · simp

/-- documented behaviour: after a "stack unavailable" line only a blank or `created by` line is
accepted.  Directly after that line the dump is complete for the grammar, but the scanner does
not end it cleanly on a foreign line: it reports an error -/
theorem unavail_needs_blank (s s' : S) (l : Line) (b : Bool) (e : Option Err)
    (hs : s.st = .gotUnavail) (hk : l.isKind .other) (h : scan s l = .ok (s', b, e)) :
    acceptingDump (absSt s.st) = true ∧ b = false ∧ e.isSome = true := by
  have ho := sim_step hk (gorKnown_of_ne hk (by decide)) h
  rw [hs] at ho ⊢
  exact ⟨rfl, ho.1, ho.2⟩

/-! ### 7. Maximal munch -/

/-- On canonical lines, from a state satisfying the invariant, the fold over `scan` withholds
exactly the longest prefix the automaton can read from the state the scanner state stands for.
If the lines run out (`r = none`) the scanner state stands for the automaton state reached;
otherwise the next line stopped the scan, cleanly (no error, `done`) exactly in a `cleanEnd`
state (`Stopped`). -/
theorem munch {s : S} {ls : List Line} {ks : List Kind} (hc : CanonFrom s ls ks) (hinv : Inv s) :
    ∃ s' r, scanLines s ls = .ok ((Spec.munch (absSt s.st) ks).1, s', r) ∧ Inv s' ∧
      (r = none → (Spec.munch (absSt s.st) ks).1 = ks.length ∧
        absSt s'.st = (Spec.munch (absSt s.st) ks).2) ∧
      (∀ e, r = some e → (Spec.munch (absSt s.st) ks).1 < ks.length ∧
        Stopped (Spec.munch (absSt s.st) ks).2 e s'.st) := by
  induction hc with
  | nil s => exact ⟨s, none, rfl, hinv, fun _ => ⟨rfl, rfl⟩, fun e h => by simp at h⟩
  | @cons s l k ls ks hk hg hnext ih =>
    obtain ⟨s1, b, e, hsc, hinv1⟩ := scan_stepOK s l hinv
    have ho := sim_step hk hg hsc
    simp only [scanLines, hsc, Spec.munch]
    unfold Outcome at ho
    cases hst : step (absSt s.st) k with
    | none =>
      rw [hst] at ho
      obtain ⟨rfl, hstop⟩ := ho
      refine ⟨s1, some e, by simp, hinv1, fun h => by simp at h, ?_⟩
      intro e' he'
      simp only [Option.some.injEq] at he'
      subst he'
      exact ⟨by simp, hstop⟩
    | some q' =>
      rw [hst] at ho
      obtain ⟨rfl, rfl, hq⟩ := ho
      obtain ⟨s2, r, h1, h2, h3, h4⟩ := ih s1 none hsc hinv1
      rw [hq] at h1 h3 h4
      refine ⟨s2, r, by simp [h1], h2, ?_, ?_⟩
      · intro hr
        obtain ⟨a, b⟩ := h3 hr
        exact ⟨by simp [a], b⟩
      · intro e' he'
        obtain ⟨a, b⟩ := h4 e' he'
        exact ⟨by simp only [List.length_cons]; omega, b⟩

/-- from the initial state, for lines without race goroutine headers (dumps): being canonical
is a property of the lines alone -/
theorem munch_dump {ls : List Line} {ks : List Kind} (hk : Kinds ls ks) (hne : Kind.raceGor ∉ ks) :
    ∃ s' r, scanLines {} ls = .ok ((Spec.munch .start ks).1, s', r) ∧
      (r = none → (Spec.munch .start ks).1 = ks.length ∧ absSt s'.st = (Spec.munch .start ks).2) ∧
      (∀ e, r = some e → (Spec.munch .start ks).1 < ks.length ∧
        Stopped (Spec.munch .start ks).2 e s'.st) := by
  obtain ⟨s', r, h1, _, h3, h4⟩ := PP.munch (canonFrom_of_kinds {} hk hne) inv_init'
  exact ⟨s', r, h1, h3, h4⟩

/-- from the initial state, for any canonical lines (dumps and race reports): the only condition
besides the kinds is that race goroutine headers name goroutines declared by earlier operation
headers (`IdsOK`) -/
theorem munch_init {ls : List Line} {ks : List Kind} (hk : Kinds ls ks) (hi : IdsOK [] ls) :
    ∃ s' r, scanLines {} ls = .ok ((Spec.munch .start ks).1, s', r) ∧
      (r = none → (Spec.munch .start ks).1 = ks.length ∧ absSt s'.st = (Spec.munch .start ks).2) ∧
      (∀ e, r = some e → (Spec.munch .start ks).1 < ks.length ∧
        Stopped (Spec.munch .start ks).2 e s'.st) := by
  obtain ⟨s', r, h1, _, h3, h4⟩ :=
    PP.munch (canonFrom_of_kinds_ids (s := {}) hk (by simp) hi) inv_init'
  exact ⟨s', r, h1, h3, h4⟩

/-- The same for the loop `scanL` on bytes (lines without reader error): it withholds exactly
the longest readable prefix, forwards nothing, hands the remaining lines back, and ends
without error exactly when the automaton state reached is a `cleanEnd` state (or the lines ran
out).  Hypothesis `hstop`: the automaton does not get stuck in `start` or `r1`, where the
scanner forwards the line instead of stopping. -/
theorem munch_scanL {s : S} {ds : List Bytes} {ks : List Kind} (hc : CanonB s ds ks) (hinv : Inv s)
    (hstop : (Spec.munch (absSt s.st) ks).1 < ks.length →
      (Spec.munch (absSt s.st) ks).2 ≠ .start ∧ (Spec.munch (absSt s.st) ks).2 ≠ .r1)
    (fwd : Bytes) (cons : List Bytes) :
    let o := scanL s fwd cons (ds.map (fun d => (d, none)))
    let n := (Spec.munch (absSt s.st) ks).1
    let q := (Spec.munch (absSt s.st) ks).2
    o.panicked = none ∧ o.fwd = fwd ∧ o.consumed = cons ++ ds.take n ∧
    o.rest = (ds.drop n).map (fun d => (d, none)) ∧
    ((n = ks.length ∧ o.err = none ∧ absSt o.s.st = q) ∨
     (n < ks.length ∧ ∃ e, o.err = e.map LErr.parse ∧ Stopped q e o.s.st)) :=
  Spec.munch_scanL hc hinv hstop fwd cons

/-- A complete dump (in the sense of the grammar) followed by a line that cannot continue it:
the loop withholds exactly the dump, hands the line back, reports no error and is `done` —
provided the dump does not end on the "stack unavailable" line (after which only a blank or
`created by` line is accepted: `unavail_needs_blank`). -/
theorem dump_delimited {ds : List Bytes} {t : Bytes} {dks : List Kind} {kt : Kind} {q : GState}
    (hd : run .start dks = some q) (hq : acceptingDump q = true) (hu : q ≠ .unav)
    (hkt : step q kt = none) (hlen : ds.length = dks.length)
    (hc : CanonB {} (ds ++ [t]) (dks ++ [kt])) :
    Dump dks ∧
    let o := scanL {} [] [] ((ds ++ [t]).map (fun d => (d, none)))
    o.consumed = ds ∧ o.fwd = [] ∧ o.rest = [(t, none)] ∧ o.err = none ∧ o.s.st = .done ∧
    o.panicked = none := by
  refine ⟨accepted_dump hd hq, ?_⟩
  have hm : Spec.munch (absSt ({} : S).st) (dks ++ [kt]) = (dks.length, q) := munch_of_run hd kt [] hkt
  have hce : cleanEnd q = true := by
    simp only [cleanEnd, accepting, hq, Bool.true_or, Bool.true_and, bne_iff_ne, ne_eq]
    exact hu
  have hstart : q ≠ .start ∧ q ≠ .r1 := by
    constructor <;> (intro h; subst h; simp [acceptingDump] at hq)
  obtain ⟨h1, h2, h3, h4, h5⟩ := Spec.munch_scanL hc inv_init'
    (by intro _; rw [hm]; exact hstart) [] []
  rw [hm] at h3 h4 h5
  simp only at h3 h4 h5
  -- the automaton is stuck on `kt` in a `cleanEnd` state: no error, `done`
  obtain ⟨_, e, he, hs⟩ := h5.resolve_left fun h => by simp at h
  simp only [Stopped, hce, if_true] at hs
  refine ⟨?_, h2, ?_, ?_, hs.2, h1⟩
  · rw [h3, ← hlen]; simp
  · rw [h4, ← hlen]; simp
  · rw [he, hs.1]; rfl

/-! ### Non-vacuity -/

section NonVacuity

/-- two dumps separated by other text -/
private def two : Bytes :=
  b!"x\ngoroutine 1 [running]:\nmain.f()\n\t/a.go:1\n\nnext\ngoroutine 2 [select]:\nmain.g()\n\t/b.go:2\nend\n"

/-- three calls: one snapshot per dump, then the call that meets EOF; the text between the
dumps is forwarded by the call that follows it -/
example : (scanAll 5 (specLines two .eof)).map
      (fun c => (c.2.s.gs.map (·.id), c.2.fwd, c.2.consumed.length)) =
    [([1], b!"x\n", 4), ([2], b!"next\n", 3), ([], b!"end\n", 0)] := by decide +kernel
example : (scanAll 5 (specLines two .eof)).map (fun c => (c.2.err, c.2.broke, c.2.rest.length)) =
    [(none, true, 6), (none, true, 2), (some (.reader .eof), false, 0)] := by decide +kernel

/-- the same through `scanSnapshotL` with `suffix ++ unread` fed back (`resume_bytes`) -/
example : (scanAllB false 5 two .eof).map (fun r => (r.snap.map (·.map (·.id)), r.fwd, r.suffix)) =
    [(some [1], b!"x\n", some b!"next\ngoroutine 2 [select]:\nmain.g()\n\t/b.go:2\nend\n"),
     (some [2], b!"next\n", some b!"end\n"), (none, b!"end\n", none)] := by decide +kernel

/-- tiling on it -/
example : tiles (scanAll 5 (specLines two .eof)) ++
    itemsBytes (remaining (scanAll 5 (specLines two .eof)) (specLines two .eof)) = two :=
  resume_tiles_stream 5 two .eof

/-- the stream as two blocks, and each snapshot equals the one of the dump scanned alone -/
private def pre₁ : List (Bytes × Option RErr) := [(b!"x\n", none)]
private def d₁ : List (Bytes × Option RErr) :=
  [(b!"goroutine 1 [running]:\n", none), (b!"main.f()\n", none), (b!"\t/a.go:1\n", none), (b!"\n", none)]
private def t₁ : Bytes × Option RErr := (b!"next\n", none)
private def d₂ : List (Bytes × Option RErr) :=
  [(b!"goroutine 2 [select]:\n", none), (b!"main.g()\n", none), (b!"\t/b.go:2\n", none)]
private def t₂ : Bytes × Option RErr := (b!"end\n", none)
private def post₂ : List (Bytes × Option RErr) := [([], some .eof)]

example : specLines two .eof = pre₁ ++ d₁ ++ t₁ :: ([] ++ d₂ ++ t₂ :: post₂) := by decide +kernel

private theorem nostart_x : ∀ p ∈ pre₁, NoStart p := by
  intro p hp
  simp only [pre₁, List.mem_singleton] at hp
  subst hp
  unfold NoStart Plain
  decide +kernel

private theorem two_blocks : Blocks (pre₁ ++ d₁ ++ t₁ :: ([] ++ d₂ ++ t₂ :: post₂))
    [{ scanL {} [] [] (d₁ ++ [t₁]) with
        fwd := itemsBytes pre₁ ++ (scanL {} [] [] (d₁ ++ [t₁])).fwd, rest := t₁ :: ([] ++ d₂ ++ t₂ :: post₂) },
     { scanL {} [] [] ((t₁ :: d₂) ++ [t₂]) with
        fwd := itemsBytes [] ++ (scanL {} [] [] ((t₁ :: d₂) ++ [t₂])).fwd, rest := t₂ :: post₂ }] :=
  Blocks.cons pre₁ d₁ _ t₁ _ nostart_x (by decide +kernel) (by decide +kernel)
    (Blocks.cons [] (t₁ :: d₂) post₂ t₂ [] (by simp) (by decide +kernel) (by decide +kernel) (Blocks.nil _))

example : ((scanAll 2 (pre₁ ++ d₁ ++ t₁ :: ([] ++ d₂ ++ t₂ :: post₂))).map (·.2)).map (·.s.gs.map (·.id)) =
    [[1], [2]] := by
  rw [show (2 : Nat) = [_, _].length from rfl, resume_blocks _ _ two_blocks]
  decide +kernel

/-- locality on the first dump: hypotheses hold -/
example : (scanL {} [] [] (d₁ ++ [t₁])).rest = [t₁] ∧ (scanL {} [] [] (d₁ ++ [t₁])).err = none := by decide +kernel

/-- `dump_delimited` and `munch_scanL` apply to the first dump: its lines are canonical, of a
kind sequence that is a `Dump`, and `next` cannot continue it -/
private def ds₁ : List Bytes := [b!"goroutine 1 [running]:\n", b!"main.f()\n", b!"\t/a.go:1\n", b!"\n"]

example : CanonB {} (ds₁ ++ [b!"next\n"]) ([.header, .func, .file, .blank] ++ [.other]) :=
  canonBCheck_sound (by decide +kernel)

example : Dump [.header, .func, .file, .blank] ∧
    (scanL {} [] [] ((ds₁ ++ [b!"next\n"]).map (fun d => (d, none)))).consumed = ds₁ ∧
    (scanL {} [] [] ((ds₁ ++ [b!"next\n"]).map (fun d => (d, none)))).rest = [(b!"next\n", none)] := by
  obtain ⟨h, h1, _, h2, _⟩ := dump_delimited (q := .gap) (ds := ds₁) (t := b!"next\n")
    (dks := [.header, .func, .file, .blank]) (kt := .other) (by decide) (by decide) (by decide) (by decide)
    (by decide) (canonBCheck_sound (by decide +kernel))
  exact ⟨h, by simpa using h1, by simpa using h2⟩

/-- a complete race report between text: the report ends in `done` by its closing separator,
and what follows is handed back (`scanL_done_append`) -/
private def race : Bytes :=
  b!"==================\nWARNING: DATA RACE\nRead at 0x00c000012345 by goroutine 7:\n  main.f()\n      /a.go:1 +0x1\n\nPrevious write at 0x00c000012345 by goroutine 6:\n  main.g()\n      /a.go:2 +0x2\n\nGoroutine 7 (running) created at:\n  main.h()\n      /a.go:3 +0x3\n\nGoroutine 6 (finished) created at:\n  main.h()\n      /a.go:4 +0x4\n==================\nafter\n"

set_option maxRecDepth 20000 in
example : (fun o : OutL => (o.s.st, o.s.gs.map (·.id), o.consumed.length, o.err, o.broke, itemsBytes o.rest))
      (scanL {} [] [] (specLines race .eof)) =
    (.done, [7, 6], 18, none, false, b!"after\n") := by decide +kernel

/-- its lines are canonical (every goroutine header names a declared goroutine), of a kind
sequence that is a `Race` -/
private def raceLines : List Bytes :=
  [b!"==================\n", b!"WARNING: DATA RACE\n", b!"Read at 0x00c000012345 by goroutine 7:\n",
   b!"  main.f()\n", b!"      /a.go:1 +0x1\n", b!"\n", b!"Previous write at 0x00c000012345 by goroutine 6:\n",
   b!"  main.g()\n", b!"      /a.go:2 +0x2\n", b!"\n", b!"Goroutine 7 (running) created at:\n", b!"  main.h()\n",
   b!"      /a.go:3 +0x3\n", b!"\n", b!"Goroutine 6 (finished) created at:\n", b!"  main.h()\n",
   b!"      /a.go:4 +0x4\n", b!"==================\n"]
private def raceKinds : List Kind :=
  [.sep, .warn, .raceOp, .func, .file, .blank, .racePrev, .func, .file, .blank, .raceGor, .func, .file,
   .blank, .raceGor, .func, .file, .sep]

set_option maxRecDepth 20000 in
example : CanonB {} raceLines raceKinds := canonBCheck_sound (by decide +kernel)
set_option maxRecDepth 20000 in
example : Kinds (raceLines.map (classify [])) raceKinds ∧ IdsOK [] (raceLines.map (classify [])) :=
  ⟨kindsB_sound (by decide +kernel), idsOKB_sound (by decide +kernel)⟩
example : Race raceKinds := (dfa_race_iff _).2 (by decide)
example : Spec.munch .start (raceKinds ++ [.other]) = (18, .fin) := by decide

/-- real lines are canonical for their kind -/
example : (classify [] b!"goroutine 1 [running]:\n").isKind .header := by decide +kernel
example : (classify [] b!"main.f(0x1, 0x2)\n").isKind .func := by decide +kernel
example : (classify [] b!"  main.f()\n").isKind .func := by decide +kernel
example : (classify [] b!"\t/a/b.go:12 +0x1\n").isKind .file := by decide +kernel
example : (classify [] b!"      /a/b.go:12 +0x1\n").isKind .file := by decide +kernel
example : (classify [] b!"created by main.g in goroutine 5\n").isKind .created := by decide +kernel
example : (classify [] b!"created by main.g\n").isKind .created := by decide +kernel
example : (classify [] b!"\n").isKind .blank := by decide +kernel
example : (classify [] b!"...additional frames elided...\n").isKind .elided := by decide +kernel
example : (classify [] b!"\tgoroutine running on other thread; stack unavailable\n").isKind .unavail := by decide +kernel
example : (classify [] b!"==================\n").isKind .sep := by decide +kernel
example : (classify [] b!"WARNING: DATA RACE\n").isKind .warn := by decide +kernel
example : (classify [] b!"Read at 0x00c000012345 by goroutine 7:\n").isKind .raceOp := by decide +kernel
example : (classify [] b!"Previous write at 0x00c000012345 by goroutine 6:\n").isKind .racePrev := by decide +kernel
example : (classify [] b!"Goroutine 7 (running) created at:\n").isKind .raceGor := by decide +kernel
example : (classify [] b!"exit status 2\n").isKind .other := by decide +kernel
/-- not canonical: `created by x()` fires two classifiers; no end of line -/
example : ∀ k, ¬ (classify [] b!"created by main.g()\n").isKind k := by
  intro k h
  by_cases hk : k = .created
  · subst hk; exact absurd h.func (by decide +kernel)
  · exact absurd h.created (by rw [if_neg hk]; decide +kernel)
example : ∀ k, ¬ (classify [] b!"main.f()").isKind k := fun _ h => absurd h.hasEOL (by decide +kernel)

/-- sentences of the grammar, and the automaton on them -/
example : Dump [.header, .func, .file, .elided, .func, .file, .created, .file, .blank, .header, .unavail, .blank] :=
  (dfa_dump_iff _).2 ⟨.gap, by decide, by decide⟩
example : Race [.sep, .warn, .raceOp, .func, .file, .blank, .racePrev, .func, .file, .blank, .raceGor,
    .func, .file, .blank, .raceGor, .func, .file, .sep] := (dfa_race_iff _).2 (by decide)
example : ¬ Dump [.header, .func] := fun h => by
  obtain ⟨q, h1, h2⟩ := (dfa_dump_iff _).1 h
  cases (Option.some.inj h1 : GState.fn = q)
  cases h2
example : Spec.munch .start [.header, .func, .file, .blank, .other, .header] = (4, .gap) := by decide

/-- `scan_on_canonical`, both directions of `Outcome`, on the initial state -/
example : scan {} (classify [] b!"goroutine 1 [running]:\n") =
    .ok ({ st := .gotRoutineHeader, gs := [mkGoroutine ⟨[], 1, b!"running", 0, false⟩ true] }, true, none) := by
  rfl
example : scan { st := .betweenRoutine } (classify [] b!"exit status 2\n") =
    .ok ({ st := .done }, false, none) := by rfl
/-- `unavail_needs_blank` on concrete lines: a foreign line directly after "stack unavailable" -/
example : (scanL {} [] [] (specLines
    b!"goroutine 1 [running]:\n\tgoroutine running on other thread; stack unavailable\nexit status 2\n" .eof)).err =
    some (.parse .emptyAfterUnavail) := by decide +kernel

end NonVacuity

end PP

#print axioms PP.scanL_prefix_nostart
#print axioms PP.scanL_stopped_append
#print axioms PP.scanL_continue_append
#print axioms PP.scanL_broke_append
#print axioms PP.scanL_done_append
#print axioms PP.locality
#print axioms PP.locality_fields
#print axioms PP.locality_goroutines
#print axioms PP.specLines_suffix
#print axioms PP.rest_is_suffix
#print axioms PP.resume_bytes
#print axioms PP.resume_chain
#print axioms PP.resume_tiles
#print axioms PP.resume_tiles_stream
#print axioms PP.resume_progress
#print axioms PP.resume_no_panic
#print axioms PP.resume_terminates
#print axioms PP.resume_terminates_stream
#print axioms PP.resume_blocks
#print axioms PP.resume_step
#print axioms PP.isKind_iff_canon
#print axioms PP.dfa_dump_iff
#print axioms PP.dfa_race_iff
#print axioms PP.dfa_iff
#print axioms PP.munch_spec
#print axioms PP.scan_on_canonical
#print axioms PP.scan_on_canonical'
#print axioms PP.outcome_iff
#print axioms PP.unavail_needs_blank
#print axioms PP.munch
#print axioms PP.munch_dump
#print axioms PP.munch_init
#print axioms PP.munch_scanL
#print axioms PP.dump_delimited
