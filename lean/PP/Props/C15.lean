import PP.Lemmas.NamesLemmas
/-
C15: nameArguments (stack.go:814-870) — properties of the value → number table
and of the renaming pass.
-/
namespace PP

/-! ### 1. one number per value -/

theorem nameTable_keys_nodup (gs : List Goroutine) :
    ((nameTable gs).map Prod.fst).Nodup := by
  rw [nameTable_eq, numbering_fst]; exact keys_nodup gs

/-- the table is a partial function of the value … -/
theorem same_value_same_name (gs : List Goroutine) :
    ∀ v k₁ k₂, (v, k₁) ∈ nameTable gs → (v, k₂) ∈ nameTable gs → k₁ = k₂ := by
  intro v k₁ k₂ h₁ h₂
  have h₁ := (lookup_eq_some_iff_mem (nameTable_keys_nodup gs)).mpr h₁
  have h₂ := (lookup_eq_some_iff_mem (nameTable_keys_nodup gs)).mpr h₂
  rw [h₁] at h₂; exact Option.some.inj h₂

/-- … and `lookup` (which `Arg.rename` uses) reads exactly that function. -/
theorem lookup_nameTable_iff (gs : List Goroutine) :
    ∀ v k, (nameTable gs).lookup v = some k ↔ (v, k) ∈ nameTable gs :=
  fun _ _ => lookup_eq_some_iff_mem (nameTable_keys_nodup gs)

/-- two pointer arguments with the same value that is in the table get the
same name, whatever their previous names and flags. -/
theorem same_value_same_name_arg (gs : List Goroutine) :
    ∀ v k n₁ o₁ i₁ n₂ o₂ i₂, (v, k) ∈ nameTable gs →
      Arg.rename (nameTable gs) (.scalar n₁ v true o₁ i₁) = .scalar (pseudoName k) v true o₁ i₁ ∧
      Arg.rename (nameTable gs) (.scalar n₂ v true o₂ i₂) = .scalar (pseudoName k) v true o₂ i₂ := by
  intro v k n₁ o₁ i₁ n₂ o₂ i₂ h
  have h := (lookup_nameTable_iff gs v k).mpr h
  simp [Arg.rename, h]

/-! ### 2. different values never share a number -/

theorem nameTable_injective (gs : List Goroutine) :
    ∀ v w k, (v, k) ∈ nameTable gs → (w, k) ∈ nameTable gs → v = w := by
  intro v w k hv hw
  rw [nameTable_eq] at hv hw
  exact numbering_inj hv hw

/-! ### 3. the numbers are 1..k, in table order -/

theorem nameTable_dense (gs : List Goroutine) :
    (nameTable gs).map Prod.snd = List.range' 1 (nameTable gs).length := by
  rw [nameTable_eq, numbering_snd, numbering_length]

/-! ### 4. every recurring pointer value is named -/

theorem recurring_named (gs : List Goroutine) :
    ∀ v, countOcc v (gs.flatMap Goroutine.ptrs) ≥ 2 →
      ∃ k, (nameTable gs).lookup v = some k := by
  intro v h
  apply Option.isSome_iff_exists.mp
  apply lookup_isSome_iff.mpr
  rw [nameTable_eq, numbering_fst, List.mem_append]
  have hall : v ∈ allOf gs := mem_of_countOcc_pos (Nat.le_trans (by decide) h)
  by_cases hp : v ∈ primOf gs
  · exact Or.inl (mem_keys1.mpr ⟨hall, hp, h⟩)
  · exact Or.inr (mem_keys2.mpr ⟨hall, hp⟩)

/-! ### 5. numbering order -/

/-- the numbers follow `NameOrder`: goroutine 0's values first, ascending within each class -/
theorem nameTable_mono (gs : List Goroutine) {v w kv kw : Nat} (hv : (v, kv) ∈ nameTable gs)
    (hw : (w, kw) ∈ nameTable gs) (h : NameOrder (primOf gs) v w) : kv < kw := by
  rw [nameTable_eq] at hv hw
  exact numbering_mono (keys_pairwise gs) (NameOrder.irrefl _) (NameOrder.asymm _) hv hw h

theorem primary_first (gs : List Goroutine) :
    ∀ v w kv kw, (v, kv) ∈ nameTable gs → (w, kw) ∈ nameTable gs →
      v ∈ (match gs with | [] => [] | g :: _ => g.ptrs) →
      w ∉ (match gs with | [] => [] | g :: _ => g.ptrs) → kv < kw :=
  fun _ _ _ _ hv hw hpv hpw => nameTable_mono gs hv hw (Or.inl ⟨hpv, hpw⟩)

theorem ascending_within_class (gs : List Goroutine) :
    ∀ v w kv kw, (v, kv) ∈ nameTable gs → (w, kw) ∈ nameTable gs →
      (v ∈ (match gs with | [] => [] | g :: _ => g.ptrs) ↔
       w ∈ (match gs with | [] => [] | g :: _ => g.ptrs)) →
      v < w → kv < kw :=
  fun _ _ _ _ hv hw hiff hlt => nameTable_mono gs hv hw (Or.inr ⟨hiff, hlt⟩)

/-- converse of `recurring_named`: what is named either recurs, or does not
occur in goroutine 0 (the Go code names those even when they occur once). -/
theorem named_only_if (gs : List Goroutine) :
    ∀ v k, (v, k) ∈ nameTable gs →
      v ∈ gs.flatMap Goroutine.ptrs ∧
      (countOcc v (gs.flatMap Goroutine.ptrs) ≥ 2 ∨
       v ∉ (match gs with | [] => [] | g :: _ => g.ptrs)) := by
  intro v k h
  have hm : v ∈ (nameTable gs).map Prod.fst := List.mem_map_of_mem (f := Prod.fst) h
  rw [nameTable_eq, numbering_fst, List.mem_append] at hm
  rcases hm with hm | hm
  · have := mem_keys1.mp hm; exact ⟨this.1, Or.inl this.2.2⟩
  · have := mem_keys2.mp hm; exact ⟨this.1, Or.inr this.2⟩

/-! ### 6. only names change -/

theorem nonptr_unnamed (t : List (Nat × Nat)) (n : Bytes) (v : Nat) (o i : Bool) :
    Arg.rename t (.scalar n v false o i) = .scalar n v false o i := by
  simp [Arg.rename]

theorem only_names_change_arg (t : List (Nat × Nat)) (a : Arg) :
    Arg.eraseName (Arg.rename t a) = Arg.eraseName a :=
  Arg.eraseName_rename t a

theorem only_names_change_args (t : List (Nat × Nat)) (l : List Arg) :
    Arg.eraseNameL (Arg.renameL t l) = Arg.eraseNameL l :=
  Arg.eraseNameL_renameL t l

theorem rename_args_length (t : List (Nat × Nat)) (l : List Arg) :
    (Arg.renameL t l).length = l.length := by
  induction l with
  | nil => rfl
  | cons a as ih => simp [Arg.renameL, ih]

/-- the fields of a goroutine outside `sig.stack.calls` are untouched -/
theorem rename_fields (t : List (Nat × Nat)) (g : Goroutine) :
    (Goroutine.rename t g).id = g.id ∧
    (Goroutine.rename t g).first = g.first ∧
    (Goroutine.rename t g).raceWrite = g.raceWrite ∧
    (Goroutine.rename t g).raceAddr = g.raceAddr ∧
    (Goroutine.rename t g).sig.state = g.sig.state ∧
    (Goroutine.rename t g).sig.createdBy = g.sig.createdBy ∧
    (Goroutine.rename t g).sig.sleepMin = g.sig.sleepMin ∧
    (Goroutine.rename t g).sig.sleepMax = g.sig.sleepMax ∧
    (Goroutine.rename t g).sig.locked = g.sig.locked ∧
    (Goroutine.rename t g).sig.stack.elided = g.sig.stack.elided :=
  ⟨rfl, rfl, rfl, rfl, rfl, rfl, rfl, rfl, rfl, rfl⟩

theorem rename_calls_length (t : List (Nat × Nat)) (g : Goroutine) :
    (Goroutine.rename t g).sig.stack.calls.length = g.sig.stack.calls.length := by
  simp [Goroutine.rename]

/-- call by call, everything but `args.values` is untouched, `args.values`
keeps its length and changes at most in the names. -/
theorem rename_call (t : List (Nat × Nat)) (g : Goroutine) (j : Nat)
    (h : j < g.sig.stack.calls.length) :
    let c := g.sig.stack.calls[j]
    let c' := (Goroutine.rename t g).sig.stack.calls[j]'(by rw [rename_calls_length]; exact h)
    c'.fn = c.fn ∧ c'.remoteSrcPath = c.remoteSrcPath ∧ c'.line = c.line ∧
    c'.srcName = c.srcName ∧ c'.dirSrc = c.dirSrc ∧ c'.localSrcPath = c.localSrcPath ∧
    c'.relSrcPath = c.relSrcPath ∧ c'.importPath = c.importPath ∧ c'.location = c.location ∧
    c'.args.processed = c.args.processed ∧ c'.args.elided = c.args.elided ∧
    c'.args.values = Arg.renameL t c.args.values ∧
    c'.args.values.length = c.args.values.length ∧
    Arg.eraseNameL c'.args.values = Arg.eraseNameL c.args.values := by
  simp [Goroutine.rename, Arg.eraseNameL_renameL, rename_args_length]

/-- the same in one equation: modulo argument names, renaming is the identity -/
theorem only_names_change (t : List (Nat × Nat)) (g : Goroutine) :
    Goroutine.eraseNames (Goroutine.rename t g) = Goroutine.eraseNames g := by
  simp [Goroutine.eraseNames, Goroutine.rename, Call.eraseNames, Function.comp_def,
    Arg.eraseNameL_renameL]

theorem nameArguments_length (gs : List Goroutine) :
    (nameArguments gs).length = gs.length := by
  simp [nameArguments]

theorem nameArguments_only_names_change (gs : List Goroutine) :
    (nameArguments gs).map Goroutine.eraseNames = gs.map Goroutine.eraseNames := by
  simp [nameArguments, Function.comp_def, only_names_change]

/-! ### an example: two goroutines, recurring and once-only pointers -/

section Example

private def ptrArg (v : Nat) : Arg := .scalar [] v true false false
private def intArg (v : Nat) : Arg := .scalar [] v false false false
private def callOf (as : List Arg) : Call := { args := { values := as } }
private def gorOf (id : Nat) (cs : List Call) : Goroutine :=
  { id := id, sig := { stack := { calls := cs } } }

/-- goroutine 1 (primary): 0xc000 (also in goroutine 2), 0xa000 twice, 0xb000
once, the integer 0xd000 twice; goroutine 2: 0xc000 inside an aggregate,
0xd000 once as pointer, 0x9000 twice. -/
private def ex : List Goroutine :=
  [ gorOf 1 [callOf [ptrArg 0xc000, intArg 0xd000, ptrArg 0xa000],
             callOf [ptrArg 0xa000, ptrArg 0xb000, intArg 0xd000]],
    gorOf 2 [callOf [.agg [ptrArg 0xc000, intArg 7] false, ptrArg 0xd000],
             callOf [ptrArg 0x9000, ptrArg 0x9000]] ]

example : ex.flatMap Goroutine.ptrs =
    [0xc000, 0xa000, 0xa000, 0xb000, 0xc000, 0xd000, 0x9000, 0x9000] := rfl

/-- primary and recurring first (0xa000, 0xc000 ascending), then the
non-primary ones (0x9000, 0xd000 ascending); 0xb000 (primary, once) unnamed. -/
example : nameTable ex = [(0xa000, 1), (0xc000, 2), (0x9000, 3), (0xd000, 4)] := rfl

example : (nameTable ex).lookup 0xb000 = none := rfl

-- hypotheses of `recurring_named`, `primary_first`, `ascending_within_class` are satisfiable
example : countOcc 0xc000 (ex.flatMap Goroutine.ptrs) ≥ 2 := by decide
example : (0xc000, 2) ∈ nameTable ex ∧ (0x9000, 3) ∈ nameTable ex ∧
    0xc000 ∈ primOf ex ∧ 0x9000 ∉ primOf ex := by decide
example : (0xa000, 1) ∈ nameTable ex ∧ (0xc000, 2) ∈ nameTable ex ∧
    (0xa000 ∈ primOf ex ↔ 0xc000 ∈ primOf ex) := by decide

/-- the renamed snapshot: pointer arguments named, integers and the once-only
primary pointer untouched. -/
example : (nameArguments ex).map (fun g => g.sig.stack.calls.map (·.args.values)) =
    let p (k v : Nat) : Arg := .scalar (pseudoName k) v true false false
    [ [[p 2 0xc000, intArg 0xd000, p 1 0xa000],
       [p 1 0xa000, ptrArg 0xb000, intArg 0xd000]],
      [[.agg [p 2 0xc000, intArg 7] false, p 4 0xd000],
       [p 3 0x9000, p 3 0x9000]] ] := by
  rfl

example : pseudoName 2 = b!"#2" := rfl

end Example

#print axioms nameTable_keys_nodup
#print axioms same_value_same_name
#print axioms lookup_nameTable_iff
#print axioms same_value_same_name_arg
#print axioms nameTable_injective
#print axioms nameTable_dense
#print axioms recurring_named
#print axioms primary_first
#print axioms ascending_within_class
#print axioms named_only_if
#print axioms nonptr_unnamed
#print axioms only_names_change_arg
#print axioms only_names_change_args
#print axioms rename_args_length
#print axioms rename_fields
#print axioms rename_calls_length
#print axioms rename_call
#print axioms only_names_change
#print axioms nameArguments_length
#print axioms nameArguments_only_names_change

end PP
