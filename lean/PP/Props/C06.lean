import PP.Lemmas.OracleIndep
/-
C06 (aggregation part): the result of `Snapshot.Aggregate` does not depend on
the iteration order of the Go map.  For every pair of valid order oracles,
every level and every snapshot with well-formed signatures in which all
goroutines flagged first are similar to each other (the scanner flags exactly
one), `aggregateWith π₁ l gs = aggregateWith π₂ l gs`.  No hypothesis on the
goroutine ids is needed: ties of the comparator are broken by `order`.

C13 (aggregation part): the output is sorted for the comparison closure
`bucketLess`, and the bucket flagged first, if any, is the head of the output.
-/
namespace PP

/-! ### the map contents are oracle-independent up to permutation -/

theorem bucket_contents_oracle_indep {π₁ π₂ : Oracle} (h₁ : ValidOracle π₁) (h₂ : ValidOracle π₂)
    (l : Lvl) (gs : List Goroutine) (hwf : ∀ g ∈ gs, g.sig.WF = true) :
    (bucketLoop π₁ l 0 [] gs).Perm (bucketLoop π₂ l 0 [] gs) :=
  bucketLoop_perm h₁ h₂ l gs 0 [] [] (List.Perm.refl _) ⟨by simp, by simp⟩ hwf

/-- the tie-break field: no two map entries have the same `order` -/
theorem bucket_orders_nodup {π : Oracle} (hπ : ValidOracle π) (l : Lvl) (gs : List Goroutine) :
    ((bucketLoop π l 0 [] gs).map (·.order)).Nodup :=
  (bucketLoop_orderInv hπ l gs 0 [] ⟨by simp, by simp⟩).1

/-- at most one map entry is flagged first -/
theorem bucket_first_unique {π : Oracle} (hπ : ValidOracle π) (l : Lvl) (gs : List Goroutine)
    (hwf : ∀ g ∈ gs, g.sig.WF = true)
    (hfirst : ∀ g ∈ gs, ∀ h ∈ gs, g.first = true → h.first = true →
      Signature.similar l g.sig h.sig = true)
    (b c : Bkt) (hb : b ∈ bucketLoop π l 0 [] gs) (hc : c ∈ bucketLoop π l 0 [] gs)
    (hbf : b.first = true) (hcf : c.first = true) : b = c := by
  -- an entry flagged first has a member flagged first, and its key is similar to that member
  have key : ∀ k ∈ bucketLoop π l 0 [] gs, k.first = true →
      ∃ g ∈ gs, g.first = true ∧ Signature.similar l k.key g.sig = true := by
    intro k hk hkf
    obtain ⟨ms, hsub, hf⟩ := bucketLoop_filed hπ l gs k hk
    rw [hf.first, List.any_eq_true] at hkf
    obtain ⟨g, hg, hgf⟩ := hkf
    exact ⟨g, hsub.subset hg, hgf, (hf.key_similar fun m hm => hwf m (hsub.subset hm)).2 g hg⟩
  obtain ⟨g, hg, hgf, hgs⟩ := key b hb hbf
  obtain ⟨t, ht, htf, hts⟩ := key c hc hcf
  have h2 : Signature.similar l b.key c.key = true :=
    Signature.similar_trans l _ _ _ (Signature.similar_trans l _ _ _ hgs (hfirst g hg t ht hgf htf))
      (Signature.similar_symm l _ _ hts)
  exact (bucketLoop_dissim hπ l gs hwf).unique hb hc h2

/-- the buckets handed to the sort (the map contents in the order of the last range) can be
sorted deterministically -/
theorem bucketLoop_sortInv {π : Oracle} (hπ : ValidOracle π) (l : Lvl) (gs : List Goroutine)
    (hwf : ∀ g ∈ gs, g.sig.WF = true)
    (hfirst : ∀ g ∈ gs, ∀ h ∈ gs, g.first = true → h.first = true →
      Signature.similar l g.sig h.sig = true) :
    SortInv (π gs.length (bucketLoop π l 0 [] gs)) := by
  have hnd : (bucketLoop π l 0 [] gs).Pairwise (fun a b => a.order ≠ b.order) :=
    List.pairwise_map.1 (bucket_orders_nodup hπ l gs)
  refine SortInv.perm (hπ gs.length _) ⟨hnd, hnd.imp_of_mem ?_⟩
  intro a b ha hb hne
  cases haf : a.first with
  | false => rfl
  | true =>
    cases hbf : b.first with
    | false => rfl
    | true =>
      exact absurd (congrArg Bkt.order (bucket_first_unique hπ l gs hwf hfirst a b ha hb haf hbf)) hne

/-! ### the result of `Aggregate` is the same under every valid map iteration order -/

theorem aggregate_oracle_indep {π₁ π₂ : Oracle} (h₁ : ValidOracle π₁) (h₂ : ValidOracle π₂)
    (l : Lvl) (gs : List Goroutine)
    (hwf : ∀ g ∈ gs, g.sig.WF = true)
    (hfirst : ∀ g ∈ gs, ∀ h ∈ gs, g.first = true → h.first = true →
      Signature.similar l g.sig h.sig = true) :
    aggregateWith π₁ l gs = aggregateWith π₂ l gs := by
  unfold aggregateWith
  have hp := bucket_contents_oracle_indep h₁ h₂ l gs hwf
  have hs := bucketLoop_sortInv h₂ l gs hwf hfirst
  have hp' : (π₁ gs.length (bucketLoop π₁ l 0 [] gs)).Perm
      (π₂ gs.length (bucketLoop π₂ l 0 [] gs)) :=
    ((h₁ _ _).trans hp).trans (h₂ _ _).symm
  simp only [sortBuckets_perm_eq hs hp']

/-- "at most one goroutine is flagged first" (what the scanner guarantees) suffices -/
theorem aggregate_oracle_indep_one_first {π₁ π₂ : Oracle} (h₁ : ValidOracle π₁)
    (h₂ : ValidOracle π₂) (l : Lvl) (gs : List Goroutine)
    (hwf : ∀ g ∈ gs, g.sig.WF = true)
    (hone : (gs.filter (·.first)).length ≤ 1) :
    aggregateWith π₁ l gs = aggregateWith π₂ l gs := by
  refine aggregate_oracle_indep h₁ h₂ l gs hwf ?_
  intro g hg h hh hgf hhf
  have hg' : g ∈ gs.filter (·.first) := List.mem_filter.2 ⟨hg, hgf⟩
  have hh' : h ∈ gs.filter (·.first) := List.mem_filter.2 ⟨hh, hhf⟩
  have e : g = h := by
    cases hL : gs.filter (·.first) with
    | nil => rw [hL] at hg'; cases hg'
    | cons x rest =>
      cases rest with
      | nil =>
        rw [hL] at hg' hh'
        simp only [List.mem_singleton] at hg' hh'
        rw [hg', hh']
      | cons y rest => rw [hL] at hone; simp at hone
  rw [e]
  exact Signature.similar_refl l _

/-! ### the output is sorted -/

theorem aggregate_sorted {π : Oracle} (hπ : ValidOracle π) (l : Lvl) (gs : List Goroutine)
    (hwf : ∀ g ∈ gs, g.sig.WF = true)
    (hfirst : ∀ g ∈ gs, ∀ h ∈ gs, g.first = true → h.first = true →
      Signature.similar l g.sig h.sig = true) :
    (sortBuckets (π gs.length (bucketLoop π l 0 [] gs))).Pairwise
      (fun a b => bucketLess b a = false) :=
  sortBuckets_sorted (bucketLoop_sortInv hπ l gs hwf hfirst)

/-- the sorted order is unique: whatever (correct) sorting algorithm is used on the collected
buckets, the outcome is the one of the model's `sortBuckets` -/
theorem aggregate_sorted_unique {π : Oracle} (hπ : ValidOracle π) (l : Lvl) (gs : List Goroutine)
    (hwf : ∀ g ∈ gs, g.sig.WF = true)
    (hfirst : ∀ g ∈ gs, ∀ h ∈ gs, g.first = true → h.first = true →
      Signature.similar l g.sig h.sig = true)
    (out : List Bkt) (hp : out.Perm (bucketLoop π l 0 [] gs))
    (hs : out.Pairwise (fun a b => bucketLess b a = false)) :
    out = sortBuckets (π gs.length (bucketLoop π l 0 [] gs)) :=
  sortBuckets_unique (bucketLoop_sortInv hπ l gs hwf hfirst)
    (hp.trans (hπ gs.length _).symm) hs

theorem first_bucket_first {π : Oracle} (hπ : ValidOracle π) (l : Lvl) (gs : List Goroutine)
    (hwf : ∀ g ∈ gs, g.sig.WF = true)
    (hfirst : ∀ g ∈ gs, ∀ h ∈ gs, g.first = true → h.first = true →
      Signature.similar l g.sig h.sig = true)
    (b : Bucket) (hb : b ∈ aggregateWith π l gs) (hf : b.first = true) :
    (aggregateWith π l gs).head? = some b := by
  unfold aggregateWith at hb ⊢
  simp only [List.mem_map] at hb
  obtain ⟨k, hk, rfl⟩ := hb
  have hs := bucketLoop_sortInv hπ l gs hwf hfirst
  have := sortBuckets_first_head hs k hk hf
  simp only [List.head?_map, this, Option.map_some]

/-! ### non-vacuity -/

section Example

/-- a one-frame signature `main.f(arg)` -/
private def sigOf (v : Nat) (line : Nat) : Signature :=
  { state := b!"chan receive",
    stack := { calls := [{ fn := { complete := b!"main.f" },
                           args := { values := [.scalar [] v false false false] },
                           remoteSrcPath := b!"/src/main.go", line := line }] } }

/-- goroutines 1 and 4 share a signature; goroutines 2 and 3 differ from it and from each
other in an argument value only, which `Signature.less` does not look at -/
private def exGs : List Goroutine :=
  [ { sig := sigOf 1 10, id := 1, first := true },
    { sig := sigOf 2 10, id := 2 },
    { sig := sigOf 3 10, id := 3 },
    { sig := sigOf 1 10, id := 4 } ]

private theorem exGs_wf : ∀ g ∈ exGs, g.sig.WF = true := by decide
private theorem exGs_first : ∀ g ∈ exGs, ∀ h ∈ exGs, g.first = true → h.first = true →
    Signature.similar .exactLines g.sig h.sig = true := by decide

/-- the two singleton buckets tie on everything but `order` -/
example : Signature.similar .exactLines (sigOf 2 10) (sigOf 3 10) = false
    ∧ Signature.less (sigOf 2 10) (sigOf 3 10) = false
    ∧ Signature.less (sigOf 3 10) (sigOf 2 10) = false := by decide

/-- the map contents come out in different orders under the two oracles … -/
example : (bucketLoop idOracle .exactLines 0 [] exGs).map (fun b => (b.order, b.ids)) =
    [(0, [1, 4]), (1, [2]), (2, [3])] := rfl
example : (bucketLoop revOracle .exactLines 0 [] exGs).map (fun b => (b.order, b.ids)) =
    [(2, [3]), (0, [1, 4]), (1, [2])] := rfl
/-- … and are permutations of each other -/
example : (bucketLoop idOracle .exactLines 0 [] exGs).Perm
    (bucketLoop revOracle .exactLines 0 [] exGs) :=
  bucket_contents_oracle_indep validOracle_id validOracle_rev _ _ exGs_wf

/-- the theorem applies -/
example : aggregateWith idOracle .exactLines exGs = aggregateWith revOracle .exactLines exGs :=
  aggregate_oracle_indep validOracle_id validOracle_rev _ _ exGs_wf exGs_first

/-- the same from `aggregate_oracle_indep_one_first`: the example has one goroutine flagged first -/
example : aggregateWith idOracle .exactLines exGs = aggregateWith revOracle .exactLines exGs :=
  aggregate_oracle_indep_one_first validOracle_id validOracle_rev _ _ exGs_wf (by decide)

/-- the sortedness theorem applies -/
example : (sortBuckets (revOracle exGs.length (bucketLoop revOracle .exactLines 0 [] exGs))).Pairwise
    (fun a b => bucketLess b a = false) :=
  aggregate_sorted validOracle_rev _ _ exGs_wf exGs_first

/-- two goroutines flagged first with non-similar signatures -/
private def twoFirst : List Goroutine :=
  [ { sig := sigOf 1 10, id := 1, first := true },
    { sig := sigOf 2 10, id := 2, first := true } ]

/-- `hfirst` is needed: the closure answers `true` both ways on a (first, first) pair, and the
output then depends on the iteration order -/
example : (∀ g ∈ twoFirst, g.sig.WF = true)
    ∧ (aggregateWith idOracle .exactLines twoFirst).map (·.ids) = [[2], [1]]
    ∧ (aggregateWith revOracle .exactLines twoFirst).map (·.ids) = [[1], [2]] := by
  let b1 : Bkt := { key := sigOf 1 10, ids := [1], first := true, order := 0 }
  let b2 : Bkt := { key := sigOf 2 10, ids := [2], first := true, order := 1 }
  have h1 : idOracle twoFirst.length (bucketLoop idOracle .exactLines 0 [] twoFirst) = [b1, b2] := rfl
  have h2 : revOracle twoFirst.length (bucketLoop revOracle .exactLines 0 [] twoFirst) = [b2, b1] := rfl
  have l1 : bucketLess b2 b1 = true := by decide
  have l2 : bucketLess b1 b2 = true := by decide
  refine ⟨by decide, ?_⟩
  unfold aggregateWith
  simp only [h1, h2, sortBuckets, mergeSort_pair, l1, l2]
  exact ⟨rfl, rfl⟩

end Example

end PP

#print axioms PP.bucket_contents_oracle_indep
#print axioms PP.bucket_orders_nodup
#print axioms PP.bucket_first_unique
#print axioms PP.aggregate_oracle_indep
#print axioms PP.aggregate_oracle_indep_one_first
#print axioms PP.aggregate_sorted
#print axioms PP.aggregate_sorted_unique
#print axioms PP.first_bucket_first
