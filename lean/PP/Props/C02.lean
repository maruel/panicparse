import PP.Lemmas.LoopLemmas
/-
C02 — stream conservation of `ScanSnapshot`, at line level (`scanL`; `PP.Props.C09b` transfers
it to the byte level for every delivery).

Everything that is not withheld survives byte for byte and in order.  Forwarded and withheld
lines can interleave (known finding K1, below), so conservation is stated over a ghost trace.

Definitions (lemma file `PP/Lemmas/LoopLemmas.lean`):
* `traceL s items : List Ev` mirrors `scanL` and records every processed non-empty line in
  order, as an event `{ withheld, line, pre, post }` (`withheld = true`: `scan` returned true,
  the line goes to `consumed`; `false`: the line is written to the pass-through writer; `pre`,
  `post`: scanner state before / after).  The line on which the loop breaks, panics or finds
  the state `done` is not an event: it is handed back in `rest`.
* `trace s items : List (Bool × Bytes)` = the events as `(withheld, line)` pairs.
* `Ev.Valid ev` = `(∃ e1, scanBytes ev.pre ev.line = .ok (ev.post, ev.withheld, e1)) ∧
   ev.line ≠ [] ∧ ev.pre.st ≠ .done ∧ (ev.withheld = false → ev.post.st = .looking)`.
* `Plain d` = `(classify [] d).header = none ∧ (classify [] d).sep = false`.
* `Line.isBlank l`: `indentOK`, `empty` are true and every other classifier field is
  `none` / `false`.
-/
namespace PP

/-! ### 1. The trace agrees with the loop; conservation -/

/-- what is forwarded / withheld is what the trace says, in trace order -/
theorem trace_agrees (s : S) (fwd : Bytes) (cons : List Bytes) (items : List (Bytes × Option RErr)) :
    (scanL s fwd cons items).fwd = fwd ++ ((trace s items).filter (fun p => !p.1)).flatMap (·.2) ∧
    (scanL s fwd cons items).consumed = cons ++ ((trace s items).filter (·.1)).map (·.2) := by
  obtain ⟨h1, h2, _⟩ := scanL_traceL s fwd cons items
  rw [h1, h2, fwdOf_eq, consOf_eq]
  exact ⟨rfl, rfl⟩

/-- No byte is duplicated, altered, reordered or lost: the input is exactly the processed
lines in order followed by what is handed back.  A property of the loop: it holds from every
scanner state, whatever `scan` does, including when `scan` panics (see `conservation_panic`). -/
theorem conservation (s : S) (fwd : Bytes) (cons : List Bytes) (items : List (Bytes × Option RErr)) :
    (trace s items).flatMap (·.2) ++ itemsBytes (scanL s fwd cons items).rest = itemsBytes items := by
  obtain ⟨_, _, h3⟩ := scanL_traceL s fwd cons items
  unfold trace
  rw [← bytesOf_eq]
  exact h3

/-- on a panic, the offending line is the first item handed back (and is not in the trace) -/
theorem conservation_panic (s : S) (fwd : Bytes) (cons : List Bytes)
    (items : List (Bytes × Option RErr)) (p : Panic)
    (h : (scanL s fwd cons items).panicked = some p) :
    ∃ d e rest', (scanL s fwd cons items).rest = (d, e) :: rest' ∧
      scanBytes (scanL s fwd cons items).s d = .error p :=
  scanL_panicked s fwd cons items p h

/-- whole stream: content = processed lines ++ handed-back bytes; the forwarded output is
the subsequence of forwarded lines, the withheld lines are the rest of the trace -/
theorem conservation_stream (bs : Bytes) (fin : RErr) :
    let o := scanL {} [] [] (specLines bs fin)
    let t := trace {} (specLines bs fin)
    t.flatMap (·.2) ++ itemsBytes o.rest = bs ∧
    o.fwd = (t.filter (fun p => !p.1)).flatMap (·.2) ∧
    o.consumed = (t.filter (·.1)).map (·.2) ∧
    (t.filter (fun p => !p.1)).Sublist t := by
  have h := conservation {} [] [] (specLines bs fin)
  rw [itemsBytes_specLines] at h
  obtain ⟨h1, h2⟩ := trace_agrees {} [] [] (specLines bs fin)
  exact ⟨h, by simpa using h1, by simpa using h2, List.filter_sublist⟩

/-! ### 2. Forwarding happens only while no dump is in progress -/

/-- every event of the trace is a `scan` step of the model, and consecutive events chain -/
theorem trace_events_valid (s : S) (items : List (Bytes × Option RErr)) :
    (∀ ev ∈ traceL s items, ev.Valid) ∧
    (∀ t1 ev1 ev2 t2, traceL s items = t1 ++ ev1 :: ev2 :: t2 → ev2.pre = ev1.post) ∧
    (∀ ev t, traceL s items = ev :: t → ev.pre = s) :=
  ⟨(traceL_chain s items).valid,
   fun _ _ _ _ h => Chain.adjacent (h ▸ traceL_chain s items),
   fun _ _ h => (Chain.head_pre (h ▸ traceL_chain s items)).1⟩

/-- A forwarded line was scanned in state `looking` and left the whole scanner state
untouched, or it is the line after a lone race separator (`gotRaceHeader1 → looking`, K1),
which only resets the state to `looking`.  In particular forwarding never happens while a
dump is being parsed, and never changes the goroutines. -/
theorem forwarded_only_while_looking (s : S) (items : List (Bytes × Option RErr)) :
    ∀ ev ∈ traceL s items, ev.withheld = false →
      ev.post.st = .looking ∧
      ((ev.pre.st = .looking ∧ ev.post = ev.pre) ∨
       (ev.pre.st = .gotRaceHeader1 ∧ (classify ev.pre.pfx ev.line).warn = false ∧
          ev.post = { ev.pre with st := .looking, pfx := [] })) := by
  intro ev hev hw
  have hv := (traceL_chain s items).valid ev hev
  have hl := hv.2.2.2 hw
  have hstep := hv.step
  rw [hw, hl] at hstep
  obtain ⟨⟨e1, hsc⟩, _⟩ := hv
  rw [hw] at hsc
  refine ⟨hl, ?_⟩
  rcases (Step_fwd_looking hstep).2 with hp | ⟨hp, hwarn⟩
  · exact Or.inl ⟨hp, (scan_looking_fwd hsc hp hl).1⟩
  · exact Or.inr ⟨hp, hwarn, (scan_rh1_fwd hsc hp hl).1⟩

/-- Once the scanner state is neither `looking` nor `gotRaceHeader1`, nothing is forwarded
until the loop ends. -/
theorem no_forward_after_dump_started (s : S) (items : List (Bytes × Option RErr))
    (h1 : s.st ≠ .looking) (h2 : s.st ≠ .gotRaceHeader1) :
    ∀ ev ∈ traceL s items, ev.withheld = true :=
  (traceL_chain s items).NL_withheld ⟨h1, h2⟩

/-- Shape of the trace.  A withheld line that is followed, anywhere later in the trace, by a
forwarded line is a race separator (`==================`) consumed in state `looking`
(→ `gotRaceHeader1`), and the line right after it is a forwarded line that is not
`WARNING: DATA RACE` (→ `looking`).  This is known finding K1: the separator is withheld
although no report follows.  (The `WARNING` line itself is never followed by a forward: from
`gotRaceHeader2` on the loop only withholds or breaks.) -/
theorem trace_shape (s : S) (items : List (Bytes × Option RErr)) :
    ∀ t1 ev t2, traceL s items = t1 ++ ev :: t2 → ev.withheld = true →
      (∃ f ∈ t2, f.withheld = false) →
      ev.pre.st = .looking ∧ ev.post.st = .gotRaceHeader1 ∧
      (classify ev.pre.pfx ev.line).sep = true ∧ (classify ev.pre.pfx ev.line).header = none ∧
      ∃ f t3, t2 = f :: t3 ∧ f.withheld = false ∧ f.pre = ev.post ∧
        (classify f.pre.pfx f.line).warn = false ∧ f.post.st = .looking :=
  (traceL_chain s items).shape

/-- Without a lone separator the trace is `F ++ W`: forwarded lines, then withheld lines. -/
theorem trace_split (s : S) (items : List (Bytes × Option RErr))
    (h : ∀ ev ∈ traceL s items, ev.withheld = true → ev.post.st ≠ .gotRaceHeader1) :
    ∃ F W, traceL s items = F ++ W ∧ (∀ f ∈ F, f.withheld = false) ∧
      (∀ w ∈ W, w.withheld = true) := by
  apply split_of_no_fwd_after_withheld
  intro t1 ev t2 heq hw f hf
  cases hfw : f.withheld with
  | true => rfl
  | false =>
    have := (trace_shape s items t1 ev t2 heq hw ⟨f, hf, hfw⟩).2.1
    exact absurd this (h ev (by rw [heq]; simp) hw)

/-! ### 3. A stream without a dump passes through unchanged -/

/-- If no line of the stream is a goroutine header or a race separator, everything is
forwarded, nothing is withheld, no goroutine is found and nothing is handed back. -/
theorem no_dump_identity (bs : Bytes) (fin : RErr)
    (h : ∀ p ∈ specLines bs fin, (classify [] p.1).header = none ∧ (classify [] p.1).sep = false) :
    let o := scanL {} [] [] (specLines bs fin)
    o.fwd = bs ∧ o.consumed = [] ∧ o.s = {} ∧ o.rest = [] ∧ o.broke = false ∧
    o.err = some (.reader fin) ∧ o.panicked = none := by
  have hj := splitLines_join bs
  have hl : ∀ l ∈ (splitLines bs).1, Plain l := fun l hl =>
    h (l, none) (by simp [specLines, hl])
  have ht : Plain (splitLines bs).2 := h ((splitLines bs).2, some fin) (by simp [specLines])
  have := scanL_plain {} rfl rfl [] [] (splitLines bs).1 (splitLines bs).2 fin hl ht
  simp only [specLines]
  rw [this]
  simp [hj]

/-- the same for the whole of `ScanSnapshot`: nil snapshot, nil suffix, the output is the input -/
theorem no_dump_identity_snapshot (names : Bool) (bs : Bytes) (fin : RErr)
    (h : ∀ p ∈ specLines bs fin, (classify [] p.1).header = none ∧ (classify [] p.1).sep = false) :
    let r := scanSnapshotL names bs fin
    r.snap = none ∧ r.fwd = bs ∧ r.suffix = none ∧ r.unread = [] ∧ r.consumed = [] ∧
    r.err = some (.reader fin) ∧ r.state = .looking ∧ r.panicked = false := by
  obtain ⟨h1, h2, h3, h4, h5, h6, h7⟩ := no_dump_identity bs fin h
  simp only [scanSnapshotL]
  simp only [h1, h2, h3, h4, h5, h6, h7]
  simp

/-! ### 4. Blank lines are withheld only directly after a stack, and only one -/

/-- a line that is empty after stripping the end of line and the prefix is blank -/
theorem empty_line_isBlank (pfx raw : Bytes) (h : (classify pfx raw).empty = true) :
    (classify pfx raw).isBlank := by
  obtain ⟨t, h0, h1, h2, h3, h4, h5, h6, h7, h8, h9, h10, h11, h12, h13⟩ := classify_spec pfx raw
  rw [h1] at h
  obtain rfl : t = [] := List.isEmpty_iff.mp h
  refine ⟨?_, by rw [h1]; rfl, ?_, ?_, ?_, ?_, ?_, ?_, ?_, ?_, ?_, ?_, ?_, ?_⟩
  · cases hi : (classify pfx raw).indentOK with
    | true => rfl
    | false => exact absurd rfl (h0 hi)
  · rw [h2]; decide
  · rw [h3]; decide
  · rw [h4]; decide
  · rw [h5]; decide
  · rw [h6]; decide
  · rw [h7]; decide
  · rw [h8]; decide
  · rw [h9]; decide
  · rw [h10]; decide
  · rw [h11]; decide
  · rw [h12]; decide
  · rw [h13]; decide

/-- (a) only the five "directly after a stack" states consume a blank line, and they move to
the corresponding "between" state -/
theorem blank_consumed_states (s s' : S) (l : Line) (e : Option Err) (hb : l.isBlank)
    (h : scan s l = .ok (s', true, e)) :
    ((s.st = .gotFileFunc ∨ s.st = .gotFileCreated ∨ s.st = .gotUnavail) ∧ s'.st = .betweenRoutine) ∨
    (s.st = .gotRaceOperationFile ∧ s'.st = .betweenRaceOperations) ∨
    (s.st = .gotRaceGoroutineFile ∧ s'.st = .betweenRaceGoroutines) :=
  Step_blank hb (scan_step h)

/-- (b) no state consumes two consecutive blank lines: the second one is not processed -/
theorem no_two_blank (s s₁ : S) (l₁ l₂ : Line) (e₁ : Option Err) (hb₁ : l₁.isBlank)
    (hb₂ : l₂.isBlank) (h : scan s l₁ = .ok (s₁, true, e₁)) :
    ∃ s₂ e₂, scan s₁ l₂ = .ok (s₂, false, e₂) := by
  apply scan_between_blank s₁ l₂ hb₂
  rcases blank_consumed_states s s₁ l₁ e₁ hb₁ h with ⟨_, h'⟩ | ⟨_, h'⟩ | ⟨_, h'⟩
  · exact Or.inl h'
  · exact Or.inr (Or.inl h')
  · exact Or.inr (Or.inr h')

/-- In a trace: a withheld empty line was consumed directly after a stack; the line processed
after it (if the loop goes on) is not empty — the second blank line ends the dump
(`betweenRoutine → done`) or is an error, and is handed back, not withheld. -/
theorem withheld_blank_only_after_goroutine (s : S) (items : List (Bytes × Option RErr)) :
    (∀ ev ∈ traceL s items, ev.withheld = true → (classify ev.pre.pfx ev.line).empty = true →
      ((ev.pre.st = .gotFileFunc ∨ ev.pre.st = .gotFileCreated ∨ ev.pre.st = .gotUnavail) ∧
        ev.post.st = .betweenRoutine) ∨
      (ev.pre.st = .gotRaceOperationFile ∧ ev.post.st = .betweenRaceOperations) ∨
      (ev.pre.st = .gotRaceGoroutineFile ∧ ev.post.st = .betweenRaceGoroutines)) ∧
    (∀ t1 ev1 ev2 t2, traceL s items = t1 ++ ev1 :: ev2 :: t2 → ev1.withheld = true →
      (classify ev1.pre.pfx ev1.line).empty = true →
      (classify ev2.pre.pfx ev2.line).empty = false) := by
  have hc := traceL_chain s items
  constructor
  · intro ev hev hw he
    have hv := hc.valid ev hev
    have hstep := hv.step
    rw [hw] at hstep
    exact Step_blank (empty_line_isBlank _ _ he) hstep
  · intro t1 ev1 ev2 t2 heq hw he
    have hv1 := hc.valid ev1 (by rw [heq]; simp)
    have hv2 := hc.valid ev2 (by rw [heq]; simp)
    have hadj : ev2.pre = ev1.post := Chain.adjacent (heq ▸ hc)
    obtain ⟨⟨e1, hs1⟩, _⟩ := hv1
    rw [hw] at hs1
    unfold scanBytes at hs1
    cases he2 : (classify ev2.pre.pfx ev2.line).empty with
    | false => rfl
    | true =>
      exfalso
      rw [hadj] at he2
      obtain ⟨s₂, e₂, hs2⟩ := no_two_blank _ _ _ _ _ (empty_line_isBlank _ _ he)
        (empty_line_isBlank _ _ he2) hs1
      obtain ⟨⟨e1', hs2'⟩, _, _, hlk⟩ := hv2
      unfold scanBytes at hs2'
      rw [hadj] at hs2'
      -- the second blank line is not consumed, so it would have to be forwarded from `looking`
      have hs2b := hs2
      rw [hs2'] at hs2b
      simp only [Except.ok.injEq, Prod.mk.injEq] at hs2b
      obtain ⟨hpost, hwf, _⟩ := hs2b
      have hl := hlk hwf
      rw [hpost] at hl
      have st2 := scan_step hs2
      rw [hl] at st2
      have st1 := Step_blank (empty_line_isBlank _ _ he) (scan_step hs1)
      have := (Step_fwd_looking st2).2
      rcases st1 with ⟨_, h'⟩ | ⟨_, h'⟩ | ⟨_, h'⟩ <;> rw [h'] at this <;> simp at this

/-! ### 5. Known finding K1: a lone race separator is lost -/

/-- The naive statement "if no dump is recognised, the output equals the input" is false: a
line of 18 `=` between ordinary lines is withheld (it is taken for the start of a race
report, and when the next line is not `WARNING: DATA RACE` the scanner silently goes back to
`looking` without giving it back), although no goroutine is found. -/
theorem K1_lone_separator_lost :
    let bs := b!"hello\n==================\nworld\n"
    let o := scanL {} [] [] (specLines bs .eof)
    o.fwd = b!"hello\nworld\n" ∧ o.consumed = [b!"==================\n"] ∧ o.s.gs = [] ∧
    o.s.st = .looking ∧ o.rest = [] ∧ o.broke = false ∧
    trace {} (specLines bs .eof) =
      [(false, b!"hello\n"), (true, b!"==================\n"), (false, b!"world\n")] := by
  decide +kernel

/-- at the level of `ScanSnapshot`: nil snapshot, nil suffix, and the output lacks the line -/
theorem K1_snapshot :
    let r := scanSnapshotL false b!"hello\n==================\nworld\n" .eof
    r.snap.isNone = true ∧ r.suffix = none ∧ r.unread = [] ∧ r.fwd = b!"hello\nworld\n" ∧
    r.fwd ≠ b!"hello\n==================\nworld\n" := by
  decide +kernel

/-! ### Non-vacuity -/

section NonVacuity

private def dump1 : Bytes :=
  b!"panic: x\n\ngoroutine 1 [running]:\nmain.main()\n\t/a/b.go:12 +0x1\n\n\ntrailer\n"

/-- a real dump: two lines forwarded, then header, function, file and ONE blank line withheld;
the second blank line ends the dump and is handed back with the rest -/
example : trace {} (specLines dump1 .eof) =
    [(false, b!"panic: x\n"), (false, b!"\n"), (true, b!"goroutine 1 [running]:\n"),
     (true, b!"main.main()\n"), (true, b!"\t/a/b.go:12 +0x1\n"), (true, b!"\n")] := by decide +kernel

example : itemsBytes (scanL {} [] [] (specLines dump1 .eof)).rest = b!"\ntrailer\n" := by decide +kernel
example : (scanL {} [] [] (specLines dump1 .eof)).broke = true := by decide +kernel
example : (scanL {} [] [] (specLines dump1 .eof)).s.gs.length = 1 := by decide +kernel

/-- `conservation_stream` on it -/
example : (trace {} (specLines dump1 .eof)).flatMap (·.2) ++
    itemsBytes (scanL {} [] [] (specLines dump1 .eof)).rest = dump1 :=
  (conservation_stream dump1 .eof).1

/-- the hypothesis of `trace_split` holds here and that of `trace_shape` holds in K1 -/
example : ∀ ev ∈ traceL {} (specLines dump1 .eof), ev.withheld = true → ev.post.st ≠ .gotRaceHeader1 := by
  decide +kernel

example : ∃ t1 ev t2, traceL {} (specLines b!"hello\n==================\nworld\n" .eof) = t1 ++ ev :: t2 ∧
    ev.withheld = true ∧ ∃ f ∈ t2, f.withheld = false := by
  refine ⟨[_], _, [_], rfl, rfl, _, List.mem_singleton.mpr rfl, rfl⟩

/-- the hypothesis of `no_dump_identity` is satisfiable -/
example : ∀ p ∈ specLines b!"hello\nworld" .eof,
    (classify [] p.1).header = none ∧ (classify [] p.1).sep = false := by decide

example : (scanL {} [] [] (specLines b!"hello\nworld" .eof)).fwd = b!"hello\nworld" :=
  (no_dump_identity _ _ (by decide)).1

/-- blank lines exist, and a state consuming one exists -/
example : (classify [] b!"\n").isBlank := empty_line_isBlank _ _ (by decide)
example : (classify b!"  " b!"  \r\n").isBlank := empty_line_isBlank _ _ (by decide)
example : scan { st := .gotFileCreated } (classify [] b!"\n") =
    .ok ({ st := .betweenRoutine }, true, none) := by rfl
example : scan { st := .betweenRoutine } (classify [] b!"\n") =
    .ok ({ st := .done }, false, none) := by rfl

/-- a panic inside `scan` (model state not reachable from `{}`): the line stays in `rest` -/
example : (scanL { st := .gotFunc } [] [] [(b!"x\n", none)]).panicked = some .nilCur ∧
    (scanL { st := .gotFunc } [] [] [(b!"x\n", none)]).rest = [(b!"x\n", none)] := by decide

end NonVacuity

end PP

#print axioms PP.trace_agrees
#print axioms PP.conservation
#print axioms PP.conservation_panic
#print axioms PP.conservation_stream
#print axioms PP.trace_events_valid
#print axioms PP.forwarded_only_while_looking
#print axioms PP.no_forward_after_dump_started
#print axioms PP.trace_shape
#print axioms PP.trace_split
#print axioms PP.no_dump_identity
#print axioms PP.no_dump_identity_snapshot
#print axioms PP.empty_line_isBlank
#print axioms PP.blank_consumed_states
#print axioms PP.no_two_blank
#print axioms PP.withheld_blank_only_after_goroutine
#print axioms PP.K1_lone_separator_lost
#print axioms PP.K1_snapshot
