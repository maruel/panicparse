import PP.Lemmas.AugmentLemmas
/-
C19  Source-based argument augmentation is truthful and harmless.

Model: `PP.Aug.augmentCall` (PP/Model/Augment.lean) — `augmentCall` of
stack/source.go given the result of `extractArgumentsType`.  Spec:
`PP.Spec.encode` / `showTV` (PP/Spec/Encode.lean).

In this file the type list and the ellipsis flag are inputs of `augmentCall`.
Where they come from is the subject of three more files:
* Props/C19c.lean: `extractArgumentsType` computes the type names from the
  declaration, and never the combination on which `augmentCall` fails;
* Props/C19d.lean: `getFuncAST`, which declaration a traceback line is
  attributed to;
* Props/C19b.lean: the glue around `augmentCall` (`Snapshot.augment`, the file
  cache, the line table) changes nothing but `Processed` and never crashes.

Trusted, not modelled: go/parser (which tree a source text yields),
`strconv.FormatFloat` (parameter `ff`), and that `encode` is what the Go runtime
prints under `-gcflags '-N -l'` within its print limits (≤ 10 words per call,
depth < 5) — the harness checks the last two end to end.

That the argument values are unchanged is true by construction at the level of
`augmentCall`: it returns only the strings appended to `Processed` and has no
way to return different `Values`.  The statement about whole goroutines is
`AugGlue.augment_values_unchanged` (Props/C19b.lean).
-/
namespace PP.Spec
open PP PP.Bytes PP.Aug

/-- **Truthfulness.**  For every list of typed values within the range of
their types, augmenting the words the runtime prints for them, with the type
names of the parameters, yields exactly the rendering of the VALUES: signed
or unsigned decimal, true/false, the float denoted by the bit pattern,
`string(0x…, len=n)`, `[]T(0x… len=l cap=c)`, `*T(0x…)`, `map[K]V(0x…)`,
`chan T(0x…)`, `func(0x…)`.  Holds whatever the ellipsis flag, the `Elided`
flag and the previous `Processed` are.  (`encode` is the runtime's output only
within its print limit `(vs.map TV.words).sum ≤ 10`; the statement does not
need the limit.)

The loop index counts types while `call.Args.Values[i]` is indexed by
top-level argument; here each typed value is one type and one top-level
argument (strings and slices are one aggregate), so both stay aligned, and
the `string` / `[]T` cases pop their 2 / 3 scalars from the flattened walk of
that aggregate. -/
theorem decode_encode (ff : FloatFmt) (vs : List TV) (h : ∀ tv ∈ vs, tv.InRange)
    (ellipsis : Bool) (args : Args) (hv : args.values = encode vs) :
    augmentCall ff (vs.map typeName) ellipsis args = .ok (vs.map (showTV ff)) := by
  unfold augmentCall
  rw [hv]
  exact augmentLoop_encode ff _ ellipsis vs h _ (by simp [encode]; omega) _

/-- reading a two's complement word back as `intN` gives the value -/
theorem twos_round_trip (sz : Sz) (v : Int)
    (h1 : -(2 ^ (sz.bits - 1) : Int) ≤ v) (h2 : v < (2 ^ (sz.bits - 1) : Int)) :
    toSigned sz.bits (twos sz.bits v) = v := toSigned_twos sz v h1 h2

/-- **Harmless on any mismatch (totality).**  For EVERY type list, ellipsis
flag and argument list, the loop terminates (the fuel of the model never runs
out) and the only failure is Go's `types[len(types)-1]` with an empty type
list and the ellipsis flag set — a combination `extractArgumentsType` cannot
produce (the flag comes from the last field, and every field contributes at
least one type: `flag_needs_type`, `augmentCall_total_decl` in
Props/C19c.lean). -/
theorem mismatch_harmless (ff : FloatFmt) (types : List Bytes) (ellipsis : Bool) (args : Args) :
    (∃ processed, augmentCall ff types ellipsis args = .ok processed) ∨
    (augmentCall ff types ellipsis args = .error .index ∧ types = [] ∧ ellipsis = true) := by
  have h := augmentCall_good ff types ellipsis args
  cases hr : augmentCall ff types ellipsis args with
  | ok r => exact .inl ⟨r, rfl⟩
  | error e =>
    rw [hr] at h
    cases e with
    | fuel => exact h.elim
    | index => exact .inr ⟨rfl, List.getLast?_eq_none_iff.mp h.1, h.2⟩

/-- with a type list that `extractArgumentsType` can produce, augmentation
always returns -/
theorem augmentCall_total (ff : FloatFmt) (types : List Bytes) (ellipsis : Bool) (args : Args)
    (h : types ≠ [] ∨ ellipsis = false) :
    ∃ processed, augmentCall ff types ellipsis args = .ok processed := by
  rcases mismatch_harmless ff types ellipsis args with hok | ⟨_, ht, he⟩
  · exact hok
  · rcases h with h | h
    · exact (h ht).elim
    · simp [he] at h

/-- `Processed` is never longer than the flattened scalars plus the top-level
arguments: every iteration consumes a scalar or is the aggregate case of a
top-level argument (which, for an empty aggregate `{}`, consumes nothing). -/
theorem processed_length_le (ff : FloatFmt) (types : List Bytes) (ellipsis : Bool) (args : Args)
    (processed : List Bytes) (h : augmentCall ff types ellipsis args = .ok processed) :
    processed.length ≤ (flatL args.values).length + args.values.length := by
  have hg := augmentCall_good ff types ellipsis args
  rw [h] at hg
  exact hg

/-- when no top-level argument is an empty aggregate `{}`, every `Processed`
entry consumes at least one scalar: `Processed` is no longer than the
flattened scalars. -/
theorem processed_length_le_scalars (ff : FloatFmt) (types : List Bytes) (ellipsis : Bool) (args : Args)
    (hne : ∀ a ∈ args.values, flat1 a ≠ [])
    (processed : List Bytes) (h : augmentCall ff types ellipsis args = .ok processed) :
    processed.length ≤ (flatL args.values).length :=
  augmentLoop_length_le_flat ff _ ellipsis _ types args.values _ hne processed h

/-- every helper moves the cursor over the flattened scalars forward by one
(`tail`), and one iteration leaves a suffix of what it was given: a scalar is
consumed at most once and never revisited. -/
theorem cursor_linear (ff : FloatFmt) (t : Bytes) (vals : List Arg) (flat : List Flat) :
    (pop flat).2 = flat.tail ∧ (popName flat).2 = flat.tail ∧ (∀ f, (popFmt f flat).2 = flat.tail) ∧
    ∃ k, (render ff t vals flat).2 = flat.drop k :=
  ⟨pop_tail _, popName_tail _, fun f => popFmt_tail f _, consumed t vals, render_snd ff t vals flat⟩

/-- **Quirk.**  For `uint8` (and `uint16`, `uint32`, `byte`) the code prints
`strconv.FormatUint(v, 10)` of the whole printed word, without truncating it
to the size of the type.  Harmless on real tracebacks because the runtime
prints the word masked to the size (`decode_encode`), but a constructed
`Arg{Value: 0x1ff}` typed `uint8` renders as 511. -/
theorem uint8_untruncated (ff : FloatFmt) (v : Nat) (vals : List Arg) (rest : List Flat) :
    render ff b!"uint8" vals (⟨[], v, false⟩ :: rest) = (natToDec v, rest) := rfl

section examples
variable (ff : FloatFmt)

/-- the words of the real traceback
`main.f(0xc0000606e0, 0xfffffffffffffff9, 0xc000118070, 0xfd, 0x47fe00, 0x63, 0xff, 0x78, {0x479586, 0x5}, ...)` -/
example : encode mixedPrinted =
    [word 0xc0000606e0, word 0xfffffffffffffff9, word 0xc000118070, word 0xfd, word 0x47fe00, word 0x63,
     word 0xff, word 0x78, .agg [word 0x479586, word 5] false] := by rfl

example : augmentCall ff mixedTypes false { values := encode mixedPrinted, elided := true } =
    .ok [b!"map[int]int(0xc0000606e0)", b!"-7", b!"chan int(0xc000118070)", b!"-3", b!"func(0x47fe00)", b!"99",
         b!"255", b!"120", b!"string(0x479586, len=5)"] := by rfl

example : ∀ tv ∈ mixedPrinted, tv.InRange := by decide

/-- all kinds at once through the theorem, floats included -/
example : augmentCall ff (allKinds.map typeName) false { values := encode allKinds } =
    .ok (allKinds.map (showTV ff)) :=
  decode_encode ff allKinds (by decide) false _ rfl

example : (allKinds.map (showTV ff)).take 7 =
    [b!"true", b!"false", b!"-128", b!"-300", b!"-5", b!"-9223372036854775808", b!"200"] := by rfl

example : showTV ff (.slice b!"int" 0xc0000606b8 3 3) = b!"[]int(0xc0000606b8 len=3 cap=3)" := by rfl

/-- masked words read back signed -/
example : render ff b!"int8" [] [⟨[], 0xfd, false⟩] = (b!"-3", []) := by rfl
example : render ff b!"int32" [] [⟨[], 0xfffffffb, false⟩] = (b!"-5", []) := by rfl
/-- the quirk is visible on a constructed value -/
example : render ff b!"uint8" [] [⟨[], 0x1ff, false⟩] = (b!"511", []) := by rfl

/-- mismatches: more arguments than types, fewer arguments than types,
exhausted scalars, too-large offsets, named pointers -/
example : augmentCall ff [b!"int"] false { values := [word 1, word 2, word 3] } =
    .ok [b!"1", b!"0x2", b!"0x3"] := by rfl
example : augmentCall ff [b!"int"] true { values := [word 1, word 2, word 3] } =
    .ok [b!"1", b!"2", b!"3"] := by rfl
example : augmentCall ff [b!"string", b!"int"] false { values := [word 1] } =
    .ok [b!"string(0x1, len=<nil>)"] := by rfl
example : augmentCall ff [b!"int", b!"*T"] false
    { values := [.scalar [] 0 false true false, .scalar b!"#1" 0xc000010000 true false false] } =
    .ok [b!"_", b!"*T(#1)"] := by rfl
/-- interface / struct: the aggregate at the same top-level index, or one
extra word -/
example : augmentCall ff [b!"error", b!"T"] false
    { values := [.agg [word 1, word 2] false, .agg [word 3, .agg [word 4] true] true] } =
    .ok [b!"error{0x1, 0x2}", b!"T{0x3, 0x4, ...}"] := by rfl
example : augmentCall ff [b!"error", b!"int"] false { values := [word 1, word 2, word 3] } =
    .ok [b!"error(0x1)", b!"3"] := by rfl
/-- the length bound of `processed_length_le` is reached: an empty aggregate
yields an entry without consuming a scalar -/
example : augmentCall ff [b!"T"] false { values := [.agg [] false, word 1] } =
    .ok [b!"T{}", b!"0x1"] := by rfl
/-- the only failure -/
example : augmentCall ff [] true { values := [word 1] } = .error .index := by rfl

end examples

end PP.Spec

#print axioms PP.Spec.decode_encode
#print axioms PP.Spec.twos_round_trip
#print axioms PP.Spec.mismatch_harmless
#print axioms PP.Spec.augmentCall_total
#print axioms PP.Spec.processed_length_le
#print axioms PP.Spec.processed_length_le_scalars
#print axioms PP.Spec.cursor_linear
#print axioms PP.Spec.uint8_untruncated
