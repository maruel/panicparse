import PP.Lemmas.LoopLemmas
/-
C09 (second half) — the outcome of `ScanSnapshot` depends only on the byte content of the
stream and on its terminal error, not on how the bytes are delivered: the byte-level loop
through the reader model (`scanB` / `scanSnapshot`, any capacity `N > 0`, any retry bound, any
schedule whose runs of zero-length reads stay below the retry bound, error with or after the
last data) computes what the line-level loop (`scanL` / `scanSnapshotL`) computes on the
canonical line split `specLines` of the content.

`RefinesL` (lemma file):
  o.s = ol.s ∧ o.fwd = ol.fwd ∧ o.consumed = ol.consumed ∧ o.err = ol.err ∧
  o.panicked = ol.panicked.isSome ∧ o.suffix.isSome = ol.broke ∧
  (o.suffix.isSome → o.rd.buf = []) ∧
  (o.panicked = false → o.suffix.getD [] ++ (o.rd.buf ++ o.rd.src.rest) = itemsBytes ol.rest)
-/
namespace PP

/-- loop level, from any scanner state and any reader state satisfying the reader invariant -/
theorem scanB_eq_L (N retry : Nat) (hN : 0 < N) (fuel : Nat) (s : S) (fwd : Bytes)
    (cons : List Bytes) (rd : Rd) (o : OutB) (hG : Good N rd)
    (hR : maxZeroRun rd.src.sched < retry)
    (h : scanB N retry fuel s fwd cons rd = some o) :
    RefinesL o (scanL s fwd cons (specLines (rd.buf ++ rd.src.rest) rd.src.final)) := by
  induction fuel generalizing s fwd cons rd with
  | zero => simp [scanB] at h
  | succ fuel ih =>
    rw [scanB] at h
    by_cases hd : (s.st == .done) = true
    · rw [if_pos hd] at h
      simp only [Option.some.injEq] at h
      subst h
      rw [scanL_done _ _ _ _ hd]
      simp [RefinesL, itemsBytes_specLines]
    · rw [if_neg hd] at h
      obtain ⟨d, e, rd', hrl⟩ := readLine_total N retry rd hN hG.1
      rw [hrl] at h
      obtain ⟨g1, g2, g3, items, hsp, hib, hnone⟩ := readLine_item N retry rd d e rd' hG hR hrl
      rw [hsp, scanL_cons, if_neg hd]
      dsimp only at h
      by_cases hlen : (d.length != 0) = true
      · rw [if_pos hlen] at h
        rw [if_pos hlen]
        cases hsc : scanBytes s d with
        | error p =>
          rw [hsc] at h
          simp only [Option.some.injEq] at h
          subst h
          simp [RefinesL]
        | ok v =>
          obtain ⟨s', l, e1⟩ := v
          rw [hsc] at h
          dsimp only at h ⊢
          by_cases hl : (!l) = true
          · rw [if_pos hl] at h
            rw [if_pos hl]
            by_cases hlk : (s'.st != .looking) = true
            · rw [if_pos hlk] at h
              rw [if_pos hlk]
              simp only [Option.some.injEq] at h
              subst h
              simp [RefinesL, hib]
            · rw [if_neg hlk] at h
              rw [if_neg hlk]
              by_cases herr : (combineErr e e1).isSome = true
              · rw [if_pos herr] at h
                rw [if_pos herr]
                simp only [Option.some.injEq] at h
                subst h
                simp [RefinesL, hib]
              · rw [if_neg herr] at h
                rw [if_neg herr]
                obtain ⟨hi, _⟩ := hnone (reader_none_of_not_isSome herr)
                rw [hi]
                exact ih _ _ _ _ g1 g3 h
          · rw [if_neg hl] at h
            rw [if_neg hl]
            by_cases herr : (combineErr e e1).isSome = true
            · rw [if_pos herr] at h
              rw [if_pos herr]
              simp only [Option.some.injEq] at h
              subst h
              simp [RefinesL, hib]
            · rw [if_neg herr] at h
              rw [if_neg herr]
              obtain ⟨hi, _⟩ := hnone (reader_none_of_not_isSome herr)
              rw [hi]
              exact ih _ _ _ _ g1 g3 h
      · rw [if_neg hlen] at h
        rw [if_neg hlen]
        cases e with
        | some r =>
          simp only [Option.some.injEq] at h
          subst h
          simp [RefinesL, hib]
        | none =>
          dsimp only at h ⊢
          obtain ⟨hi, _⟩ := hnone rfl
          rw [hi]
          exact ih _ _ _ _ g1 g3 h

/-- the fuel built into `scanSnapshot` suffices -/
theorem scanSnapshot_total (N retry : Nat) (hN : 0 < N) (names : Bool) (src : Src)
    (hR : maxZeroRun src.sched < retry) : (scanSnapshot N retry names src).isSome = true := by
  have h := scanB_isSome N retry hN (src.rest.length + 2) {} [] [] { src := src }
    ⟨by simp, Or.inl rfl⟩ hR (by simp)
  unfold scanSnapshot
  cases hb : scanB N retry (src.rest.length + 2) {} [] [] { src := src } with
  | none => rw [hb] at h; simp at h
  | some o => rfl

/-- `ScanSnapshot` through the reader = `ScanSnapshot` on the canonical line split.
The remaining bytes (`suffix ++ unread`) are compared only when no panic occurred: on a panic
in `scan` the Go program has no result at all, and the two models differ in whether the
offending line still counts as unread. -/
theorem scanSnapshot_eq_L (N retry : Nat) (hN : 0 < N) (names : Bool) (src : Src)
    (hR : maxZeroRun src.sched < retry)
    (r : ScanResult) (h : scanSnapshot N retry names src = some r) :
    let rl := scanSnapshotL names src.rest src.final
    r.snap = rl.snap ∧ r.fwd = rl.fwd ∧ r.err = rl.err ∧ r.consumed = rl.consumed ∧
    r.state = rl.state ∧ r.panicked = rl.panicked ∧ r.suffix.isSome = rl.suffix.isSome ∧
    (r.panicked = false →
      r.suffix.getD [] ++ r.unread = rl.suffix.getD [] ++ rl.unread) := by
  unfold scanSnapshot at h
  cases hb : scanB N retry (src.rest.length + 2) {} [] [] { src := src } with
  | none => rw [hb] at h; simp at h
  | some o =>
    rw [hb] at h
    have href := scanB_eq_L N retry hN _ _ _ _ _ o ⟨by simp, Or.inl rfl⟩ hR hb
    simp only [List.nil_append] at href
    obtain ⟨h1, h2, h3, h4, h5, h6, h7, h8⟩ := href
    simp only [Option.some.injEq] at h
    subst h
    simp only [scanSnapshotL]
    refine ⟨by rw [h1], h2, h4, h3, by rw [h1], h5, ?_, ?_⟩
    · simp only [finishSuffix]
      rw [← h1, ← h6]
      cases hsf : o.suffix <;> cases hdn : (o.s.st == .done) <;> simp
    · intro hp
      have h8' := h8 hp
      simp only [finishSuffix]
      rw [← h1, ← h6, ← h8']
      cases hsf : o.suffix with
      | none => cases hdn : (o.s.st == .done) <;> simp
      | some x =>
        have := h7 (by simp [hsf])
        simp [this]

/-- delivery independence: two sources with the same content and terminal error give results
that agree on every field, whatever the capacities, retry bounds, schedules and the way the
error is reported. -/
theorem scan_delivery_indep (N₁ N₂ retry₁ retry₂ : Nat) (hN₁ : 0 < N₁) (hN₂ : 0 < N₂)
    (names : Bool) (s₁ s₂ : Src) (hrest : s₁.rest = s₂.rest) (hfinal : s₁.final = s₂.final)
    (hR₁ : maxZeroRun s₁.sched < retry₁) (hR₂ : maxZeroRun s₂.sched < retry₂) :
    ∃ r₁ r₂, scanSnapshot N₁ retry₁ names s₁ = some r₁ ∧ scanSnapshot N₂ retry₂ names s₂ = some r₂ ∧
      r₁.snap = r₂.snap ∧ r₁.fwd = r₂.fwd ∧ r₁.err = r₂.err ∧ r₁.consumed = r₂.consumed ∧
      r₁.state = r₂.state ∧ r₁.panicked = r₂.panicked ∧ r₁.suffix.isSome = r₂.suffix.isSome ∧
      (r₁.panicked = false →
        r₁.suffix.getD [] ++ r₁.unread = r₂.suffix.getD [] ++ r₂.unread) := by
  have t1 := scanSnapshot_total N₁ retry₁ hN₁ names s₁ hR₁
  have t2 := scanSnapshot_total N₂ retry₂ hN₂ names s₂ hR₂
  cases h1 : scanSnapshot N₁ retry₁ names s₁ with
  | none => rw [h1] at t1; simp at t1
  | some r₁ =>
    cases h2 : scanSnapshot N₂ retry₂ names s₂ with
    | none => rw [h2] at t2; simp at t2
    | some r₂ =>
      obtain ⟨a1, a2, a3, a4, a5, a6, a7, a8⟩ := scanSnapshot_eq_L N₁ retry₁ hN₁ names s₁ hR₁ r₁ h1
      obtain ⟨b1, b2, b3, b4, b5, b6, b7, b8⟩ := scanSnapshot_eq_L N₂ retry₂ hN₂ names s₂ hR₂ r₂ h2
      rw [hrest, hfinal] at a1 a2 a3 a4 a5 a6 a7 a8
      refine ⟨r₁, r₂, rfl, rfl, by rw [a1, b1], by rw [a2, b2], by rw [a3, b3], by rw [a4, b4],
        by rw [a5, b5], by rw [a6, b6], by rw [a7, b7], fun hp => ?_⟩
      rw [a8 hp, b8 (by rw [b6, ← a6]; exact hp)]

/-! ### Non-vacuity -/

section NonVacuity

private def dump1 : Bytes :=
  b!"panic: x\n\ngoroutine 1 [running]:\nmain.main()\n\t/a/b.go:12 +0x1\n\n\ntrailer\n"

/-- zero-length reads, small reads, error together with the last data, lines longer than the
4-byte buffer -/
private def srcA : Src :=
  { rest := dump1, sched := [1, 0, 0, 2, 100, 3], final := .eof, withData := true }
/-- one big read per `fill`, separate EOF, 64-byte buffer -/
private def srcB : Src := { rest := dump1, sched := [], final := .eof }

example : maxZeroRun srcA.sched < 100 ∧ maxZeroRun srcB.sched < 3 := by decide

/-- the two deliveries split the remaining bytes differently between `suffix` and the unread
part of the source, which is why the theorem compares `suffix ++ unread` -/
example : (scanSnapshot 4 100 false srcA).map
      (fun r => (r.fwd, r.suffix, r.unread, r.state, r.panicked)) =
    some (b!"panic: x\n\n", some b!"\nt", b!"railer\n", .done, false) := by decide +kernel
example : (scanSnapshot 64 3 false srcB).map
      (fun r => (r.fwd, r.suffix, r.unread, r.state, r.panicked)) =
    some (b!"panic: x\n\n", some b!"\n", b!"trailer\n", .done, false) := by decide +kernel
example : (fun r : ScanResult => (r.fwd, r.suffix, r.unread, r.state, r.panicked))
      (scanSnapshotL false dump1 .eof) =
    (b!"panic: x\n\n", some b!"\ntrailer\n", [], .done, false) := by decide +kernel

/-- the theorems apply to these sources -/
example : ∃ r₁ r₂, scanSnapshot 4 100 false srcA = some r₁ ∧ scanSnapshot 64 3 false srcB = some r₂ ∧
    r₁.snap = r₂.snap ∧ r₁.fwd = r₂.fwd ∧ r₁.err = r₂.err ∧ r₁.consumed = r₂.consumed ∧
    r₁.state = r₂.state ∧ r₁.panicked = r₂.panicked ∧ r₁.suffix.isSome = r₂.suffix.isSome ∧
    (r₁.panicked = false → r₁.suffix.getD [] ++ r₁.unread = r₂.suffix.getD [] ++ r₂.unread) :=
  scan_delivery_indep 4 64 100 3 (by decide) (by decide) false srcA srcB rfl rfl
    (by decide) (by decide)

/-- the hypothesis on zero-length reads is needed: with retry bound 2 the reader gives up with
`io.ErrNoProgress` inside the first line, and the outcome differs from the line-level one -/
example : (scanSnapshot 4 2 false { srcA with sched := [1, 0, 0, 2] }).map (fun r => (r.fwd, r.err)) =
    some (b!"p", some (.reader .noProgress)) := by decide

/-- why the remaining bytes are compared only without panic: when `scan` panics (here from a
state that is not reachable from the initial one) the reader has already consumed the line,
while the line-level loop still lists it in `rest` -/
example : (scanB 4 3 5 { st := .gotFunc } [] [] { src := { rest := b!"x\ny", sched := [] } }).map
      (fun o => (o.panicked, o.suffix, o.rd.buf ++ o.rd.src.rest)) = some (true, none, b!"y") ∧
    itemsBytes (scanL { st := .gotFunc } [] [] (specLines b!"x\ny" .eof)).rest = b!"x\ny" := by
  decide

end NonVacuity

end PP

#print axioms PP.scanB_eq_L
#print axioms PP.scanSnapshot_total
#print axioms PP.scanSnapshot_eq_L
#print axioms PP.scan_delivery_indep
