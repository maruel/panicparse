import PP.Lemmas.CliLemmas
import PP.Lemmas.ScanUnnamed
import PP.Props.C02
import PP.Props.C03
import PP.Props.C07
import PP.Props.C09b
import PP.Props.C15
/-
CLI — the `pp` command's `process()` end to end (model `PP/Model/Cli.lean`): the command-level
halves of C03 (the loop of repeated scanning terminates, nothing panics), C02 (the output is the
input with each dump replaced by one rendering, everything else verbatim and in order), the exit
status, C15 (the `NameArguments` gate) and the option gate of `ScanSnapshot`.

What the statements speak of is defined, each with its description, in `PP/Lemmas/CliLemmas.lean`
(`Call`, `piece`, `renderBytes`, `fwdLines`, `withheldLines`, `processedBytes`),
`PP/Lemmas/Delimit.lean` (`scanAll`, `resultOf`: C07) and `PP/Lemmas/ScanUnnamed.lean`
(`Goroutine.Unnamed`).
-/
namespace PP.Cli
open PP PP.Console

/-! ### 1. C03: the command's loop terminates, and nothing panics -/

/-- For every input, configuration, terminal error and every fuel `≥ input.length + 2`, the loop
of `process` returns: exit 0, or an error that is not EOF.  It never runs out of fuel (no input
makes the command scan forever: every call strictly shortens what is left, `resume_progress`)
and never panics (neither `scan` nor `IsRace`'s `Goroutines[0]`). -/
theorem process_terminates (cfg : CliCfg) (fin : RErr) (input out : Bytes) (n : Nat)
    (hn : input.length + 2 ≤ n) :
    (∃ o, processL cfg fin n input out = (o, .ok)) ∨
    (∃ o e, processL cfg fin n input out = (o, .failed e) ∧ e ≠ .reader .eof) := by
  obtain ⟨cs, c, e, _, _, _, _, hrun, _⟩ := process_run cfg fin input out n hn
  rw [hrun]
  by_cases he : e = .reader .eof
  · exact Or.inl ⟨_, by rw [statusOf_eq_ok.2 he]⟩
  · exact Or.inr ⟨_, e, by rw [statusOf_eq_failed.2 ⟨rfl, he⟩], he⟩

/-- the fuel is a model artefact: every fuel `≥ input.length + 2` gives the same output and status -/
theorem process_fuel_irrelevant (cfg : CliCfg) (fin : RErr) (input out : Bytes) (n : Nat)
    (hn : input.length + 2 ≤ n) :
    processL cfg fin n input out = processL cfg fin (processFuel input) input out := by
  obtain ⟨cs, c, e, h1, he, _⟩ := process_run cfg fin input out (input.length + 2) (Nat.le_refl _)
  have hst := scanAll_stable (input.length + 2) (n - (input.length + 2)) _ cs c h1 (by rw [he]; rfl)
  rw [show input.length + 2 + (n - (input.length + 2)) = n by omega] at hst
  rw [processFuel, processL_trace, processL_trace, hst, h1]

/-- the command itself (`process` passes the fuel `processFuel input = input.length + 2`) -/
theorem process_total (cfg : CliCfg) (goroot : Bytes) (gopaths : List Bytes) (fin : RErr) (input : Bytes) :
    (process cfg goroot gopaths fin input).2 ≠ .outOfFuel ∧
    (process cfg goroot gopaths fin input).2 ≠ .panicked := by
  unfold process
  split
  · rcases process_terminates cfg fin input [] (processFuel input) (Nat.le_refl _) with ⟨o, h⟩ | ⟨o, e, h, _⟩ <;>
      rw [h] <;> simp
  · simp

/-- the rendering of what `ScanSnapshot` returns never hits `Goroutines[0]` on an empty slice:
a non-nil snapshot has at least one goroutine -/
theorem render_no_panic (cfg : CliCfg) (names : Bool) (bs : Bytes) (fin : RErr) :
    ∃ b, renderOpt cfg (scanSnapshotL names bs fin).snap = .ok b :=
  ⟨_, renderOpt_resultOf cfg names _⟩

/-- `IsRace` on an empty goroutine list is the panic value: `render_no_panic` rests on a non-nil
snapshot never being empty -/
theorem isRace_nil : isRace [] = .error .goroutines0 := rfl

/-! ### 2. The shape of a run; C02 end to end -/

/-- **The run.**  With the fuel of `process`, the `ScanSnapshot` calls are `cs ++ [c]`; only the
last one reports an error `e`.  The output is, call by call, the forwarded text followed by the
rendering of the snapshot, then the `suffix` of the last call; the status is that of `e`.  The
input is, call by call, the processed lines (forwarded and withheld, in order), then what the
last call did not process — of which `suffix` is written and `unread` is lost. -/
theorem process_trace (cfg : CliCfg) (fin : RErr) (input : Bytes) :
    ∃ (cs : List Call) (c : Call) (e : LErr),
      scanAll (processFuel input) (specLines input fin) = cs ++ [c] ∧
      c.2.err = some e ∧ (∀ x ∈ cs, x.2.err = none) ∧
      (∀ x ∈ cs ++ [c], x.2 = scanL {} [] [] x.1 ∧ x.2.fwd = fwdLines x ∧ x.2.consumed = withheldLines x) ∧
      processL cfg fin (processFuel input) input [] =
        ((cs ++ [c]).flatMap (fun x => fwdLines x ++ renderBytes cfg (resultOf true x.2).snap) ++
            (resultOf true c.2).suffix.getD [],
         statusOf e) ∧
      input = (cs ++ [c]).flatMap processedBytes ++
        ((resultOf true c.2).suffix.getD [] ++ (resultOf true c.2).unread) := by
  obtain ⟨cs, c, e, h1, he, hcs, hchain, hrun, htiles, hsuf, hun⟩ :=
    process_run cfg fin input [] (processFuel input) (Nat.le_refl _)
  refine ⟨cs, c, e, h1, he, hcs, ?_, ?_, ?_⟩
  · intro x hx
    exact ⟨hchain x hx, call_fwd x (hchain x hx), call_consumed x (hchain x hx)⟩
  · rw [hrun, List.nil_append, flatMap_piece cfg _ hchain]
  · rw [hun, List.append_nil, hsuf]; exact htiles.symm

/-- **C02, end to end**, for every run (whatever the exit status), at line level.  There is one
`tail` such that
  `input  = processed₁ ++ processed₂ ++ … ++ tail` and
  `output = (forwarded₁ ++ render₁) ++ (forwarded₂ ++ render₂) ++ … ++ tail`
over the same calls: `forwardedᵢ` are the forwarded lines of call `i` verbatim and in order (a
sub-list of its processed lines), `renderᵢ` is the rendering of the goroutines scanned from
exactly its withheld lines (`[]` when the call found none), and `tail` is what the last call
handed back.  At line level nothing is lost even when the last call reports a parse error
(`suffix` is the whole remainder: the delivery in which everything was buffered); for what the
real reader does see `last_call_any_delivery`. -/
theorem process_conservation_any (cfg : CliCfg) (fin : RErr) (input : Bytes) :
    ∃ (calls : List Call) (tail : Bytes),
      calls = scanAll (processFuel input) (specLines input fin) ∧
      input = calls.flatMap processedBytes ++ tail ∧
      (processL cfg fin (processFuel input) input []).1 =
        calls.flatMap (fun c => fwdLines c ++ renderBytes cfg (resultOf true c.2).snap) ++ tail ∧
      (∀ c ∈ calls, c.2 = scanL {} [] [] c.1 ∧ c.2.consumed = withheldLines c ∧
        (resultOf true c.2).snap =
          (if c.2.s.gs.isEmpty then none else some (nameArguments c.2.s.gs)) ∧
        ((trace {} c.1).filter (fun p => !p.1)).Sublist (trace {} c.1)) := by
  obtain ⟨cs, c, e, h1, _, _, hchain, hrun, htiles, hsuf, _⟩ :=
    process_run cfg fin input [] (processFuel input) (Nat.le_refl _)
  refine ⟨cs ++ [c], (resultOf true c.2).suffix.getD [], h1.symm, ?_, ?_, ?_⟩
  · rw [hsuf]; exact htiles.symm
  · rw [hrun, List.nil_append, flatMap_piece cfg _ hchain]
  · intro x hx
    exact ⟨hchain x hx, call_consumed x (hchain x hx), rfl, List.filter_sublist⟩

/-- **C02, end to end, exit 0** (the statement for the real command: EOF means the whole input
was read, so the line-level `tail` is exactly what the command writes last, under every
delivery). -/
theorem process_conservation (cfg : CliCfg) (fin : RErr) (input : Bytes)
    (_hok : (processL cfg fin (processFuel input) input []).2 = .ok) :
    ∃ (calls : List Call) (tail : Bytes),
      calls = scanAll (processFuel input) (specLines input fin) ∧
      input = calls.flatMap processedBytes ++ tail ∧
      (processL cfg fin (processFuel input) input []).1 =
        calls.flatMap (fun c => fwdLines c ++ renderBytes cfg (resultOf true c.2).snap) ++ tail ∧
      (∀ c ∈ calls, c.2 = scanL {} [] [] c.1 ∧ c.2.consumed = withheldLines c ∧
        (resultOf true c.2).snap =
          (if c.2.s.gs.isEmpty then none else some (nameArguments c.2.s.gs)) ∧
        ((trace {} c.1).filter (fun p => !p.1)).Sublist (trace {} c.1)) :=
  process_conservation_any cfg fin input

/-- Within one call the forwarded lines come first and the withheld lines form one block after
them — so `renderᵢ` stands exactly where the withheld block was — unless the call consumed a
lone race separator (known finding K1, `trace_shape` in C02). -/
theorem call_forwarded_then_withheld (items : List (Bytes × Option RErr))
    (h : ∀ ev ∈ traceL {} items, ev.withheld = true → ev.post.st ≠ .gotRaceHeader1) :
    processedBytes (items, scanL {} [] [] items) =
      fwdLines (items, scanL {} [] [] items) ++ (withheldLines (items, scanL {} [] [] items)).flatten := by
  obtain ⟨F, W, hFW, hF, hW⟩ := trace_split {} items h
  simp only [processedBytes, fwdLines, withheldLines, trace]
  rw [← bytesOf_eq, ← fwdOf_eq, ← consOf_eq, hFW]
  have e1 : F.filter (fun ev => !ev.withheld) = F :=
    List.filter_eq_self.2 fun ev hev => by rw [hF ev hev]; rfl
  have e2 : W.filter (fun ev => !ev.withheld) = [] :=
    List.filter_eq_nil_iff.2 fun ev hev => by rw [hW ev hev]; decide
  have e3 : F.filter (·.withheld) = [] :=
    List.filter_eq_nil_iff.2 fun ev hev => by rw [hF ev hev]; decide
  have e4 : W.filter (·.withheld) = W := List.filter_eq_self.2 hW
  simp only [bytesOf, fwdOf, consOf, List.filter_append, e1, e2, e3, e4, List.append_nil,
    List.nil_append, List.flatMap_def, List.map_append, List.flatten_append]

/-- Corollary: if no line of the input is a goroutine header or a race separator (the
hypothesis of `no_dump_identity`, C02), everything is written and the status is that of the
terminal error of the stream. -/
theorem process_identity_without_dump_fin (cfg : CliCfg) (fin : RErr) (input : Bytes)
    (h : ∀ p ∈ specLines input fin, (classify [] p.1).header = none ∧ (classify [] p.1).sep = false) :
    processL cfg fin (processFuel input) input [] = (input, statusOf (.reader fin)) := by
  obtain ⟨h1, h2, h3, _, _, h6, _, h8⟩ := no_dump_identity_snapshot true input fin h
  simp only [processFuel, processL, h1, h2, h3, h6, h8, renderOpt]
  simp

/-- at EOF: the output is the input and the command exits 0 -/
theorem process_identity_without_dump (cfg : CliCfg) (input : Bytes)
    (h : ∀ p ∈ specLines input .eof, (classify [] p.1).header = none ∧ (classify [] p.1).sep = false) :
    processL cfg .eof (processFuel input) input [] = (input, .ok) :=
  process_identity_without_dump_fin cfg .eof input h

/-! ### 3. Exit status; what a failing run writes and loses -/

/-- The status is decided by the error `e` of the last call alone: exit 0 iff `e` is EOF,
otherwise `e` itself is returned (a parse error, or the reader's failure).  The last thing
written is that call's `suffix`, and at line level that is everything the last call did not
process (`unread = []`): the loop of `ScanSnapshot` stops with an error only through
`suffix = …; break`, or on the last item of the stream.  So a failing run loses nothing that the
reader had buffered; `last_call_any_delivery` below says what a real delivery changes: `suffix`
is then the offending line plus what the reader had read ahead (a prefix of the line-level
`suffix`), and only the input not yet read is lost. -/
theorem process_exit_status (cfg : CliCfg) (fin : RErr) (input : Bytes) :
    ∃ (cs : List Call) (c : Call) (e : LErr),
      scanAll (processFuel input) (specLines input fin) = cs ++ [c] ∧ c.2.err = some e ∧
      (∀ x ∈ cs, x.2.err = none) ∧
      (processL cfg fin (processFuel input) input []).2 = statusOf e ∧
      ((processL cfg fin (processFuel input) input []).2 = .ok ↔ e = .reader .eof) ∧
      (∀ e', (processL cfg fin (processFuel input) input []).2 = .failed e' ↔ (e' = e ∧ e ≠ .reader .eof)) ∧
      (processL cfg fin (processFuel input) input []).1 =
        (cs ++ [c]).flatMap (piece cfg) ++ (resultOf true c.2).suffix.getD [] ∧
      (resultOf true c.2).suffix.getD [] = itemsBytes c.2.rest ∧
      (resultOf true c.2).unread = [] := by
  obtain ⟨cs, c, e, h1, he, hcs, _, hrun, _, hsuf, hun⟩ :=
    process_run cfg fin input [] (processFuel input) (Nat.le_refl _)
  exact ⟨cs, c, e, h1, he, hcs, by rw [hrun], by rw [hrun]; exact statusOf_eq_ok,
    fun e' => by rw [hrun]; exact statusOf_eq_failed, by rw [hrun]; simp, hsuf, hun⟩

/-- Byte level, any delivery (C09b): whatever the buffer size, the read schedule and the way the
terminal error is reported, a `ScanSnapshot` call through the reader returns the same snapshot,
forwarded bytes and error as the line-level call, and `suffix ++ unread` is the same byte string:
the `suffix` the command writes on an error is a prefix of what remains, the lost part is the
`unread` input. -/
theorem last_call_any_delivery (N retry : Nat) (hN : 0 < N) (src : Src)
    (hR : maxZeroRun src.sched < retry) (r : ScanResult)
    (h : scanSnapshot N retry true src = some r) :
    r.snap = (scanSnapshotL true src.rest src.final).snap ∧
    r.fwd = (scanSnapshotL true src.rest src.final).fwd ∧
    r.err = (scanSnapshotL true src.rest src.final).err ∧
    r.suffix.isSome = (scanSnapshotL true src.rest src.final).suffix.isSome ∧
    r.suffix.getD [] ++ r.unread =
      (scanSnapshotL true src.rest src.final).suffix.getD [] ++ (scanSnapshotL true src.rest src.final).unread := by
  obtain ⟨a1, a2, a3, _, _, _, a7, a8⟩ := scanSnapshot_eq_L N retry hN true src hR r h
  exact ⟨a1, a2, a3, a7, a8 (scanSnapshot_no_panic N retry true src r h)⟩

/-! ### 4. C15: the `NameArguments` gate -/

/-- the scanner never sets a name: one step keeps every goroutine unnamed -/
theorem scan_step_unnamed (s : S) (raw : Bytes) (s' : S) (p : Bool) (e : Option Err)
    (hs : ∀ g ∈ s.gs, g.Unnamed) (h : scanBytes s raw = .ok (s', p, e)) : ∀ g ∈ s'.gs, g.Unnamed :=
  scanBytes_allU s raw s' p e hs h

/-- `parseArgs` produces scalars with `name = []` only -/
theorem parseArgs_unnamed' (line : Bytes) (a : Args) (h : parseArgs line = .ok a) :
    Arg.unnamedL a.values = true :=
  parseArgs_unnamed line a h

/-- every scanner state reachable from the initial one holds unnamed goroutines only -/
theorem scanner_never_names (items : List (Bytes × Option RErr)) :
    ∀ g ∈ (scanL {} [] [] items).s.gs, g.Unnamed :=
  scanL_preserves (fun s => AllU s.gs) (fun s raw s' p e hs h => scanBytes_allU s raw s' p e hs h)
    {} [] [] items (by intro g hg; simp at hg)

/-- an unnamed goroutine is a fixed point of `eraseNames` -/
theorem eraseNames_of_unnamed (g : Goroutine) (h : g.Unnamed) : Goroutine.eraseNames g = g :=
  Goroutine.eraseNames_unnamed g h

/-- **The gate.**  With `NameArguments` off no argument of any returned goroutine carries a
name.  Switching it on only adds the `nameArguments` pass to the snapshot — every other field of
the result is the same — and that pass changes nothing but names (`nameArguments_only_names_change`,
C15): erasing the names of the named snapshot gives back the unnamed one. -/
theorem names_gate (bs : Bytes) (fin : RErr) :
    (∀ gs, (scanSnapshotL false bs fin).snap = some gs → ∀ g ∈ gs, g.Unnamed) ∧
    (scanSnapshotL true bs fin).snap = (scanSnapshotL false bs fin).snap.map nameArguments ∧
    (scanSnapshotL true bs fin).fwd = (scanSnapshotL false bs fin).fwd ∧
    (scanSnapshotL true bs fin).suffix = (scanSnapshotL false bs fin).suffix ∧
    (scanSnapshotL true bs fin).unread = (scanSnapshotL false bs fin).unread ∧
    (scanSnapshotL true bs fin).err = (scanSnapshotL false bs fin).err ∧
    (scanSnapshotL true bs fin).consumed = (scanSnapshotL false bs fin).consumed ∧
    (scanSnapshotL true bs fin).state = (scanSnapshotL false bs fin).state ∧
    (scanSnapshotL true bs fin).panicked = (scanSnapshotL false bs fin).panicked ∧
    (∀ gs gs', (scanSnapshotL false bs fin).snap = some gs → (scanSnapshotL true bs fin).snap = some gs' →
      gs'.length = gs.length ∧ gs'.map Goroutine.eraseNames = gs) := by
  have hsnap : (scanSnapshotL true bs fin).snap = (scanSnapshotL false bs fin).snap.map nameArguments := by
    simp only [scanSnapshotL]
    split <;> simp
  have hun : ∀ gs, (scanSnapshotL false bs fin).snap = some gs → ∀ g ∈ gs, g.Unnamed := by
    intro gs h
    simp only [scanSnapshotL] at h
    split at h
    · cases h
    · simp only [Bool.false_eq_true, if_false, Option.some.injEq] at h
      subst h
      exact scanner_never_names _
  refine ⟨hun, hsnap, rfl, rfl, rfl, rfl, rfl, rfl, rfl, ?_⟩
  intro gs gs' h h'
  rw [hsnap, h] at h'
  simp only [Option.map_some, Option.some.injEq] at h'
  subst h'
  refine ⟨nameArguments_length gs, ?_⟩
  rw [nameArguments_only_names_change]
  have : ∀ g ∈ gs, Goroutine.eraseNames g = g := fun g hg => eraseNames_of_unnamed g (hun gs h g hg)
  calc gs.map Goroutine.eraseNames = gs.map id := List.map_congr_left this
    _ = gs := List.map_id gs

/-- the same through the option gate of `ScanSnapshot` (path guessing off): `NameArguments =
false` returns unnamed goroutines, `true` returns `nameArguments` of them -/
theorem names_gate_opts (o : Opts) (bs : Bytes) (fin : RErr) (hv : o.isValid = true)
    (hg : o.guessPaths = false) (ha : o.analyzeSources = false) :
    scanSnapshotOpts (some o) id id bs fin = .ok (scanSnapshotL o.nameArguments bs fin) := by
  have hpp : postProcess o id id = fun gs => if o.nameArguments then nameArguments gs else gs := by
    funext gs; simp [postProcess, hg, ha]
  simp only [scanSnapshotOpts, hv, Bool.not_true, Bool.false_eq_true, if_false, hpp]
  congr 1
  cases o.nameArguments
  · simp only [Bool.false_eq_true, if_false]
    generalize scanSnapshotL false bs fin = r
    cases r; simp
  · simp only [if_true, scanSnapshotL, Bool.false_eq_true, if_false]
    cases (scanL {} [] [] (specLines bs fin)).s.gs.isEmpty <;> simp

/-! ### 5. The option gate of `ScanSnapshot` -/

/-- `isValid` rejects exactly: `AnalyzeSources` without `GuessPaths`, or a backslash in
`LocalGOROOT` or in one of `LocalGOPATHs` -/
theorem isValid_iff (o : Opts) :
    o.isValid = false ↔
      ((o.analyzeSources = true ∧ o.guessPaths = false) ∨ backslash ∈ o.localGOROOT ∨
        ∃ p ∈ o.localGOPATHs, backslash ∈ p) := by
  -- in terms of the three tests of `isValid` it is a truth table
  rw [← containsBackslash_iff, ← gopathsValid_false_iff, Opts.isValid]
  cases o.guessPaths <;> cases o.analyzeSources <;> cases containsBackslash o.localGOROOT <;> simp

/-- `ScanSnapshot` returns the error "invalid Opts" for exactly the invalid option sets (nil, or
rejected by `isValid`); for every other option set it runs the scan -/
theorem invalid_opts_rejected (opts : Option Opts) (guess augment : List Goroutine → List Goroutine)
    (bs : Bytes) (fin : RErr) :
    (scanSnapshotOpts opts guess augment bs fin = .error .invalidOpts ↔
      (opts = none ∨ ∃ o, opts = some o ∧
        ((o.analyzeSources = true ∧ o.guessPaths = false) ∨ backslash ∈ o.localGOROOT ∨
          ∃ p ∈ o.localGOPATHs, backslash ∈ p))) ∧
    (∀ o, opts = some o → o.isValid = true →
      scanSnapshotOpts opts guess augment bs fin =
        .ok { scanSnapshotL false bs fin with
              snap := (scanSnapshotL false bs fin).snap.map (postProcess o guess augment) }) := by
  constructor
  · cases opts with
    | none => simp [scanSnapshotOpts]
    | some o =>
      simp only [scanSnapshotOpts, reduceCtorEq, Option.some.injEq, false_or, exists_eq_left']
      rw [← isValid_iff]
      cases o.isValid <;> simp
  · intro o ho hv
    subst ho
    simp [scanSnapshotOpts, hv]

/-- at command level: rejected options end `process` at once, with nothing written; the options
`process` builds are valid iff the local GOROOT / GOPATHs carry no backslash -/
theorem process_invalid_opts (cfg : CliCfg) (goroot : Bytes) (gopaths : List Bytes) (fin : RErr)
    (input : Bytes) :
    ((processOpts goroot gopaths).isValid = false ↔ (backslash ∈ goroot ∨ ∃ p ∈ gopaths, backslash ∈ p)) ∧
    ((processOpts goroot gopaths).isValid = false →
      process cfg goroot gopaths fin input = ([], .invalidOpts)) ∧
    ((processOpts goroot gopaths).isValid = true →
      process cfg goroot gopaths fin input = processL cfg fin (processFuel input) input []) := by
  refine ⟨?_, ?_, ?_⟩
  · rw [isValid_iff]
    simp [processOpts, defaultOpts]
  · intro h; simp [process, h]
  · intro h; simp [process, h]

/-! ### Non-vacuity -/

section NonVacuity

/-- two dumps separated by other text (the stream of C07's examples) -/
private def two : Bytes :=
  b!"x\ngoroutine 1 [running]:\nmain.f()\n\t/a.go:1\n\nnext\ngoroutine 2 [select]:\nmain.g()\n\t/b.go:2\nend\n"

/-- the whole command on it: each dump replaced by its rendering, the rest verbatim, exit 0 -/
example : processL {} .eof (processFuel two) two [] =
    (b!"x\n1: running\n    main a.go:1 f()\nnext\n1: select\n    main b.go:2 g()\nend\n", .ok) := by
  decide +kernel

/-- with the banner (GOTRACEBACK unset) -/
example : (processL { showBanner := showBanner [] } .eof (processFuel two) two []).1 =
    b!"x\n" ++ banner ++ b!"1: running\n    main a.go:1 f()\nnext\n" ++ banner ++
      b!"1: select\n    main b.go:2 g()\nend\n" := by
  decide +kernel

example : showBanner b!"single" = true ∧ showBanner b!"all" = false := by decide

/-- the calls of that run: three calls, the pieces of `process_conservation` written out -/
example : (scanAll (processFuel two) (specLines two .eof)).map
      (fun c => (fwdLines c, (withheldLines c).length, processedBytes c)) =
    [(b!"x\n", 4, b!"x\ngoroutine 1 [running]:\nmain.f()\n\t/a.go:1\n\n"),
     (b!"next\n", 3, b!"next\ngoroutine 2 [select]:\nmain.g()\n\t/b.go:2\n"),
     (b!"end\n", 0, b!"end\n")] := by
  decide +kernel

/-- the hypothesis of `process_conservation` holds on it -/
example : (processL {} .eof (processFuel two) two []).2 = .ok := by decide +kernel

/-- the hypothesis of `call_forwarded_then_withheld` holds on the lines of the whole stream -/
example : ∀ ev ∈ traceL {} (specLines two .eof), ev.withheld = true → ev.post.st ≠ .gotRaceHeader1 := by
  decide +kernel

/-- a stream that ends in a reader failure: same output, the failure is returned -/
example : processL {} (.other 7) (processFuel two) two [] =
    (b!"x\n1: running\n    main a.go:1 f()\nnext\n1: select\n    main b.go:2 g()\nend\n",
     .failed (.reader (.other 7))) := by
  decide +kernel

/-- a parse error (documented behaviour: after a "stack unavailable" line only a blank or `created by`
line is accepted; here a foreign line follows directly): the snapshot is
still rendered, the offending line and what follows it are written, the status is the error -/
private def unav : Bytes :=
  b!"pre\ngoroutine 1 [running]:\n\tgoroutine running on other thread; stack unavailable\nexit status 2\nmore\n"

example : processL {} .eof (processFuel unav) unav [] =
    (b!"pre\n1: running\n     :0 ()\nexit status 2\nmore\n", .failed (.parse .emptyAfterUnavail)) := by
  decide +kernel

/-- a race report goes through `writeGoroutines`, without aggregation -/
private def race : Bytes :=
  b!"==================\nWARNING: DATA RACE\nRead at 0x00c000012345 by goroutine 7:\n  main.f()\n      /a.go:1 +0x1\n\nPrevious write at 0x00c000012345 by goroutine 6:\n  main.g()\n      /a.go:2 +0x2\n\nGoroutine 7 (running) created at:\n  main.h()\n      /a.go:3 +0x3\n\nGoroutine 6 (finished) created at:\n  main.h()\n      /a.go:4 +0x4\n==================\nafter\n"

example : processL {} .eof (processFuel race) race [] =
    (b!"7: running [Created by main.h @ a.go:3] Race read @ 0xc000012345\n    main a.go:1 f()\n6: finished [Created by main.h @ a.go:4] Race write @ 0xc000012345\n    main a.go:2 g()\nafter\n",
     .ok) := by
  decide +kernel

/-- K1 at command level: a lone separator line disappears from the output, exit 0 -/
example : processL {} .eof 5 b!"hello\n==================\nworld\n" [] = (b!"hello\nworld\n", .ok) := by
  decide +kernel

/-- the hypothesis of `process_identity_without_dump` is satisfiable -/
example : processL {} .eof (processFuel b!"hello\nworld") b!"hello\nworld" [] = (b!"hello\nworld", .ok) :=
  process_identity_without_dump {} _ (by decide +kernel)

/-- the fuel is needed: one unit short of the number of calls runs out -/
example : (processL {} .eof 2 two []).2 = .outOfFuel ∧ (processL {} .eof 3 two []).2 = .ok := by
  decide +kernel

/-- the gate: naming off leaves the recurring pointer unnamed, naming on names it `#1`, and the
command prints the name -/
private def ptrs : Bytes := b!"goroutine 1 [running]:\nmain.f(0xc000012340, 0xc000012340, 0x5)\n\t/a.go:1\n"

example : (scanSnapshotL false ptrs .eof).snap.map
      (·.map (fun g => g.sig.stack.calls.map (fun c => (argsString c.args, Arg.unnamedL c.args.values)))) =
    some [[(b!"0xc000012340, 0xc000012340, 5", true)]] := by decide +kernel
example : (scanSnapshotL true ptrs .eof).snap.map
      (·.map (fun g => g.sig.stack.calls.map (fun c => (argsString c.args, Arg.unnamedL c.args.values)))) =
    some [[(b!"#1, #1, 5", false)]] := by decide +kernel
example : (processL {} .eof (processFuel ptrs) ptrs []).1 = b!"1: running\n    main a.go:1 f(#1, #1, 5)\n" := by
  decide +kernel
example : Arg.unnamed (.scalar b!"#1" 1 true false false) = false ∧
    Arg.unnamed (.agg [.scalar [] 1 true false false] true) = true := by decide

/-- the option gate: the three ways to be invalid, and the options `process` builds -/
example : Opts.isValid { analyzeSources := true } = false ∧
    Opts.isValid { localGOROOT := b!"C:\\Go" } = false ∧
    Opts.isValid { localGOPATHs := [b!"/home/u/go", b!"a\\b"] } = false ∧
    Opts.isValid (defaultOpts b!"/usr/lib/go" [b!"/home/u/go"]) = true ∧
    Opts.isValid (processOpts b!"/usr/lib/go" [b!"/home/u/go"]) = true := by decide
example : process {} b!"C:\\Go" [] .eof two = ([], .invalidOpts) := by decide +kernel
example : scanSnapshotOpts none id id two .eof = .error .invalidOpts := rfl

end NonVacuity

end PP.Cli

#print axioms PP.Cli.process_terminates
#print axioms PP.Cli.process_fuel_irrelevant
#print axioms PP.Cli.process_total
#print axioms PP.Cli.render_no_panic
#print axioms PP.Cli.isRace_nil
#print axioms PP.Cli.process_trace
#print axioms PP.Cli.process_conservation_any
#print axioms PP.Cli.process_conservation
#print axioms PP.Cli.call_forwarded_then_withheld
#print axioms PP.Cli.process_identity_without_dump
#print axioms PP.Cli.process_identity_without_dump_fin
#print axioms PP.Cli.process_exit_status
#print axioms PP.Cli.last_call_any_delivery
#print axioms PP.Cli.scan_step_unnamed
#print axioms PP.Cli.parseArgs_unnamed'
#print axioms PP.Cli.scanner_never_names
#print axioms PP.Cli.eraseNames_of_unnamed
#print axioms PP.Cli.names_gate
#print axioms PP.Cli.names_gate_opts
#print axioms PP.Cli.isValid_iff
#print axioms PP.Cli.invalid_opts_rejected
#print axioms PP.Cli.process_invalid_opts
