import PP.Lemmas.ScanInv
import PP.Lemmas.ScanLoop
import PP.Lemmas.ScanWF
import PP.Lemmas.FuncInitLemmas
import PP.Lemmas.AggSafe
import PP.Props.C09
import PP.Props.C13
/-
C03 — total robustness: no input can make the scanner, `Func.Init`, the
ScanSnapshot loop or `Aggregate` panic, and the loop terminates within the fuel
built into the model.  The lemmas the statements rest on are in
`PP/Lemmas/ScanInv.lean` (invariant; `scan_stepOK`, one case per scanner state),
`ScanLoop.lean`, `ScanWF.lean`, `FuncInitLemmas.lean`, `AggSafe.lean`.

The invariant (`PP.Inv`, defined in `ScanInv.lean`):
  `Inv s := InvAt s.st s.gs s.gi ∧ FirstOK s.gs` where
  * `InvAt` ties the state to the structure the Go code indexes into:
    `looking`/`gotRaceHeader1`/`gotRaceHeader2`: `gs = []`;
    `gotFunc`/`gotRaceOperationFunc`: `gs` has a last goroutine whose `Stack.Calls ≠ []`;
    `gotCreated`: the last goroutine has `CreatedBy.Calls ≠ []`;
    `gotRaceGoroutineHeader`/`File`: `gi < len(gs)`; `gotRaceGoroutineFunc`: moreover
    `gs[gi].CreatedBy.Calls ≠ []`; `done`: nothing; every other state: `gs ≠ []`.
  * `FirstOK gs`: `gs` is empty, or its head has `first = true` and no other element has
    (in every state, race states included).
-/
namespace PP
open Bytes

/-! ### 1. Invariant and step safety -/

theorem inv_init : Inv ({} : S) := inv_init'

/-- from a state satisfying the invariant, `scan` cannot panic on ANY `Line` record
(not only those `classify` produces), and re-establishes the invariant -/
theorem scan_safe (s : S) (l : Line) (h : Inv s) :
    ∃ s' p e, scan s l = .ok (s', p, e) ∧ Inv s' :=
  scan_stepOK s l h

theorem scanBytes_safe (s : S) (raw : Bytes) (h : Inv s) :
    ∃ s' p e, scanBytes s raw = .ok (s', p, e) ∧ Inv s' :=
  scan_stepOK s _ h

/-- what the invariant says about `first` -/
theorem inv_first (s : S) (h : Inv s) (i : Nat) (hi : i < s.gs.length) : s.gs[i].first = (i == 0) :=
  firstOK_get s.gs h.2 i hi

/-- no sequence of raw lines fed from the initial state reaches a panic, and only the
first goroutine of the result is marked `first`.  (`feed` = fold of `scanBytes`.)
The index is restricted to `i < gs.length`: beyond it `gs[i]?` is `none`. -/
theorem scan_first_flags (raws : List Bytes) :
    ∃ s', feed {} raws = .ok s' ∧
      ∀ i, i < s'.gs.length → (s'.gs[i]?).map (·.first) = some (i == 0) := by
  obtain ⟨s', h1, hi⟩ := feed_inv {} raws inv_init
  refine ⟨s', h1, fun i hlt => ?_⟩
  simp [hlt, inv_first s' hi i hlt]

/-! ### 2. `Func.Init` never panics -/

/-- the slice expressions `f.Complete[:endPkg]`, `f.Complete[endPkg+1:]` are always in range -/
theorem funcInit_no_slice (raw : Bytes) : funcInit raw ≠ .error .slice :=
  funcInit_ne_slice raw

theorem parseFunc_no_slice (line : Bytes) :
    ∀ c e, parseFunc line = some (c, some e) → e ≠ .funcSlice :=
  fun c e h => parseFunc_ne_funcSlice line c e h

theorem classify_no_slice (pfx raw : Bytes) :
    (classify pfx raw).created ≠ some (.error .funcSlice) ∧
    (∀ c e, (classify pfx raw).func = some (c, some e) → e ≠ .funcSlice) ∧
    (∀ c e, (classify pfx raw).funcL = some (c, some e) → e ≠ .funcSlice) :=
  ⟨classify_created_ne_funcSlice pfx raw, (classify_lineNoSlice pfx raw).1,
    (classify_lineNoSlice pfx raw).2.1⟩

/-- the error `scan` reports for a raw line is never the slice panic -/
theorem scanBytes_err_no_slice (s : S) (raw : Bytes) (s' : S) (p : Bool) (e : Err)
    (h : scanBytes s raw = .ok (s', p, some e)) : e ≠ .funcSlice :=
  scan_err_ne_funcSlice' s _ s' p e (classify_lineNoSlice _ _) h

/-! ### 3. Loop level -/

theorem scanL_no_panic_from (s : S) (fwd : Bytes) (cons : List Bytes)
    (items : List (Bytes × Option RErr)) (h : Inv s) :
    (scanL s fwd cons items).panicked = none ∧ Inv (scanL s fwd cons items).s :=
  scanL_panicked_none s fwd cons items h

theorem scanL_no_panic (items : List (Bytes × Option RErr)) :
    (scanL {} [] [] items).panicked = none :=
  (scanL_no_panic_from {} [] [] items inv_init).1

theorem scanB_no_panic_from (N retry fuel : Nat) (s : S) (fwd : Bytes) (cons : List Bytes) (rd : Rd)
    (h : Inv s) (hb : rd.buf.length ≤ N) (o : OutB)
    (ho : scanB N retry fuel s fwd cons rd = some o) : o.panicked = false ∧ Inv o.s :=
  scanB_not_panicked N retry fuel s fwd cons rd h hb o ho

/-- neither the reader nor the scanner panics, for every capacity, retry bound, schedule -/
theorem scanB_no_panic (N retry fuel : Nat) (src : Src) (o : OutB)
    (ho : scanB N retry fuel {} [] [] { src := src } = some o) : o.panicked = false :=
  (scanB_no_panic_from N retry fuel {} [] [] { src := src } inv_init (by simp) o ho).1

theorem scanSnapshot_no_panic (N retry : Nat) (nameArgs : Bool) (src : Src) (r : ScanResult)
    (h : scanSnapshot N retry nameArgs src = some r) : r.panicked = false := by
  unfold scanSnapshot at h
  split at h
  · cases h
  · rename_i o ho
    cases h
    exact scanB_no_panic N retry _ src o ho

theorem scanSnapshotL_no_panic (nameArgs : Bool) (bs : Bytes) (fin : RErr) :
    (scanSnapshotL nameArgs bs fin).panicked = false := by
  simp [scanSnapshotL, scanL_no_panic]

/-! ### 4. Progress / termination -/

/-- every iteration ends the loop or takes a non-empty line off the stream:
`buf.length + rest.length + 1` iterations suffice from any good reader state -/
theorem scanB_fuel_from (N retry fuel : Nat) (s : S) (fwd : Bytes) (cons : List Bytes) (rd : Rd)
    (hN : 0 < N) (hG : Good N rd) (hR : maxZeroRun rd.src.sched < retry)
    (hf : rd.buf.length + rd.src.rest.length + 1 ≤ fuel) :
    (scanB N retry fuel s fwd cons rd).isSome :=
  scanB_isSome N retry hN fuel s fwd cons rd hG hR hf

/-- the fuel `scanSnapshot` passes (`+ 2`; `+ 1` is already enough) suffices
(`scanSnapshot_total` in `PP/Props/C09b.lean` is the consequence for `scanSnapshot`) -/
theorem scanB_fuel (N retry : Nat) (src : Src) (hN : 0 < N) (hR : maxZeroRun src.sched < retry) :
    (scanB N retry (src.rest.length + 2) {} [] [] { src := src }).isSome :=
  scanB_fuel_from N retry _ {} [] [] { src := src } hN ⟨by simp, Or.inl rfl⟩ hR (by simp)

/-- `scanL` consumes at most one line per item -/
theorem scan_calls_le_lines (s : S) (fwd : Bytes) (cons : List Bytes)
    (items : List (Bytes × Option RErr)) :
    (scanL s fwd cons items).consumed.length ≤ cons.length + items.length := by
  fun_induction scanL s fwd cons items <;> simp_all <;> omega

/-! ### 5. Aggregation totality -/

/-- every merge `Aggregate` performs has matching shapes and every `less` it evaluates stays
in range — for every goroutine list (well-formedness is not needed) -/
theorem aggregate_total (l : Lvl) (gs : List Goroutine) : aggregateSafe l gs = true := by
  simp only [aggregateSafe, aggregateSafe_go, Bool.true_and, List.all_eq_true]
  intro a _ b _
  exact sigLess_safe _ _

/-! ### 6. Parsed arguments and scanned signatures are well-formed -/

theorem parseArgs_wf (line : Bytes) (a : Args) : parseArgs line = .ok a → Arg.WFL a.values = true :=
  parseArgs_wfl line a

/-- `scan` keeps every signature well-formed on any line whose calls are -/
theorem scan_wf_line (s : S) (l : Line) (s' : S) (p : Bool) (e : Option Err)
    (hl : LineWF l) :
    (∀ g ∈ s.gs, g.sig.WF = true) → scan s l = .ok (s', p, e) → ∀ g ∈ s'.gs, g.sig.WF = true :=
  fun hs h => scan_allWF s l s' p e hs hl h

theorem scan_wf (s : S) (raw : Bytes) (s' : S) (p : Bool) (e : Option Err) :
    (∀ g ∈ s.gs, g.sig.WF = true) → scanBytes s raw = .ok (s', p, e) →
    ∀ g ∈ s'.gs, g.sig.WF = true :=
  fun hs h => scanBytes_allWF s raw s' p e hs h

/-- every goroutine of every snapshot the line-level loop returns is well-formed -/
theorem scanL_wf (items : List (Bytes × Option RErr)) :
    ∀ g ∈ (scanL {} [] [] items).s.gs, g.sig.WF = true :=
  scanL_preserves (fun s => AllWF s.gs) (fun s raw s' p e hs h => scanBytes_allWF s raw s' p e hs h)
    {} [] [] items (by intro g hg; simp at hg)

/-- the same through the reader -/
theorem scanB_wf (N retry fuel : Nat) (src : Src) (o : OutB)
    (ho : scanB N retry fuel {} [] [] { src := src } = some o) :
    ∀ g ∈ o.s.gs, g.sig.WF = true :=
  scanB_preserves (fun s => AllWF s.gs) (fun s raw s' p e hs h => scanBytes_allWF s raw s' p e hs h)
    N retry fuel {} [] [] { src := src } (by intro g hg; simp at hg) o ho

/-! ### Non-vacuity -/

/-- a header line leaves `looking` -/
example : (feed {} [b!"goroutine 1 [running]:\n"]).toOption.map (·.st) = some .gotRoutineHeader := by
  decide

/-- two goroutines: the invariant's non-trivial states are reached, flags are `[true, false]` -/
example : (feed {} [b!"goroutine 1 [running]:\n", b!"main.main()\n", b!"\t/tmp/x.go:12 +0x20\n",
      b!"\n", b!"goroutine 2 [running]:\n"]).toOption.map (fun s => (s.st, s.gs.map (·.first))) =
    some (.gotRoutineHeader, [true, false]) := by decide +kernel

/-- `gotFunc` is reached (the state whose `&cur.Stack.Calls[len-1]` needs the invariant) -/
example : (feed {} [b!"goroutine 1 [running]:\n", b!"main.main(0x1, _, {0x2, ...})\n"]).toOption.map
    (fun s => (s.st, s.gs.map (·.sig.stack.calls.length))) = some (.gotFunc, [1]) := by decide +kernel

/-- the race states are reached -/
example : (feed {} [b!"==================\n", b!"WARNING: DATA RACE\n",
      b!"Write at 0x00c000012345 by goroutine 7:\n", b!"  main.f()\n"]).toOption.map (·.st) =
    some .gotRaceOperationFunc := by decide +kernel

/-- without the invariant `scan` does panic: the hypothesis of `scan_safe` is needed -/
example : ∃ l, scan { st := .gotFunc } l = .error .nilCur :=
  ⟨{ hasEOL := true, indentOK := true, empty := false, header := none, sep := false, warn := false,
     unavail := false, func := none, funcL := none, file := none, created := none,
     elidedMark := false, raceOp := none, racePrev := none, raceGor := none }, rfl⟩

/-- `funcInit` with an escaped dot before the package separator: the adjusted `endPkg` is used -/
example : (funcInit b!"a%2eb.c").toOption.map (·.importPath) = some b!"a.b" := by decide
example : (match funcInit b!"a%2" with | .error e => some e | .ok _ => none) = some .escape := by decide

/-- `parseArgs` on a too-large argument and a nested aggregate -/
example : (parseArgs b!"0x1, _, {0x2, ...}").toOption.map (·.values.length) = some 3 := by decide

/-- the loop runs to completion on a small stream, for a tiny buffer -/
example : (scanB 4 100 (b!"goroutine 1 [running]:\nmain.main()\n".length + 2) {} [] []
    { src := { rest := b!"goroutine 1 [running]:\nmain.main()\n", sched := [] } }).map
      (fun o => (o.s.st, o.panicked)) = some (.gotFunc, false) := by decide +kernel

#print axioms inv_init
#print axioms scan_safe
#print axioms scanBytes_safe
#print axioms inv_first
#print axioms scan_first_flags
#print axioms funcInit_no_slice
#print axioms parseFunc_no_slice
#print axioms classify_no_slice
#print axioms scanBytes_err_no_slice
#print axioms scanL_no_panic_from
#print axioms scanL_no_panic
#print axioms scanB_no_panic_from
#print axioms scanB_no_panic
#print axioms scanSnapshot_no_panic
#print axioms scanSnapshotL_no_panic
#print axioms scanB_fuel_from
#print axioms scanB_fuel
#print axioms scan_calls_le_lines
#print axioms aggregate_total
#print axioms parseArgs_wf
#print axioms scan_wf_line
#print axioms scan_wf
#print axioms scanL_wf
#print axioms scanB_wf

end PP
