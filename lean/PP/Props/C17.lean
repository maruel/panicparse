import PP.Lemmas.HtmlDocHref
/-
C17  HTML rendering is injection-safe and complete.

Model: PP/Model/Html.lean (escapers of html/template, URL builders of
stack/html.go, the content division as literals + holes) and
PP/Model/HtmlDoc.lean (the rest of the document: head with the favicon link,
Metadata section, legend, footer).  The escaper pipeline of every hole of the
real template is pinned in PP/Tie/Html.lean.

The docstrings carry the number of the group their theorem belongs to:
(1) text escaping, (2) attribute escaping, (3) URL normalisation, (4) scheme and
host of the links, (5) escaping of URL components by the builders, (6) what lands
in an `href`, (7) text and class holes, (8) completeness of the content division,
(9) the whole document renders, (10) its markup is the template's, (11) the holes
of the Metadata section, (12) the URL holes of the document.
-/
namespace PP.C17
open PP PP.Bytes PP.Html

/-- (1) Text escaping: the output has no `<`, `>`, `"`, `'` or NUL byte, and
every `&` in it starts one of `&amp; &lt; &gt; &#34; &#39; &#43;`. -/
theorem htmlEscaper_safe (s : Bytes) : textSafe (htmlEscaper s) = true := textSafe_htmlReplacer s

/-- (2) Attribute escaping of a plain string: same guarantee; in particular a
double- or single-quoted attribute value cannot be closed. -/
theorem attrEscaper_safe (s : Bytes) : textSafe (attrEscaper s) = true := textSafe_htmlReplacer s

/-- (2') Attribute escaping of a `template.HTML` value (the `class` hole),
inside the modelled fragment of `stripTags`: no `<`, `>`, `"`, `'`, NUL. -/
theorem attrEscaperHTML_safe (s r : Bytes) (h : attrEscaperHTML s = .ok r) :
    r.all (fun c => !isMarkupByte c) = true := by
  unfold attrEscaperHTML stripTags at h
  split at h
  · cases h
  · simp only [Except.map] at h; injection h with h; subst h; exact noMarkup_htmlReplacerNorm s

/-- (3) URL normalisation: every output byte is an ASCII letter or digit or one of
`- . _ ~ ! # $ & * + , / : ; = ? @ [ ] %`. -/
theorem urlNormalizer_safe (s : Bytes) : (urlNormalizer s).all urlSafeByte = true := urlNormalizer_all_safe s

/-- (3') … hence no space, control, non-ASCII byte, quote, `<`, `>`, backtick, backslash or parenthesis. -/
theorem urlSafeByte_excludes (c : UInt8) (h : urlSafeByte c = true) :
    32 < c ∧ c < 127 ∧ c ≠ 34 ∧ c ≠ 39 ∧ c ≠ 60 ∧ c ≠ 62 ∧ c ≠ 96 ∧ c ≠ 92 ∧ c ≠ 40 ∧ c ≠ 41 ∧ isMarkupByte c = false :=
  (byteFacts c).urlSafe h

/-- (4) Fixed scheme and host, for every `Call` (all string fields arbitrary
bytes) and every runtime version: `srcURL` is empty or starts with
`https://github.com/` or `file:///`. -/
theorem scheme_fixed_srcURL (ver : Bytes) (c : Call) (u : Bytes) (h : srcURL ver c = .ok u) :
    u = [] ∨ hasPrefix u b!"https://github.com/" = true ∨ hasPrefix u b!"file:///" = true :=
  startsWithOneOf_src (srcURL_scheme ver c u h)

/-- (4) `pkgURL` is empty or starts with `https://golang.org/pkg/`, `https://godoc.org/` or `https://pkg.go.dev/`. -/
theorem scheme_fixed_pkgURL (ver : Bytes) (c : Call) (u : Bytes) (h : pkgURL ver c = .ok u) :
    u = [] ∨ hasPrefix u b!"https://golang.org/pkg/" = true ∨ hasPrefix u b!"https://godoc.org/" = true ∨
      hasPrefix u b!"https://pkg.go.dev/" = true :=
  startsWithOneOf_pkg (pkgURL_scheme ver c u h)

/-- (4') The builders only fail on a `devel +` runtime version shorter than 17
bytes (the slice expression of html.go:142), never because of dump content. -/
theorem builders_ok (ver : Bytes) (c : Call) (hv : hasPrefix ver develPrefix = false ∨ 17 ≤ ver.length) :
    (∃ u, srcURL ver c = .ok u) ∧ (∃ u, pkgURL ver c = .ok u) :=
  builders_ok' ver c hv

/-- (5, partial) Components are escaped by the builders: every byte of `pkgURL`
is URL-safe unconditionally.  For `srcURL` this holds when the location is the
standard library, or when `RelSrcPath` itself has only URL-safe bytes: the
repository name (`p` of `splitTag(parts[1])`) is copied from `RelSrcPath` into
the github.com link WITHOUT escaping (html.go:161,174); all other components
(owner, tag, file path, local and remote paths, version) are escaped whatever
their bytes.  See `srcURL_raw_component` below for the counterexample to the
unconditional statement. -/
theorem url_components_escaped_partial (ver : Bytes) (c : Call) :
    (∀ u, pkgURL ver c = .ok u → u.all urlSafeByte = true) ∧
    (∀ u, srcURL ver c = .ok u → (c.location = .stdlib ∨ c.relSrcPath.all urlSafeByte = true) →
      u.all urlSafeByte = true) :=
  ⟨fun u h => (pkgURL_built ver c u h).urlSafe (fun _ hp => List.mem_append_right _ hp) trivial,
   fun u h hr => (srcURL_built ver c u h).urlSafe (fun _ hp => List.mem_append_left _ hp) hr⟩

/-- the counterexample: quote, angle brackets and a space reach `srcURL` raw -/
theorem srcURL_raw_component :
    srcURL b!"go1.23.5" { relSrcPath := b!"github.com/u/r\"><img src=x onerror=alert(1)>/f.go", line := 7 } =
      .ok b!"https://github.com/u/r\"><img src=x onerror=alert(1)>/blob/master/f.go#L7" := by decide +kernel

/-- (6) The bytes that land between the quotes of `href="…"` for a
`template.URL` value `v`, whatever `v` is: only URL-safe bytes (no quote, `<`,
`>`, space, control or non-ASCII byte) and every `&` starts a character
reference. -/
theorem href_hole_bytes_safe (v : Bytes) :
    ∃ r, renderHole .href v = .ok r ∧ r.all urlSafeByte = true ∧ ampOK r = true :=
  ⟨_, rfl, hrefHole_all_safe v, ampOK_htmlReplacer _⟩

/-- (6) … and for the source link the rendered value is empty or still starts
with the fixed scheme and host. -/
theorem href_hole_safe_srcURL (ver : Bytes) (c : Call) (u : Bytes) (h : srcURL ver c = .ok u) :
    ∃ r, renderHole .href u = .ok r ∧ r.all urlSafeByte = true ∧ ampOK r = true ∧
      (r = [] ∨ hasPrefix r b!"https://github.com/" = true ∨ hasPrefix r b!"file:///" = true) :=
  ⟨_, rfl, hrefHole_all_safe u, ampOK_htmlReplacer _,
    startsWithOneOf_src (hrefHole_prefix srcSchemes (fun p hp => allSchemes_plain p (List.mem_append_left _ hp)) u (srcURL_scheme ver c u h))⟩

/-- (6) … and for the documentation link the rendered value is empty or still
starts with one of the three documentation hosts. -/
theorem href_hole_safe_pkgURL (ver : Bytes) (c : Call) (u : Bytes) (h : pkgURL ver c = .ok u) :
    ∃ r, renderHole .href u = .ok r ∧ r.all urlSafeByte = true ∧ ampOK r = true ∧
      (r = [] ∨ hasPrefix r b!"https://golang.org/pkg/" = true ∨ hasPrefix r b!"https://godoc.org/" = true ∨
        hasPrefix r b!"https://pkg.go.dev/" = true) :=
  ⟨_, rfl, hrefHole_all_safe u, ampOK_htmlReplacer _,
    startsWithOneOf_pkg (hrefHole_prefix pkgSchemes (fun p hp => allSchemes_plain p (List.mem_append_right _ hp)) u (pkgURL_scheme ver c u h))⟩

/-- (7) A text hole renders any byte string as escaped character data: no dump
text can introduce an element, an attribute or a character reference of its own. -/
theorem text_hole_safe (v : Bytes) : ∃ r, renderHole .text v = .ok r ∧ textSafe r = true :=
  ⟨_, rfl, textSafe_htmlReplacer v⟩

/-- (7') The class hole always receives a `funcClass` value, which has no `<`, so
it renders (inside the modelled fragment) without any markup byte. -/
theorem class_hole_safe (c : Call) :
    ∃ r, renderHole .cls (funcClass c) = .ok r ∧ r.all (fun b => !isMarkupByte b) = true := by
  obtain ⟨r, hr, _⟩ := renderHole_spec .cls (funcClass c) (wf_cls_funcClass c)
  exact ⟨r, hr, attrEscaperHTML_safe _ _ hr⟩

/-- (8) Completeness of `Snapshot.ToHTML`: the content division has one
`<h1>Routine` opener and one stack table per goroutine, one `<tr>` row opener per
frame, one elided row per elided stack. -/
theorem complete_snapshot (ver : Bytes) (gs : List Goroutine) (ps : List Piece)
    (h : contentSnapshot ver gs = .ok ps) :
    (litsOf ps).count Lit.h1Goroutine = gs.length ∧
    (litsOf ps).count Lit.c0 = gs.length ∧
    (litsOf ps).count Lit.c1 = (gs.map fun g => g.sig.stack.calls.length).sum ∧
    (litsOf ps).count Lit.c18 = (gs.filter fun g => g.sig.stack.elided).length := by
  have := goroutineBlocks_spec ver gs ps h
  refine ⟨by simpa using this.headings, by simpa using this.tables, ?_, ?_⟩
  · have := this.rows; simpa [List.map_map, Function.comp_def] using this
  · have := this.elided; simpa [List.filter_map, Function.comp_def] using this

/-- (8) Completeness of `Aggregated.ToHTML`, per bucket. -/
theorem complete_aggregated (ver : Bytes) (bs : List Bucket) (ps : List Piece)
    (h : contentAggregated ver bs = .ok ps) :
    (litsOf ps).count Lit.h1Bucket = bs.length ∧
    (litsOf ps).count Lit.c0 = bs.length ∧
    (litsOf ps).count Lit.c1 = (bs.map fun b => b.sig.stack.calls.length).sum ∧
    (litsOf ps).count Lit.c18 = (bs.filter fun b => b.sig.stack.elided).length := by
  have := bucketBlocks_spec ver bs 0 ps h
  refine ⟨by simpa using this.headings, by simpa using this.tables, ?_, ?_⟩
  · have := this.rows; simpa [List.map_map, Function.comp_def] using this
  · have := this.elided; simpa [List.filter_map, Function.comp_def] using this

/-- (8) One table: exactly `calls.length` row openers (+ the elided row). -/
theorem complete_table (ver : Bytes) (s : Stack) (ps : List Piece) (h : renderCalls ver s = .ok ps) :
    (litsOf ps).count Lit.c1 = s.calls.length ∧ (litsOf ps).count Lit.c18 = (if s.elided then 1 else 0) :=
  let t := renderCalls_spec ver s ps h
  ⟨t.2.1, t.2.2.1⟩

/-- (8') The content division always renders, and the subsequence of markup
bytes (`<`, `>`, `"`, `'`, NUL) of the rendered bytes is exactly that of the
template literals: holes contribute none, so the tag structure of the document
is the template's, repeated per bucket/goroutine/frame as counted above. -/
theorem content_markup_is_template_markup (ver : Bytes) (gs : List Goroutine) (ps : List Piece)
    (h : contentSnapshot ver gs = .ok ps) :
    ∃ r, renderPieces ps = .ok r ∧ markup r = markup (litsOf ps).flatten :=
  renderPieces_spec ps (goroutineBlocks_spec ver gs ps h).wf

theorem content_markup_is_template_markup_aggregated (ver : Bytes) (bs : List Bucket) (ps : List Piece)
    (h : contentAggregated ver bs = .ok ps) :
    ∃ r, renderPieces ps = .ok r ∧ markup r = markup (litsOf ps).flatten :=
  renderPieces_spec ps (bucketBlocks_spec ver bs 0 ps h).wf

/-! ### The whole document: head, Metadata section, legend, footer -/

/-- (9) The whole document renders for every data map — goroutines or buckets,
and every metadata value (arbitrary bytes in the root paths, the map keys and
values, the time and version strings, the favicon and the footer) — unless the
runtime version is a `devel +` one shorter than 17 bytes (html.go:142). -/
theorem doc_renders (d : DocData) (hv : hasPrefix d.ver develPrefix = false ∨ 17 ≤ d.ver.length) :
    ∃ ps r, docPieces d = .ok ps ∧ renderDoc d = .ok r := by
  obtain ⟨ps, hps⟩ := docPieces_ok d hv
  obtain ⟨r, _, hr, _⟩ := renderWithFooter_spec ps d.footer (docPieces_spec d ps hps).2
  exact ⟨ps, _, hps, by rw [renderDoc_eq d ps hps, hr]⟩

/-- (10) The markup bytes (`<`, `>`, `"`, `'`, NUL, in order) of the whole
rendered document are those of the template's literal text nodes written on the
way, then those of the caller's footer (a `template.HTML`, written as is), then
those of the closing text node: neither dump text nor any metadata value
contributes one.  Every literal written is one of the text nodes of the
template (`docLits`; pinned against the extracted template in PP/Tie/Html.lean:
byte for byte, the four long ones — `<meta>` block, style sheet, legend — included). -/
theorem doc_markup_is_template_markup (d : DocData) (ps : List Piece) (h : docPieces d = .ok ps) :
    ∃ r, renderDoc d = .ok r ∧
      markup r = markup (litsOf ps).flatten ++ markup d.footer ++ markup Lit.t54 ∧
      inS docLits (litsOf ps) = true := by
  obtain ⟨hl, hwf⟩ := docPieces_spec d ps h
  obtain ⟨r, _, hr, hm⟩ := renderWithFooter_spec ps d.footer hwf
  exact ⟨_, by rw [renderDoc_eq d ps h, hr], hm, hl⟩

/-- (10') The document is head, content division, Metadata section and legend,
footer, closing node, and the content division is the one of the theorems (8). -/
theorem doc_shape (d : DocData) (ps : List Piece) (h : docPieces d = .ok ps) :
    ∃ c, contentOf d.ver d.body = .ok c ∧ ps = headPieces d.toDocMeta ++ c ++ metaPieces d.ver d.toDocMeta ∧
      renderDoc d = renderWithFooter ps d.footer :=
  let ⟨c, hc, he⟩ := docPieces_eq d ps h
  ⟨c, hc, he, renderDoc_eq d ps h⟩

/-- (11) The holes of the Metadata section: exactly the values `metaVals` (time,
version, GOROOT(s), every GOPATH, every key and value of the go.mod map,
GOMAXPROCS), each in a text hole (escaper `_html_template_htmlescaper`, pinned
by `pin_metadata_holes`); each renders, for arbitrary bytes, without `<`, `>`,
`"`, `'`, NUL and with every `&` starting a character reference; and the rendered
section has the markup bytes of its literals only, every `&` in it a reference. -/
theorem metadata_holes_safe (ver : Bytes) (m : DocMeta) :
    holesOf (metaPieces ver m) = (metaVals ver m).map (fun v => (HoleKind.text, v)) ∧
    (∀ kv ∈ holesOf (metaPieces ver m), kv.1 = .text ∧ ∃ r, renderHole kv.1 kv.2 = .ok r ∧ textSafe r = true) ∧
    ∃ r, renderMeta ver m = .ok r ∧ markup r = markup (litsOf (metaPieces ver m)).flatten ∧ ampOK r = true := by
  refine ⟨metaPieces_holes ver m, ?_, ?_⟩
  · intro kv hkv
    rw [metaPieces_holes, List.mem_map] at hkv
    obtain ⟨v, _, rfl⟩ := hkv
    exact ⟨rfl, _, rfl, textSafe_htmlReplacer v⟩
  · obtain ⟨r, hr, hm⟩ := renderPieces_spec (metaPieces ver m) (metaPieces_wf ver m)
    exact ⟨r, hr, hm, renderPieces_ampOK (fun a ha => (docLitsFacts.edges a (List.mem_append_right _ ha)).2)
      (metaPieces_plain ver m) r hr⟩

/-- (11') every metadata string is among the printed values -/
theorem metadata_complete (ver : Bytes) (m : DocMeta) :
    m.now ∈ metaVals ver m ∧ ver ∈ metaVals ver m ∧ m.remoteGOROOT ∈ metaVals ver m ∧
    (∀ p ∈ m.localGOPATHs, p ∈ metaVals ver m) ∧
    (∀ kv ∈ m.localGomods, kv.1 ∈ metaVals ver m ∧ kv.2 ∈ metaVals ver m) ∧
    natToDec m.gomaxprocs ∈ metaVals ver m :=
  ⟨mem_metaVals.2 (.inl rfl), mem_metaVals.2 (.inr (.inl rfl)),
   mem_metaVals.2 (.inr (.inr (.inl (remoteGOROOT_mem_gorootVals m)))),
   fun _ hp => mem_metaVals.2 (.inr (.inr (.inr (.inl hp)))),
   fun kv hkv => ⟨mem_metaVals.2 (.inr (.inr (.inr (.inr (.inl ⟨kv, hkv, .inl rfl⟩))))),
     mem_metaVals.2 (.inr (.inr (.inr (.inr (.inl ⟨kv, hkv, .inr rfl⟩)))))⟩,
   mem_metaVals.2 (.inr (.inr (.inr (.inr (.inr rfl)))))⟩

/-- (12) The only `data:` URL of the document is the favicon link.  Every
attribute of the template is double-quoted and no hole emits a quote, so an
attribute value starting with `data:` appears in the bytes as `"data:`.  In
everything written before the footer that string occurs exactly once, at the end
of text node 1 (`<link rel="shortcut icon" type="image/gif" href="data:image/gif;base64,`),
and what follows it up to the closing quote is the favicon constant through
`urlnormalizer, attrescaper`; `"javascript:` does not occur at all.  In the whole
document any further occurrence lies in the caller's footer. -/
theorem only_data_url_is_favicon (d : DocData) (ps : List Piece) (h : docPieces d = .ok ps) :
    ∃ r rest, renderPieces ps = .ok r ∧ renderDoc d = .ok (r ++ d.footer ++ Lit.t54) ∧
      r = Lit.t0 ++ Lit.t1 ++ attrEscaper (urlNormalizer d.favicon) ++ Lit.t2 ++ rest ∧
      hasSuffix Lit.t1 b!"<link rel=\"shortcut icon\" type=\"image/gif\" href=\"data:image/gif;base64," = true ∧
      occ b!"\"data:" r = 1 ∧
      occ b!"\"javascript:" r = 0 ∧
      occ b!"\"data:" (r ++ d.footer ++ Lit.t54) = 1 + occ b!"\"data:" (d.footer ++ Lit.t54) ∧
      occ b!"\"javascript:" (r ++ d.footer ++ Lit.t54) = occ b!"\"javascript:" (d.footer ++ Lit.t54) := by
  obtain ⟨hl, hwf⟩ := docPieces_spec d ps h
  obtain ⟨r, hr, hdoc, _⟩ := renderWithFooter_spec ps d.footer hwf
  obtain ⟨rest, hrest⟩ := docPieces_head d ps h r hr
  refine ⟨r, rest, hr, by rw [renderDoc_eq d ps h, hdoc], hrest, docLitsFacts.favicon, ?_, ?_, ?_, ?_⟩
  · have := occ_data_doc d ps h r hr []; rw [List.append_nil] at this; exact this
  · have := occ_javascript_doc d ps h r hr []; rw [List.append_nil] at this; exact this
  · rw [List.append_assoc]; exact occ_data_doc d ps h r hr _
  · rw [List.append_assoc]; exact occ_javascript_doc d ps h r hr _

/-- (12') The URL holes of the document: the favicon, and the links of the
content division, each of which renders to the empty string or to a value that
starts with a fixed `https://…/` or `file:///` prefix. -/
theorem url_holes_fixed_scheme (d : DocData) (ps : List Piece) (h : docPieces d = .ok ps) :
    ∃ rest, (holesOf ps).filter (fun kv => kv.1 == .href) = (.href, d.favicon) :: rest ∧
      ∀ kv ∈ rest, ∃ r, renderHole .href kv.2 = .ok r ∧ startsWithOneOf allSchemes r = true := by
  obtain ⟨c, hc, rfl⟩ := docPieces_eq d ps h
  refine ⟨(holesOf (c ++ metaPieces d.ver d.toDocMeta)).filter (fun kv => kv.1 == .href), ?_,
    hrefs_of_goodHole _ (holesOK_iff.1 (docPieces_holesOK d c hc)).2⟩
  rw [List.append_assoc, holesOf_append, headPieces_holes]
  rfl

/-! ### examples -/

example : htmlEscaper b!"<a href=\"x\">&'+" = b!"&lt;a href=&#34;x&#34;&gt;&amp;&#39;&#43;" := by decide +kernel
example : urlNormalizer b!"a b\"<%zz%41'()" = b!"a%20b%22%3c%25zz%41%27%28%29" := by decide +kernel
example : renderHole .href b!"https://github.com/u/r\"><x/blob/master/f.go#L7" =
    .ok b!"https://github.com/u/r%22%3e%3cx/blob/master/f.go#L7" := by decide +kernel
example : srcURL b!"go1.23.5" { relSrcPath := b!"golang.org/x/net@v0.0.0-20200223170610-d5e6a3e2c0ae/http2/a b.go", line := 3 } =
    .ok b!"https://github.com/golang/net/blob/d5e6a3e2c0ae/http2/a%20b.go#L3" := by decide +kernel
example : pkgURL b!"go1.23.5" { importPath := b!"corp/vendor/github.com/u/r", relSrcPath := b!"github.com/u/r@v1.2.3/f.go", fn := { name := b!"(*T).M<", isExported := true } } = .ok b!"https://pkg.go.dev/github.com/u/r#T.M%3C" := by decide +kernel
example : srcURL b!"devel +abc" { location := .stdlib } = .error .sliceBounds := by decide +kernel
example : ∃ ps, contentSnapshot b!"go1.23.5"
    [{ id := 1, sig := { state := b!"<script>", stack := { calls := [{ fn := { name := b!"<b>" } }, ({} : Call)], elided := true } } },
     { id := 2 }] = .ok ps ∧
    (litsOf ps).count Lit.h1Goroutine = 2 ∧ (litsOf ps).count Lit.c1 = 2 ∧ (litsOf ps).count Lit.c18 = 1 := by
  exact ⟨_, rfl, by decide +kernel⟩

set_option maxRecDepth 100000 in
/-- hostile metadata (`hostileMeta`: `</script><script>…` as GOROOT, `" onmouseover="` in
the local GOROOT, `javascript:` and `data:` in the go.mod map, quotes and a
comment opener as GOPATHs), evaluated: the Metadata list up to the GOMAXPROCS
value; every value is character data -/
example : renderPieces (metaListPieces b!"go1.23.5<" hostileMeta) = .ok (
    Lit.t37 ++ b!"2026-09-29 12:00:00 &#43;0000 UTC" ++ Lit.t38 ++ b!"go1.23.5&lt;" ++ Lit.t39 ++
    Lit.t40 ++ b!"&lt;/script&gt;&lt;script&gt;alert(1)&lt;/script&gt;" ++
    Lit.t41 ++ b!"/usr/local/go&#34; onmouseover=&#34;alert(1)" ++ Lit.t42 ++
    Lit.t45 ++ b!"/home/u/go, &#39; onload=&#39;x, &lt;!--" ++ Lit.t46 ++
    Lit.t47 ++ Lit.t48 ++ b!"javascript:alert(1)" ++ Lit.t49 ++ b!"&lt;img src=x onerror=alert(1)&gt;" ++ Lit.t50 ++
    Lit.t48 ++ b!"/p&amp;q" ++ Lit.t49 ++ b!"data:text/html,&lt;b&gt;" ++ Lit.t50 ++ Lit.t51 ++
    Lit.t52 ++ b!"8") := by decide +kernel
set_option maxRecDepth 100000 in
/-- the same, as readable text -/
example : renderPieces (gorootPieces hostileMeta ++ gomodPieces hostileMeta) = .ok
    b!"<li>GOROOT (remote): &lt;/script&gt;&lt;script&gt;alert(1)&lt;/script&gt;</li>\n<li>GOROOT (local): /usr/local/go&#34; onmouseover=&#34;alert(1)</li><li>go modules (local):\n<ul><li>javascript:alert(1): &lt;img src=x onerror=alert(1)&gt;</li><li>/p&amp;q: data:text/html,&lt;b&gt;</li></ul>\n</li>" := by
  decide +kernel
set_option maxRecDepth 100000 in
/-- the hostile list has exactly the markup bytes of its benign twin (`benignMeta`, same shape) -/
example : (renderPieces (metaListPieces b!"go1.23.5<" hostileMeta)).map markup =
    (renderPieces (metaListPieces b!"go1.23.5" benignMeta)).map markup := by decide +kernel
set_option maxRecDepth 100000 in
/-- no `"javascript:` / `"data:` although both words occur as text -/
example : (renderPieces (metaListPieces b!"go1.23.5<" hostileMeta)).map
    (fun r => (occ b!"\"data:" r, occ b!"\"javascript:" r, occ b!"data:" r, occ b!"javascript:" r)) = .ok (0, 0, 1, 1) := by
  decide +kernel
set_option maxRecDepth 100000 in
/-- GOROOT: one line when the local root is empty or equal, no GOPATH / go.mod items when there are none -/
example : renderPieces (metaListPieces b!"v" { now := b!"t", remoteGOROOT := b!"/r", localGOROOT := b!"/r" }) = .ok
    b!"</div>\n<h2>Metadata</h2>\n<ul>\n<li>Created on t</li>\n<li>v</li><li>GOROOT: /r</li><li>GOPATH: </li><li>GOMAXPROCS: 1" := by
  decide +kernel
/-- a hostile favicon value cannot leave the attribute; the real one only has `+` rewritten -/
example : (faviconHole b!"\"><script>alert(1)</script>").render = .ok b!"%22%3e%3cscript%3ealert%281%29%3c/script%3e" := by
  decide +kernel
example : (faviconHole b!"R0lGOD+/=").render = .ok b!"R0lGOD&#43;/=" := by decide +kernel
/-- whole documents: the hypotheses of (9)–(12) are satisfiable for hostile data -/
example : ∃ ps r, docPieces { hostileMeta with ver := b!"go1.23.5<", body := .snapshot hostileGs } = .ok ps ∧
    renderDoc { hostileMeta with ver := b!"go1.23.5<", body := .snapshot hostileGs } = .ok r :=
  doc_renders _ (Or.inl rfl)
example : ∃ r, renderDoc { hostileMeta with ver := b!"go1.23.5<", body := .aggregated [{ sig := {}, ids := [1, 2], first := true }] } = .ok r ∧
    occ b!"\"data:" r = 1 + occ b!"\"data:" (hostileMeta.footer ++ Lit.t54) := by
  obtain ⟨ps, _, hps, _⟩ := doc_renders { hostileMeta with ver := b!"go1.23.5<", body := .aggregated [{ sig := {}, ids := [1, 2], first := true }] }
    (Or.inl rfl)
  obtain ⟨r, _, _, hd, _, _, _, _, h1, _⟩ := only_data_url_is_favicon _ ps hps
  exact ⟨_, hd, h1⟩
/-- the only failure: a short `devel +` version with a standard-library frame -/
example : renderDoc { ver := b!"devel +abc", body := .snapshot [{ sig := { stack := { calls := [{ location := .stdlib }] } } }] } =
    .error .sliceBounds := by decide +kernel

#print axioms htmlEscaper_safe
#print axioms attrEscaper_safe
#print axioms attrEscaperHTML_safe
#print axioms urlNormalizer_safe
#print axioms urlSafeByte_excludes
#print axioms scheme_fixed_srcURL
#print axioms scheme_fixed_pkgURL
#print axioms builders_ok
#print axioms url_components_escaped_partial
#print axioms srcURL_raw_component
#print axioms href_hole_bytes_safe
#print axioms href_hole_safe_srcURL
#print axioms href_hole_safe_pkgURL
#print axioms text_hole_safe
#print axioms class_hole_safe
#print axioms complete_snapshot
#print axioms complete_aggregated
#print axioms complete_table
#print axioms content_markup_is_template_markup
#print axioms content_markup_is_template_markup_aggregated
#print axioms doc_renders
#print axioms doc_markup_is_template_markup
#print axioms doc_shape
#print axioms metadata_holes_safe
#print axioms metadata_complete
#print axioms only_data_url_is_favicon
#print axioms url_holes_fixed_scheme

end PP.C17
