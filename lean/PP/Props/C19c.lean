import PP.Lemmas.TypeNamesLemmas
import PP.Spec.TypeAst
import PP.Props.C19
/-
C19c  The type names `augmentCall` switches on are the ones
`extractArgumentsType` computes from the declaration.

Model: `PP.TN.name`, `fieldToType`, `extractArgumentsType`
(PP/Model/TypeNames.lean) — stack/source.go:169-262 over a datatype of go/ast
node kinds.  Spec: `PP.Spec.astOf` / `declOf` (PP/Spec/TypeAst.lean),
`PP.Spec.typeName` (PP/Spec/Encode.lean).  With these theorems the hypothesis
of C19 "the type list is `vs.map typeName`" is discharged for every
declaration whose used fields spell the types of `vs`.

Trusted, not modelled: go/parser (which tree a source text yields) and
`getFuncAST` (which declaration is picked for a line); the harness converts
the real `*ast.FuncDecl` and compares (stream e of C19).
-/
namespace PP.Spec
open PP PP.Bytes PP.Aug PP.TN

/-- **Closed form.**  The type names are, for every used field in order, the
field's type name repeated once per name (once for an unnamed field); the
flag is the one of the LAST used field (`false` without any field). -/
theorem extract_eq (d : GoFuncDecl) :
    extractArgumentsType d =
      ((usedFields d).flatMap (fun f => List.replicate (max 1 f.names) (fieldToType f).1),
       match (usedFields d).getLast? with
       | some f => isEllipsis f.typ
       | none => false) := by
  unfold extractArgumentsType
  have hm : (fun f : GoField => List.replicate (mult f) (fieldToType f).1) =
      fun f => List.replicate (max 1 f.names) (fieldToType f).1 := by
    funext f; rw [mult_eq_max]
  rw [recvFields_append, extractLoop_eq, lastFlag_getLast?, hm, List.nil_append]
  rfl

/-- the receiver is used when it is the only receiver field and, parentheses
stripped, a pointer (the other cases: `usedFields_value_receiver`,
`usedFields_receiver_not_single`) -/
theorem usedFields_unparen_pointer_receiver (f : GoField) (x : GoExpr) (ps : List GoField)
    (h : unparen f.typ = .star x) : usedFields ⟨some [f], ps⟩ = f :: ps := by
  simp [usedFields, h]

theorem usedFields_pointer_receiver (f : GoField) (x : GoExpr) (ps : List GoField) (h : f.typ = .star x) :
    usedFields ⟨some [f], ps⟩ = f :: ps :=
  usedFields_unparen_pointer_receiver f x ps (by rw [h]; rfl)

theorem usedFields_value_receiver (f : GoField) (ps : List GoField) (h : ∀ x, unparen f.typ ≠ .star x) :
    usedFields ⟨some [f], ps⟩ = ps := by
  obtain ⟨n, t⟩ := f
  have h' : ∀ x, unparen t ≠ .star x := h
  -- the catch-all equation of the match asks for exactly `h'`, found in the context
  simp only [usedFields]

theorem usedFields_no_receiver (ps : List GoField) : usedFields ⟨none, ps⟩ = ps := rfl

theorem usedFields_receiver_not_single (l : List GoField) (ps : List GoField) (h : l.length ≠ 1) :
    usedFields ⟨some l, ps⟩ = ps := by
  cases l with
  | nil => rfl
  | cons a t =>
    cases t with
    | nil => simp at h
    | cons b t => rfl

/-- the number of type names: every used field counts once per name, an
unnamed field once -/
theorem extract_length (d : GoFuncDecl) :
    (extractArgumentsType d).1.length = ((usedFields d).map (fun f => max 1 f.names)).sum := by
  rw [extract_eq]
  simp [List.length_flatMap]

/-! ### receivers -/

/-- a value receiver `(t T)` (also `(t (T))`) is skipped: the code assumes the
runtime does not print it -/
theorem value_receiver_skipped (f : GoField) (ps : List GoField) (h : ∀ x, unparen f.typ ≠ .star x) :
    extractArgumentsType ⟨some [f], ps⟩ = extractArgumentsType ⟨none, ps⟩ := by
  rw [extract_eq, extract_eq, usedFields_value_receiver f ps h, usedFields_no_receiver]

/-- a pointer receiver `(t *X)` comes first, as `*` followed by the name of
`X`; the flag is the one of the parameters -/
theorem pointer_receiver_first (n : Nat) (x : GoExpr) (ps : List GoField) :
    extractArgumentsType ⟨some [⟨n, .star x⟩], ps⟩ =
      (List.replicate (max 1 n) (b!"*" ++ name x) ++ (extractArgumentsType ⟨none, ps⟩).1,
       (extractArgumentsType ⟨none, ps⟩).2) := by
  show extractLoop ps ([] ++ List.replicate (mult ⟨n, .star x⟩) (b!"*" ++ name x)) false = _
  rw [extractLoop_acc, List.nil_append, mult_eq_max]
  rfl

/-- parentheses around the receiver type do not matter: `(t (T))` is `(t T)`,
`(t ((*T)))` is `(t *T)` -/
theorem paren_receiver (n : Nat) (e : GoExpr) (ps : List GoField) :
    extractArgumentsType ⟨some [⟨n, .paren e⟩], ps⟩ = extractArgumentsType ⟨some [⟨n, e⟩], ps⟩ := by
  show extractLoop ((if isStar (unparen e) then [⟨n, .paren e⟩] else []) ++ ps) [] false =
    extractLoop ((if isStar (unparen e) then [⟨n, e⟩] else []) ++ ps) [] false
  cases isStar (unparen e) <;> rfl

/-- `func (t (*T)) F(…)`: the parenthesised pointer receiver is used exactly
like `(t *T)` (finding F11) -/
theorem paren_receiver_is_pointer_receiver (n : Nat) (x : GoExpr) (ps : List GoField) :
    extractArgumentsType ⟨some [⟨n, .paren (.star x)⟩], ps⟩ =
      (List.replicate (max 1 n) (b!"*" ++ name x) ++ (extractArgumentsType ⟨none, ps⟩).1,
       (extractArgumentsType ⟨none, ps⟩).2) := by
  rw [paren_receiver, pointer_receiver_first]

/-- receiver lists that go/parser accepts but that are not valid Go (`()`,
`(a *T, b *U)`) contribute nothing -/
theorem receiver_not_single_skipped (l ps : List GoField) (h : l.length ≠ 1) :
    extractArgumentsType ⟨some l, ps⟩ = extractArgumentsType ⟨none, ps⟩ := by
  rw [extract_eq, extract_eq, usedFields_receiver_not_single l ps h, usedFields_no_receiver]

/-! ### the ellipsis flag -/

/-- **Quirk.**  `ellipsis` is overwritten by every field: the flag says
whether the LAST used field is variadic, whatever the fields before (go/parser
accepts `func(a ...int, b int)`). -/
theorem ellipsis_is_last_field (d : GoFuncDecl) :
    (extractArgumentsType d).2 =
      match (usedFields d).getLast? with
      | some f => isEllipsis f.typ
      | none => false := by
  rw [extract_eq]

/-- the flag is set only when there is a type name: the combination
`types = []`, `ellipsis = true` on which `augmentCall` would index
`types[-1]` (`mismatch_harmless` of C19) cannot come out of
`extractArgumentsType` -/
theorem flag_needs_type (d : GoFuncDecl) (h : (extractArgumentsType d).2 = true) :
    (extractArgumentsType d).1 ≠ [] := by
  rw [extract_eq] at h ⊢
  cases hu : usedFields d with
  | nil => rw [hu] at h; cases h
  | cons f fs =>
    -- the first used field alone contributes a name
    intro hnil
    rw [List.flatMap_cons, List.append_eq_nil_iff, List.replicate_eq_nil_iff] at hnil
    exact absurd hnil.1 (Nat.ne_of_gt (Nat.le_max_left 1 _))

/-- hence augmentation never panics on a type list computed from a
declaration, whatever the arguments -/
theorem augmentCall_total_decl (ff : FloatFmt) (d : GoFuncDecl) (args : Args) :
    ∃ processed, augmentCall ff (extractArgumentsType d).1 (extractArgumentsType d).2 args = .ok processed := by
  apply augmentCall_total
  cases h : (extractArgumentsType d).2 with
  | false => exact .inr rfl
  | true => exact .inl (flag_needs_type d h)

/-! ### names -/

/-- `a, b T` yields the name of `T` twice, `a, b, c T` three times … -/
theorem grouped_names_repeat (n : Nat) (t : GoExpr) (ps : List GoField) :
    (extractArgumentsType ⟨none, ⟨n + 1, t⟩ :: ps⟩).1 =
      List.replicate (n + 1) (fieldToType ⟨n + 1, t⟩).1 ++ (extractArgumentsType ⟨none, ps⟩).1 := by
  rw [extract_eq, extract_eq, usedFields_no_receiver, usedFields_no_receiver]
  simp only [List.flatMap_cons]
  have : max 1 (n + 1) = n + 1 := by omega
  rw [this]

/-- an unnamed parameter counts once -/
theorem unnamed_counts_once (t : GoExpr) (ps : List GoField) :
    (extractArgumentsType ⟨none, ⟨0, t⟩ :: ps⟩).1 =
      (fieldToType ⟨0, t⟩).1 :: (extractArgumentsType ⟨none, ps⟩).1 := by
  rw [extract_eq, extract_eq, usedFields_no_receiver, usedFields_no_receiver]
  simp [List.flatMap_cons]

theorem name_star (x : GoExpr) : name (.star x) = b!"*" ++ name x := rfl

/-- `name` sees through parentheses: `(int)` is `int`, `*(T)` is `*T` -/
theorem name_paren (x : GoExpr) : name (.paren x) = name x := rfl

/-- a parenthesised parameter type is the type: `a (int16)` is `a int16` -/
theorem fieldToType_paren (n : Nat) (e : GoExpr) : fieldToType ⟨n, .paren e⟩ = fieldToType ⟨n, e⟩ := rfl

/-- a qualified name loses its package: `pkg.T` is `T` -/
theorem name_selector (x : GoExpr) (sel : Bytes) : name (.selector x sel) = sel := rfl

/-! The type name of a slice / pointer / map / channel parameter is the C19
type name built from the `name` of the element expressions, whatever these
expressions are (`[]*T` is `[]` ++ `*T`, `[]pkg.T` is `[]T`, `map[K][]V` is
`map[K]<unknown>` …). -/

theorem fieldToType_slice (n : Nat) (e : GoExpr) (p l c : Nat) :
    fieldToType ⟨n, .arrayType none e⟩ = (typeName (.slice (name e) p l c), false) := rfl

theorem fieldToType_ptr (n : Nat) (e : GoExpr) (a : Nat) :
    fieldToType ⟨n, .star e⟩ = (typeName (.ptr (name e) a), false) := rfl

theorem fieldToType_map (n : Nat) (k v : GoExpr) (a : Nat) :
    fieldToType ⟨n, .mapType k v⟩ = (typeName (.map (name k) (name v) a), false) := rfl

theorem fieldToType_chan (n : Nat) (e : GoExpr) (a : Nat) :
    fieldToType ⟨n, .chanType e⟩ = (typeName (.chan (name e) a), false) := rfl

/-- variadic `...T`: the name of `T`, flag set -/
theorem fieldToType_variadic (n : Nat) (e : GoExpr) :
    fieldToType ⟨n, .ellipsis (some e)⟩ = (name e, true) := rfl

/-! ### the link with C19 -/

/-- **`typeName` is what the code computes.**  For a parameter whose type is
the one of the typed value, written with any number of names. -/
theorem fieldToType_astOf (tv : TV) (n : Nat) : fieldToType ⟨n, astOf tv⟩ = (typeName tv, false) := by
  cases tv <;> rfl

theorem extract_declOf (vs : List TV) : extractArgumentsType (declOf vs) = (vs.map typeName, false) := by
  rw [extract_eq]
  show ((vs.map fun tv => (⟨1, astOf tv⟩ : GoField)).flatMap _, _) = _
  congr 1
  · induction vs with
    | nil => rfl
    | cons a t ih => simp [List.flatMap_cons, fieldToType_astOf, ih]
  · show (match (vs.map fun tv => (⟨1, astOf tv⟩ : GoField)).getLast? with
        | some f => isEllipsis f.typ
        | none => false) = false
    rw [List.getLast?_map]
    cases vs.getLast? with
    | none => rfl
    | some tv =>
      have := fieldToType_astOf tv 1
      rw [Prod.ext_iff, fieldToType_snd] at this
      exact this.2

/-- the type names of any declaration whose used fields, each repeated once
per name, spell the types of `vs` -/
theorem extract_of_paramExprs (d : GoFuncDecl) (vs : List TV)
    (hd : paramExprs (usedFields d) = vs.map astOf) :
    (extractArgumentsType d).1 = vs.map typeName := by
  have h1 : ∀ fs : List GoField,
      fs.flatMap (fun f => List.replicate (max 1 f.names) (fieldToType f).1) =
        (paramExprs fs).map (fun t => (fieldToType ⟨1, t⟩).1) := by
    intro fs
    induction fs with
    | nil => rfl
    | cons a t ih =>
      simp only [paramExprs, List.flatMap_cons, List.map_append, List.map_replicate] at ih ⊢
      rw [ih, mult_eq_max]
      rfl
  rw [extract_eq]
  show (usedFields d).flatMap _ = _
  rw [h1, hd, List.map_map]
  apply List.map_congr_left
  intro tv _
  show (fieldToType ⟨1, astOf tv⟩).1 = typeName tv
  rw [fieldToType_astOf]

/-- **Truthfulness from the declaration (general form).**  `d` is any
declaration — method with a pointer receiver, grouped or unnamed parameters —
whose used fields, each repeated once per name, are the syntax trees of the
types of `vs`.  Augmenting the words the runtime prints for `vs` with what
`extractArgumentsType` computes from `d` renders the VALUES. -/
theorem decode_encode_decl (ff : FloatFmt) (d : GoFuncDecl) (vs : List TV) (h : ∀ tv ∈ vs, tv.InRange)
    (hd : paramExprs (usedFields d) = vs.map astOf) (args : Args) (hv : args.values = encode vs) :
    augmentCall ff (extractArgumentsType d).1 (extractArgumentsType d).2 args = .ok (vs.map (showTV ff)) := by
  rw [extract_of_paramExprs d vs hd]
  exact decode_encode ff vs h _ args hv

/-- **Truthfulness from the declaration.**  `decode_encode` of C19 with the
type list computed, not assumed: for the declaration `func f(p0 T0, p1 T1, …)`
of typed values within range, augmenting the words the runtime prints for
them yields the rendering of the values. -/
theorem decode_encode_ast (ff : FloatFmt) (vs : List TV) (h : ∀ tv ∈ vs, tv.InRange)
    (args : Args) (hv : args.values = encode vs) :
    augmentCall ff (extractArgumentsType (declOf vs)).1 (extractArgumentsType (declOf vs)).2 args =
      .ok (vs.map (showTV ff)) := by
  rw [extract_declOf]
  exact decode_encode ff vs h false args hv

section examples
variable (ff : FloatFmt)

/-- method with pointer receiver, grouped names, `_`, nested star under a
slice with a qualified name, nested slice under a map, directed channel,
array, variadic interface -/
example : extractArgumentsType mixedDecl =
    ([b!"*T", b!"int", b!"int", b!"string", b!"[]*E", b!"map[string]<unknown>", b!"chan int", b!"[4]int",
      b!"interface{}"], true) := rfl

example : usedFields mixedDecl = ⟨1, .star (.ident b!"T")⟩ :: mixedDecl.params := rfl
example : (extractArgumentsType mixedDecl).1.length = 9 := rfl

/-- value receiver skipped, unnamed parameters count once, `...int` is `int`
with the flag -/
example : extractArgumentsType valueRecvDecl = ([b!"int", b!"int"], true) := rfl

/-- generic receiver and parameter, parenthesised type, struct, `[...]int`,
func, `any` -/
example : extractArgumentsType oddDecl =
    ([b!"*<unknown>", b!"<unknown>", b!"int", b!"<unknown>", b!"[...]int", b!"func", b!"any"], false) := by
  rfl

/-- `...` without element (not produced by go/parser for parameters, but the
code path exists): `name(nil)` -/
example : fieldToType ⟨1, .ellipsis none⟩ = (b!"<unknown>", true) := rfl

/-- the flag is the one of the last field only: `func(a ...int, b int)` -/
example : extractArgumentsType ⟨none, [⟨1, .ellipsis (some (.ident b!"int"))⟩, ⟨1, .ident b!"int"⟩]⟩ =
    ([b!"int", b!"int"], false) := rfl

/-- `(a, b *T)`: one receiver field with two names is used twice -/
example : extractArgumentsType ⟨some [⟨2, .star (.ident b!"T")⟩], []⟩ = ([b!"*T", b!"*T"], false) := rfl
/-- `()` and `(a *T, b *U)` -/
example : extractArgumentsType ⟨some [], [⟨1, .ident b!"int"⟩]⟩ = ([b!"int"], false) := rfl
example : extractArgumentsType ⟨some [⟨1, .star (.ident b!"T")⟩, ⟨1, .star (.ident b!"U")⟩], []⟩ = ([], false) := by
  rfl

/-- `func (t (*T)) F(a int8)` (finding F11): the compiler accepts a
parenthesised receiver type (gofmt removes the parentheses) and the runtime
prints the receiver word.  The node is a `*ast.ParenExpr`; `unparen` sees
through it before the `*ast.StarExpr` test.  Without `unparen` the receiver
would be skipped and every value decoded with its neighbour's type. -/
example : extractArgumentsType ⟨some [⟨1, .paren (.star (.ident b!"T"))⟩], [⟨1, .ident b!"int8"⟩]⟩ =
    ([b!"*T", b!"int8"], false) := rfl

/-- parentheses anywhere: receiver `(t (*T))`, `(int8)`, `((*[]int))`,
`[]((pkg.E))`, `(string)` -/
example : extractArgumentsType parenDecl =
    ([b!"*T", b!"int8", b!"*<unknown>", b!"[]E", b!"string"], false) := rfl
example : usedFields parenDecl = ⟨1, .paren (.star (.ident b!"T"))⟩ :: parenDecl.params := rfl
/-- `(t (T))` stays a value receiver, `...(int)` is variadic `int`, `*(T)` is `*T` -/
example : extractArgumentsType ⟨some [⟨1, .paren (.ident b!"T")⟩], [⟨1, .ellipsis (some (.paren (.ident b!"int")))⟩]⟩ =
    ([b!"int"], true) := rfl
example : fieldToType ⟨1, .star (.paren (.ident b!"T"))⟩ = (b!"*T", false) := rfl
example : unparen (.paren (.paren (.star (.paren .other)))) = .star (.paren .other) := rfl

/-- `**int`, `*[]int`, `*pkg.T` -/
example : name (.star (.star (.ident b!"int"))) = b!"**int" := rfl
example : fieldToType ⟨1, .star (.arrayType none (.ident b!"int"))⟩ = (b!"*<unknown>", false) := rfl
example : fieldToType ⟨1, .star (.selector (.ident b!"pkg") b!"T")⟩ = (b!"*T", false) := rfl

/-- every kind of C19 through the declaration -/
example : extractArgumentsType (declOf allKinds) = (allKinds.map typeName, false) := extract_declOf _
example : (extractArgumentsType (declOf allKinds)).1.take 5 = [b!"bool", b!"bool", b!"int8", b!"int16", b!"int32"] := by
  rfl

/-- the method `func (t *T) F(a, b int8, s string)` called on the words
`(0xc000010000, 0xfd, 0x7f, {0x479586, 0x5})` -/
example : augmentCall ff
      (extractArgumentsType ⟨some [⟨1, .star (.ident b!"T")⟩], [⟨2, .ident b!"int8"⟩, ⟨1, .ident b!"string"⟩]⟩).1
      (extractArgumentsType ⟨some [⟨1, .star (.ident b!"T")⟩], [⟨2, .ident b!"int8"⟩, ⟨1, .ident b!"string"⟩]⟩).2
      { values := encode [.ptr b!"T" 0xc000010000, .int .s8 (-3), .int .s8 127, .str 0x479586 5] } =
    .ok [b!"*T(0xc000010000)", b!"-3", b!"127", b!"string(0x479586, len=5)"] :=
  decode_encode_decl ff _ [.ptr b!"T" 0xc000010000, .int .s8 (-3), .int .s8 127, .str 0x479586 5]
    (by decide) rfl _ rfl

example : augmentCall ff (extractArgumentsType (declOf allKinds)).1 (extractArgumentsType (declOf allKinds)).2
      { values := encode allKinds } = .ok (allKinds.map (showTV ff)) :=
  decode_encode_ast ff allKinds (by decide) _ rfl

end examples

end PP.Spec

#print axioms PP.Spec.extract_eq
#print axioms PP.Spec.usedFields_unparen_pointer_receiver
#print axioms PP.Spec.usedFields_pointer_receiver
#print axioms PP.Spec.usedFields_value_receiver
#print axioms PP.Spec.usedFields_no_receiver
#print axioms PP.Spec.usedFields_receiver_not_single
#print axioms PP.Spec.extract_length
#print axioms PP.Spec.value_receiver_skipped
#print axioms PP.Spec.pointer_receiver_first
#print axioms PP.Spec.paren_receiver
#print axioms PP.Spec.paren_receiver_is_pointer_receiver
#print axioms PP.Spec.receiver_not_single_skipped
#print axioms PP.Spec.ellipsis_is_last_field
#print axioms PP.Spec.flag_needs_type
#print axioms PP.Spec.augmentCall_total_decl
#print axioms PP.Spec.grouped_names_repeat
#print axioms PP.Spec.unnamed_counts_once
#print axioms PP.Spec.name_star
#print axioms PP.Spec.name_paren
#print axioms PP.Spec.fieldToType_paren
#print axioms PP.Spec.name_selector
#print axioms PP.Spec.fieldToType_slice
#print axioms PP.Spec.fieldToType_ptr
#print axioms PP.Spec.fieldToType_map
#print axioms PP.Spec.fieldToType_chan
#print axioms PP.Spec.fieldToType_variadic
#print axioms PP.Spec.fieldToType_astOf
#print axioms PP.Spec.extract_declOf
#print axioms PP.Spec.extract_of_paramExprs
#print axioms PP.Spec.decode_encode_decl
#print axioms PP.Spec.decode_encode_ast
