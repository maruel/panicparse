import PP.Lemmas.Greedy
/-
C05: the buckets of `Snapshot.Aggregate` are exactly the similarity classes.
For every valid iteration-order oracle, every level, and every snapshot with
distinct goroutine ids and well-formed signatures (`Signature.WF`: a too-large
`_` argument carries no value / pointer flag / name, as produced by the parser),
two goroutines share a bucket iff their signatures are `similar`, i.e. iff they
have the same reference key.  Hence the partition depends neither on the map
iteration order nor on the order of the goroutines, coarser levels give coarser
partitions, and the signature displayed for a bucket is similar to every member.
-/
namespace PP

theorem same_bucket_iff {π : Oracle} (hπ : ValidOracle π) (l : Lvl) (gs : List Goroutine)
    (hnd : (gs.map (·.id)).Nodup) (hwf : ∀ g ∈ gs, g.sig.WF = true) :
    ∀ g ∈ gs, ∀ h ∈ gs,
      ((∃ b ∈ aggregateWith π l gs, g.id ∈ b.ids ∧ h.id ∈ b.ids) ↔
        Signature.similar l g.sig h.sig = true) := by
  intro g hg h hh
  have hk := bucketLoop_key_similar hπ l gs hnd hwf
  constructor
  · rintro ⟨b, hb, hgi, hhi⟩
    obtain ⟨k, hk', rfl⟩ := (mem_aggregateWith hπ l gs b).1 hb
    simp only [Bkt.toBucket, mem_sortNat] at hgi hhi
    exact Signature.similar_trans l _ _ _
      (Signature.similar_symm l _ _ (hk k hk' g hg hgi)) (hk k hk' h hh hhi)
  · intro hs
    obtain ⟨b, hb, hbi⟩ := bucketLoop_cover hπ l gs g hg
    obtain ⟨c, hc, hci⟩ := bucketLoop_cover hπ l gs h hh
    have hbc : Signature.similar l b.key c.key = true :=
      Signature.similar_trans l _ _ _ (Signature.similar_trans l _ _ _ (hk b hb g hg hbi) hs)
        (Signature.similar_symm l _ _ (hk c hc h hh hci))
    have e := (bucketLoop_dissim hπ l gs hwf).unique hb hc hbc
    subst e
    exact ⟨b.toBucket, (mem_aggregateWith hπ l gs _).2 ⟨b, hb, rfl⟩,
      by simpa [Bkt.toBucket, mem_sortNat] using hbi,
      by simpa [Bkt.toBucket, mem_sortNat] using hci⟩

theorem same_bucket_iff_key {π : Oracle} (hπ : ValidOracle π) (l : Lvl) (gs : List Goroutine)
    (hnd : (gs.map (·.id)).Nodup) (hwf : ∀ g ∈ gs, g.sig.WF = true) :
    ∀ g ∈ gs, ∀ h ∈ gs,
      ((∃ b ∈ aggregateWith π l gs, g.id ∈ b.ids ∧ h.id ∈ b.ids) ↔
        sigKey l g.sig = sigKey l h.sig) := by
  intro g hg h hh
  rw [same_bucket_iff hπ l gs hnd hwf g hg h hh, Signature.similar_iff_key]

/-- the partition depends neither on the iteration order nor on the goroutine order -/
theorem partition_order_independent {π π' : Oracle} (hπ : ValidOracle π) (hπ' : ValidOracle π')
    (l : Lvl) (gs gs' : List Goroutine)
    (hnd : (gs.map (·.id)).Nodup) (hwf : ∀ g ∈ gs, g.sig.WF = true) :
    gs'.Perm gs → ∀ g ∈ gs, ∀ h ∈ gs,
      ((∃ b ∈ aggregateWith π l gs, g.id ∈ b.ids ∧ h.id ∈ b.ids) ↔
        (∃ b ∈ aggregateWith π' l gs', g.id ∈ b.ids ∧ h.id ∈ b.ids)) := by
  intro hp g hg h hh
  have hnd' : (gs'.map (·.id)).Nodup := (hp.map (·.id)).nodup_iff.2 hnd
  have hwf' : ∀ g ∈ gs', g.sig.WF = true := fun g hg => hwf g (hp.mem_iff.1 hg)
  rw [same_bucket_iff hπ l gs hnd hwf g hg h hh,
    same_bucket_iff hπ' l gs' hnd' hwf' g (hp.mem_iff.2 hg) h (hp.mem_iff.2 hh)]

/-- coarser levels give coarser partitions -/
theorem partition_refines {π π' : Oracle} (hπ : ValidOracle π) (hπ' : ValidOracle π')
    (gs : List Goroutine) (hnd : (gs.map (·.id)).Nodup) (hwf : ∀ g ∈ gs, g.sig.WF = true) :
    ∀ g ∈ gs, ∀ h ∈ gs,
      ((∃ b ∈ aggregateWith π .exactFlags gs, g.id ∈ b.ids ∧ h.id ∈ b.ids) →
        (∃ b ∈ aggregateWith π' .exactLines gs, g.id ∈ b.ids ∧ h.id ∈ b.ids)) ∧
      ((∃ b ∈ aggregateWith π .exactLines gs, g.id ∈ b.ids ∧ h.id ∈ b.ids) →
        (∃ b ∈ aggregateWith π' .anyPointer gs, g.id ∈ b.ids ∧ h.id ∈ b.ids)) ∧
      ((∃ b ∈ aggregateWith π .anyPointer gs, g.id ∈ b.ids ∧ h.id ∈ b.ids) →
        (∃ b ∈ aggregateWith π' .anyValue gs, g.id ∈ b.ids ∧ h.id ∈ b.ids)) := by
  intro g hg h hh
  simp only [same_bucket_iff hπ _ gs hnd hwf g hg h hh, same_bucket_iff hπ' _ gs hnd hwf g hg h hh]
  exact ⟨Signature.similar_step .fl _ _, Signature.similar_step .lp _ _,
    Signature.similar_step .pv _ _⟩

/-- the signature displayed for a bucket is similar to the signature of every member -/
theorem bucket_key_similar_members {π : Oracle} (hπ : ValidOracle π) (l : Lvl)
    (gs : List Goroutine) (hnd : (gs.map (·.id)).Nodup) (hwf : ∀ g ∈ gs, g.sig.WF = true) :
    ∀ b ∈ aggregateWith π l gs, ∀ g ∈ gs, g.id ∈ b.ids →
      Signature.similar l b.sig g.sig = true := by
  intro b hb g hg hgi
  obtain ⟨k, hk, rfl⟩ := (mem_aggregateWith hπ l gs b).1 hb
  exact bucketLoop_key_similar hπ l gs hnd hwf k hk g hg (by simpa [Bkt.toBucket, mem_sortNat] using hgi)

/-! ### non-vacuity -/

section Example

/-- a one-frame signature `main.f(arg)` -/
private def sigOf (v : Nat) (ptr : Bool) (line : Nat) : Signature :=
  { state := b!"chan receive",
    stack := { calls := [{ fn := { complete := b!"main.f" },
                           args := { values := [.scalar [] v ptr false false,
                                                .agg [.scalar [] 0 false true false] false] },
                           remoteSrcPath := b!"/src/main.go", line := line }] } }

/-- goroutines 1 and 3 differ only in a pointer value; goroutine 2 sits on another line;
goroutine 7 repeats goroutine 1 -/
private def exGs : List Goroutine :=
  [ { sig := sigOf 0xc000012340 true 10, id := 1, first := true },
    { sig := sigOf 0xc000012340 true 12, id := 2 },
    { sig := sigOf 0xc000099990 true 10, id := 3 },
    { sig := sigOf 0xc000012340 true 10, id := 7 } ]

private theorem exGs_nodup : (exGs.map (·.id)).Nodup := by decide
private theorem exGs_wf : ∀ g ∈ exGs, g.sig.WF = true := by decide

/-- the pointer pair merges at `.anyPointer` … -/
example : (bucketLoop idOracle .anyPointer 0 [] exGs).map (·.ids) = [[1, 3, 7], [2]] := rfl
/-- … but not at `.exactLines` -/
example : (bucketLoop idOracle .exactLines 0 [] exGs).map (·.ids) = [[1, 7], [2], [3]] := rfl
/-- the merged key has its pointer argument starred (names of the scalar arguments) -/
example : (bucketLoop idOracle .anyPointer 0 [] exGs).map
      (fun b => b.key.stack.calls.map (fun c => c.args.values.map
        (fun a => match a with | .scalar n .. => n | .agg .. => []))) =
    [[[star, []]], [[[], []]]] := rfl

example : Signature.similar .anyPointer (sigOf 0xc000012340 true 10) (sigOf 0xc000099990 true 10) = true
    ∧ Signature.similar .exactLines (sigOf 0xc000012340 true 10) (sigOf 0xc000099990 true 10) = false :=
  by decide

/-- the theorems apply: goroutines 1 and 3 share a bucket of `aggregate .anyPointer`,
under the reversed iteration order as well, and do not share one at `.exactLines` -/
example : ∃ b ∈ aggregate .anyPointer exGs, 1 ∈ b.ids ∧ 3 ∈ b.ids :=
  (same_bucket_iff validOracle_id .anyPointer exGs exGs_nodup exGs_wf
    exGs[0] (List.getElem_mem _) exGs[2] (List.getElem_mem _)).2 (by decide)

example : ∃ b ∈ aggregateWith revOracle .anyPointer exGs, 1 ∈ b.ids ∧ 3 ∈ b.ids :=
  (same_bucket_iff validOracle_rev .anyPointer exGs exGs_nodup exGs_wf
    exGs[0] (List.getElem_mem _) exGs[2] (List.getElem_mem _)).2 (by decide)

example : ¬ ∃ b ∈ aggregate .exactLines exGs, 1 ∈ b.ids ∧ 3 ∈ b.ids := fun h =>
  absurd ((same_bucket_iff validOracle_id .exactLines exGs exGs_nodup exGs_wf
    exGs[0] (List.getElem_mem _) exGs[2] (List.getElem_mem _)).1 h) (by decide)

/-- a signature that is not well-formed: a too-large argument carrying a pointer value -/
private def sigBad (v : Nat) : Signature :=
  { stack := { calls := [{ args := { values := [.scalar [] v true true false] } }] } }

/-- `WF` is needed: on a non-well-formed similar pair, `merge` leaves the class of its key
(the code resets IsOffsetTooLarge on a starred argument) -/
example : (sigBad 0xc000012340).WF = false
    ∧ Signature.similar .anyPointer (sigBad 0xc000012340) (sigBad 0xc000099990) = true
    ∧ Signature.similar .anyPointer
        (Signature.merge (sigBad 0xc000012340) (sigBad 0xc000099990)) (sigBad 0xc000012340) = false :=
  by decide

end Example

end PP

#print axioms PP.same_bucket_iff
#print axioms PP.same_bucket_iff_key
#print axioms PP.partition_order_independent
#print axioms PP.partition_refines
#print axioms PP.bucket_key_similar_members
