import PP.Lemmas.Less
/-
C13: the comparator of the bucket order, `Stack.less` / `Signature.less`
(stack.go:574-636, 746-766)
  (a) never indexes out of range,
  (b) is a strict weak order on all inputs (so the sort is well defined),
  (c) puts stdlib-only stacks after any stack with main / module / GOPATH / module-cache frames.
That the buckets of an aggregation come out sorted by it, the bucket of the
crashing goroutine first, is `aggregate_sorted` / `first_bucket_first` in
Props/C06.lean.
-/
namespace PP

/-! ### (a) no index-out-of-range -/

theorem stackLess_total_safe (s r : Stack) : (Stack.less? s r).isSome = true := by
  rw [stackLess?_eq]; rfl

theorem sigLess_safe (s r : Signature) : Signature.lessSafe s r = true := by
  simp [Signature.lessSafe, stackLess_total_safe]

/-! ### (b) strict weak order: Stack.less -/

theorem stackLess_irrefl (a : Stack) : Stack.less a a = false := by
  rw [stackLess_eq]; exact stackCmp_laws.lt_irrefl a

theorem stackLess_asymm (a b : Stack) : Stack.less a b = true → Stack.less b a = false := by
  rw [stackLess_eq, stackLess_eq]; exact stackCmp_laws.lt_asymm a b

theorem stackLess_trans (a b c : Stack) :
    Stack.less a b = true → Stack.less b c = true → Stack.less a c = true := by
  rw [stackLess_eq, stackLess_eq, stackLess_eq]; exact stackCmp_laws.lt_trans a b c

theorem stackLess_incomp_trans (a b c : Stack) :
    Stack.less a b = false → Stack.less b a = false →
    Stack.less b c = false → Stack.less c b = false →
    (Stack.less a c = false ∧ Stack.less c a = false) := by
  simp only [stackLess_eq]; exact stackCmp_laws.lt_incomp_trans a b c

/-! ### (b) strict weak order: Signature.less -/

theorem sigLess_irrefl (a : Signature) : Signature.less a a = false := by
  rw [sigLess_eq]; exact sigCmp_laws.lt_irrefl a

theorem sigLess_asymm (a b : Signature) :
    Signature.less a b = true → Signature.less b a = false := by
  rw [sigLess_eq, sigLess_eq]; exact sigCmp_laws.lt_asymm a b

theorem sigLess_trans (a b c : Signature) :
    Signature.less a b = true → Signature.less b c = true → Signature.less a c = true := by
  rw [sigLess_eq, sigLess_eq, sigLess_eq]; exact sigCmp_laws.lt_trans a b c

theorem sigLess_incomp_trans (a b c : Signature) :
    Signature.less a b = false → Signature.less b a = false →
    Signature.less b c = false → Signature.less c b = false →
    (Signature.less a c = false ∧ Signature.less c a = false) := by
  simp only [sigLess_eq]; exact sigCmp_laws.lt_incomp_trans a b c

/-! ### (c) stdlib-only stacks sort last -/

theorem stdlib_last (a b : Stack) :
    (∀ c ∈ a.calls, c.location = .stdlib ∧ c.fn.isPkgMain = false) →
    a.calls ≠ [] →
    (∃ c ∈ b.calls, c.fn.isPkgMain = true ∨ c.location = .goMod ∨ c.location = .gopath ∨
      c.location = .goPkg) →
    Stack.less b a = true ∧ Stack.less a b = false := by
  intro ha _ hb
  have a0 : countMain a.calls = 0 := countMain_eq_zero _ (fun c hc => (ha c hc).2)
  have az : ∀ loc, loc ≠ .stdlib → countLoc a.calls loc = 0 := fun loc hl =>
    countLoc_eq_zero _ _ fun c hc e => hl (e ▸ (ha c hc).1)
  have hpos : 0 < countMain b.calls ∨ 0 < countLoc b.calls .goMod ∨
      0 < countLoc b.calls .gopath ∨ 0 < countLoc b.calls .goPkg := by
    obtain ⟨c, hc, h⟩ := hb
    exact h.imp (countMain_pos _ c hc) (.imp (countLoc_pos _ _ c hc)
      (.imp (countLoc_pos _ _ c hc) (countLoc_pos _ _ c hc)))
  -- the first of b's four leading counters that is positive meets a zero of a
  have hlt : Stack.less b a = true := by
    simp only [Stack.less, Stack.less?, histo, a0, az .goMod (by decide), az .gopath (by decide),
      az .goPkg (by decide)]
    rw [histoCmp_cons_zero _ _ _ (hpos.imp_right fun h => histoCmp_cons_zero _ _ _
      (h.imp_right fun h => histoCmp_cons_zero _ _ _ (h.imp_right fun h =>
        histoCmp_cons_zero _ _ _ (.inl h))))]
    rfl
  exact ⟨hlt, stackLess_asymm b a hlt⟩

/-! ### examples -/

section Examples

private def exMain : Call := { fn := { complete := b!"main.main", isPkgMain := true }, dirSrc := b!"cmd/main.go", line := 10, location := .goMod }
private def exStd : Call := { fn := { complete := b!"runtime.gopark" }, dirSrc := b!"runtime/proc.go", line := 398, location := .stdlib }
private def exStd2 : Call := { fn := { complete := b!"runtime.gopark" }, dirSrc := b!"runtime/proc.go", line := 399, location := .stdlib }

private def sigMain : Signature := { state := b!"running", stack := { calls := [exMain, exStd] } }
private def sigStd : Signature := { state := b!"chan receive", stack := { calls := [exStd, exStd] } }
private def sigStd2 : Signature := { state := b!"chan receive", stack := { calls := [exStd, exStd2] } }
private def sigStdLocked : Signature := { sigStd with locked := true }
private def sigStdSel : Signature := { sigStd with state := b!"select" }

-- decided by the histogram
example : Signature.less sigMain sigStd = true := rfl
example : Signature.less sigStd sigMain = false := rfl
-- decided by the per-frame loop (line number of the second frame)
example : Signature.less sigStd sigStd2 = true := rfl
-- decided by `locked`
example : Signature.less sigStdLocked sigStd = true := rfl
-- decided by `state`
example : Signature.less sigStd sigStdSel = true := rfl
example : Stack.less sigMain.stack sigStd.stack = true := rfl
example : Stack.less? sigStd.stack sigStd2.stack = some true := rfl
-- the hypotheses of `stdlib_last` are satisfiable
example : Stack.less sigMain.stack sigStd.stack = true ∧ Stack.less sigStd.stack sigMain.stack = false :=
  stdlib_last sigStd.stack sigMain.stack (by decide) (by decide) (by decide)
-- incomparable but different signatures exist (the order is weak, not total)
example : Signature.less sigStd { sigStd with sleepMin := 5 } = false ∧
    Signature.less { sigStd with sleepMin := 5 } sigStd = false := by decide

end Examples

end PP

#print axioms PP.stackLess_total_safe
#print axioms PP.sigLess_safe
#print axioms PP.stackLess_irrefl
#print axioms PP.stackLess_asymm
#print axioms PP.stackLess_trans
#print axioms PP.stackLess_incomp_trans
#print axioms PP.sigLess_irrefl
#print axioms PP.sigLess_asymm
#print axioms PP.sigLess_trans
#print axioms PP.sigLess_incomp_trans
#print axioms PP.stdlib_last
