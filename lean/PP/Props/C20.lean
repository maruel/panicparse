import PP.Lemmas.WebLemmas
import PP.Lemmas.AtoiLemmas
/-
C20 (web handler part): the decision logic of `webstack.SnapshotHandler`, the
integers `strconv.Atoi` accepts for its parameters, and the buffer growth of
`snapshot`.

What the model cannot say (runtime, net/http, scheduling) is exercised by the
harness (`prop_c20.go`) only.
-/
namespace PP
open Bytes

/-! ## 1. decision table -/

theorem handler_status_mem (m mm au si : Bytes) (ok : Bool) :
    handlerStatus m mm au si ok ∈ [200, 400, 405, 500] := by
  rw [handlerStatus_eq]
  split
  · decide
  · exact statusOfGet_mem _ _ _ _

theorem handler_status_405 (m mm au si : Bytes) (ok : Bool) :
    handlerStatus m mm au si ok = 405 ↔ m ≠ b!"GET" := by
  rw [handlerStatus_eq]
  split
  · next h => exact iff_of_true rfl h
  · next h => exact iff_of_false (statusOfGet_ne_405 _ _ _ _) h

/-- 400: a GET whose first invalid parameter, in the code's order (maxmem,
augment, then — only after a successful snapshot — similarity), is reached. -/
theorem handler_status_400 (m mm au si : Bytes) (ok : Bool) :
    handlerStatus m mm au si ok = 400 ↔
      m = b!"GET" ∧
        (maxmemOK mm = false ∨
         (maxmemOK mm = true ∧ augmentOK au = false) ∨
         (maxmemOK mm = true ∧ augmentOK au = true ∧ ok = true ∧ similarityOK si = false)) :=
  (handlerStatus_get_iff (by decide)).trans (and_congr_right' (statusOfGet_400 _ _ _ _))

/-- 500: a GET with valid maxmem and augment whose snapshot failed — whatever
`similarity` says (it is validated after the snapshot). -/
theorem handler_status_500 (m mm au si : Bytes) (ok : Bool) :
    handlerStatus m mm au si ok = 500 ↔
      m = b!"GET" ∧ maxmemOK mm = true ∧ augmentOK au = true ∧ ok = false :=
  (handlerStatus_get_iff (by decide)).trans (and_congr_right' (statusOfGet_500 _ _ _ _))

theorem handler_status_200 (m mm au si : Bytes) (ok : Bool) :
    handlerStatus m mm au si ok = 200 ↔
      m = b!"GET" ∧ maxmemOK mm = true ∧ augmentOK au = true ∧ similarityOK si = true ∧ ok = true :=
  (handlerStatus_get_iff (by decide)).trans (and_congr_right' (statusOfGet_200 _ _ _ _))

/-- valid parameters and a dump that parses ⇒ 200 -/
theorem valid_get_ok (mm au si : Bytes)
    (h1 : maxmemOK mm = true) (h2 : augmentOK au = true) (h3 : similarityOK si = true) :
    handlerStatus b!"GET" mm au si true = 200 :=
  (handler_status_200 _ _ _ _ _).2 ⟨rfl, h1, h2, h3, rfl⟩

/-- an invalid method or any invalid parameter, with a snapshot that succeeded,
is answered 4xx. -/
theorem invalid_is_4xx (m mm au si : Bytes)
    (h : m ≠ b!"GET" ∨ maxmemOK mm = false ∨ augmentOK au = false ∨ similarityOK si = false) :
    handlerStatus m mm au si true = 405 ∨ handlerStatus m mm au si true = 400 := by
  have table : ∀ a b d, a = false ∨ b = false ∨ d = false → statusOfGet a b true d = 400 := by decide
  rw [handlerStatus_eq]
  split
  · exact .inl rfl
  · next hm => exact .inr (table _ _ _ (h.resolve_left hm))

/-- invalid method, maxmem or augment are answered 4xx whatever the snapshot does
(they are checked before it). -/
theorem invalid_before_snapshot_is_4xx (m mm au si : Bytes) (ok : Bool)
    (h : m ≠ b!"GET" ∨ maxmemOK mm = false ∨ augmentOK au = false) :
    handlerStatus m mm au si ok = 405 ∨ handlerStatus m mm au si ok = 400 := by
  have table : ∀ a b c d, a = false ∨ b = false → statusOfGet a b c d = 400 := by decide
  rw [handlerStatus_eq]
  split
  · exact .inl rfl
  · next hm => exact .inr (table _ _ _ _ (h.resolve_left hm))

/-- the order quirk: an invalid `similarity` together with a failed snapshot is
answered 500, not 400 — `similarity` is validated after `snapshot` returns. -/
theorem invalid_similarity_failed_snapshot_is_500 (mm au si : Bytes)
    (h1 : maxmemOK mm = true) (h2 : augmentOK au = true) (_h3 : similarityOK si = false) :
    handlerStatus b!"GET" mm au si false = 500 :=
  (handler_status_500 _ _ _ _ _).2 ⟨rfl, h1, h2, rfl⟩

/-- options reach `snapshot` / `Aggregate` exactly when the three parameters are
valid. -/
theorem handler_opts_some (mm au si : Bytes) :
    (handlerOpts mm au si).isSome = (maxmemOK mm && augmentOK au && similarityOK si) := by
  rw [← parseMaxmem_isSome, ← parseAugment_isSome, ← parseSimilarity_isSome]
  unfold handlerOpts handlerPlan
  cases parseMaxmem mm <;> cases parseAugment au <;> cases parseSimilarity si <;> rfl

/-- what reaches `snapshot` on a 200: `augment` 0 switches source analysis off,
anything else accepted leaves it on; an empty `maxmem` is 64 MiB. -/
theorem handler_opts_analyze (mm au si : Bytes) (p : WebPlan) (l : Lvl)
    (h : handlerOpts mm au si = some (p, l)) :
    p.analyzeSources = !(atoi au == some 0) ∧
    p.maxmem = (if mm = [] then 64 * 2 ^ 20 else (atoi mm).getD 0) := by
  obtain ⟨h1, h2⟩ := (handlerPlan_eq_ok ..).1 ((handlerOpts_eq_some ..).1 h).1
  refine ⟨parseAugment_eq_some h2, ?_⟩
  unfold parseMaxmem at h1
  by_cases he : mm = []
  · rw [if_pos he]; rw [if_pos (beq_iff_eq.2 he)] at h1; exact (Option.some.inj h1).symm
  · rw [if_neg he]; rw [if_neg (mt beq_iff_eq.1 he)] at h1; rw [h1]; rfl

/-- what reaches `Aggregate` on a 200: the level follows the spelling of
`similarity`, empty meaning `anypointer`. -/
theorem handler_opts_level (mm au si : Bytes) (p : WebPlan) (l : Lvl)
    (h : handlerOpts mm au si = some (p, l)) :
    (si = b!"exactflags" → l = .exactFlags) ∧ (si = b!"exactlines" → l = .exactLines) ∧
    (si = b!"anypointer" ∨ si = [] → l = .anyPointer) ∧ (si = b!"anyvalue" → l = .anyValue) := by
  have hs := ((handlerOpts_eq_some ..).1 h).2
  refine ⟨?_, ?_, ?_, ?_⟩
  · rintro rfl; exact (Option.some.inj hs).symm
  · rintro rfl; exact (Option.some.inj hs).symm
  · rintro (rfl | rfl) <;> exact (Option.some.inj hs).symm
  · rintro rfl; exact (Option.some.inj hs).symm

/-! ## 2. the integers `strconv.Atoi` accepts -/

theorem atoi_zero : atoi b!"0" = some 0 := by decide +kernel
theorem atoi_one : atoi b!"1" = some 1 := by decide +kernel

/-- `strconv.Atoi` (fast path and `ParseInt` path together) accepts exactly: an
optional sign, one or more ASCII digits, value within int64; nothing else — no
spaces, no underscores (base 10 is explicit), no base prefixes, no exponent. -/
theorem atoi_accepts (s : Bytes) (z : Int) :
    atoi s = some z ↔
      ∃ sg d, s = sg ++ d ∧ d ≠ [] ∧ d.all isDigit = true ∧
        ((sg = [] ∧ z = digitsVal d ∧ digitsVal d < 2 ^ 63) ∨
         (sg = b!"+" ∧ z = digitsVal d ∧ digitsVal d < 2 ^ 63) ∨
         (sg = b!"-" ∧ z = -(digitsVal d : Int) ∧ digitsVal d ≤ 2 ^ 63)) := by
  rw [atoi_eq_spec]
  constructor
  · intro h
    match s with
    | c :: t =>
      by_cases h45 : c = 45
      · subst h45
        obtain ⟨⟨hne, hall⟩, hr, hz⟩ := (atoiSpec_minus t z).1 h
        exact ⟨[45], t, rfl, hne, hall, .inr (.inr ⟨rfl, hz.symm, hr⟩)⟩
      by_cases h43 : c = 43
      · subst h43
        obtain ⟨⟨hne, hall⟩, hr, hz⟩ := (atoiSpec_plus t z).1 h
        exact ⟨[43], t, rfl, hne, hall, .inr (.inl ⟨rfl, hz.symm, hr⟩)⟩
      · obtain ⟨hall, hr, hz⟩ := (atoiSpec_unsigned c t h45 h43 z).1 h
        exact ⟨[], c :: t, rfl, List.cons_ne_nil _ _, hall, .inl ⟨rfl, hz.symm, hr⟩⟩
  · rintro ⟨sg, d, rfl, hne, hall, ⟨rfl, hz, hr⟩ | ⟨rfl, hz, hr⟩ | ⟨rfl, hz, hr⟩⟩
    · match d with
      | c :: t =>
        -- a digit is not a sign
        have hc : isDigit c = true := (Bool.and_eq_true _ _ ▸ List.all_cons ▸ hall).1
        exact (atoiSpec_unsigned c t (by rintro rfl; cases hc) (by rintro rfl; cases hc) z).2 ⟨hall, hr, hz.symm⟩
    · exact (atoiSpec_plus d z).2 ⟨⟨hne, hall⟩, hr, hz.symm⟩
    · exact (atoiSpec_minus d z).2 ⟨⟨hne, hall⟩, hr, hz.symm⟩

/-- the value is within Go's `int` -/
theorem atoi_range (s : Bytes) (z : Int) (h : atoi s = some z) : -(2 ^ 63) ≤ z ∧ z < 2 ^ 63 := by
  obtain ⟨sg, d, _, _, _, hc⟩ := (atoi_accepts s z).1 h
  rcases hc with ⟨_, hz, hr⟩ | ⟨_, hz, hr⟩ | ⟨_, hz, hr⟩ <;> omega

/-- the spellings of 0: any of `""`, `+`, `-` followed by one or more `0` -/
theorem atoi_zero_iff (s : Bytes) :
    atoi s = some 0 ↔
      ∃ sg k, (sg = [] ∨ sg = b!"+" ∨ sg = b!"-") ∧ s = sg ++ List.replicate (k + 1) 48 := by
  rw [atoi_accepts]
  constructor
  · rintro ⟨sg, d, hs, hne, hall, hc⟩
    have hv : digitsVal d = 0 := by
      rcases hc with ⟨_, hz, _⟩ | ⟨_, hz, _⟩ | ⟨_, hz, _⟩ <;> omega
    obtain ⟨k, hk⟩ := (digits_zero_iff d).1 ⟨hne, hall, hv⟩
    exact ⟨sg, k, hc.imp And.left (Or.imp And.left And.left), by rw [hs, hk]⟩
  · rintro ⟨sg, k, hsg, hs⟩
    obtain ⟨hne, hall, hv⟩ := (digits_zero_iff (List.replicate (k + 1) 48)).2 ⟨k, rfl⟩
    refine ⟨sg, _, hs, hne, hall, ?_⟩
    rw [hv]
    exact hsg.imp (⟨·, rfl, by decide⟩) (Or.imp (⟨·, rfl, by decide⟩) (⟨·, rfl, by decide⟩))

/-- the spellings of 1: `""` or `+`, any number of `0`, then `1` -/
theorem atoi_one_iff (s : Bytes) :
    atoi s = some 1 ↔
      ∃ sg k, (sg = [] ∨ sg = b!"+") ∧ s = sg ++ (List.replicate k 48 ++ b!"1") := by
  rw [atoi_accepts]
  constructor
  · rintro ⟨sg, d, hs, hne, hall, hc⟩
    have hv : digitsVal d = 1 ∧ (sg = [] ∨ sg = b!"+") := by
      rcases hc with ⟨h, hz, _⟩ | ⟨h, hz, _⟩ | ⟨_, hz, _⟩
      · exact ⟨by omega, Or.inl h⟩
      · exact ⟨by omega, Or.inr h⟩
      · omega
    obtain ⟨k, hk⟩ := (digits_one_iff d).1 ⟨hne, hall, hv.1⟩
    exact ⟨sg, k, hv.2, by rw [hs, hk]⟩
  · rintro ⟨sg, k, hsg, hs⟩
    obtain ⟨hne, hall, hv⟩ := (digits_one_iff (List.replicate k 48 ++ [49])).2 ⟨k, rfl⟩
    refine ⟨sg, _, hs, hne, hall, ?_⟩
    rw [hv]
    exact hsg.imp (⟨·, rfl, by decide⟩) fun h => .inl ⟨h, rfl, by decide⟩

/-- the accepted `augment` values, by definition … -/
theorem augmentOK_iff (s : Bytes) :
    augmentOK s = true ↔ s = [] ∨ atoi s = some 0 ∨ atoi s = some 1 := by
  simp [augmentOK, or_assoc]

/-- … and spelled out: besides `""`, `0` and `1` the handler also accepts
`00`, `+0`, `-0`, `-000`, `01`, `+1`, `+0001`, … but not `-1`, `2`, `1.0`, ` 1`. -/
theorem augment_accepted (s : Bytes) :
    augmentOK s = true ↔
      s = [] ∨
      (∃ sg k, (sg = [] ∨ sg = b!"+" ∨ sg = b!"-") ∧ s = sg ++ List.replicate (k + 1) 48) ∨
      (∃ sg k, (sg = [] ∨ sg = b!"+") ∧ s = sg ++ (List.replicate k 48 ++ b!"1")) := by
  rw [augmentOK_iff, atoi_zero_iff, atoi_one_iff]

theorem augment_accepted_examples :
    ∀ s ∈ [b!"", b!"0", b!"1", b!"00", b!"+0", b!"-0", b!"-000", b!"01", b!"+1", b!"+0001",
           b!"0000000000000000000000000", b!"0000000000000000000000001"],
      augmentOK s = true := by decide +kernel

theorem augment_rejected_examples :
    ∀ s ∈ [b!"2", b!"-1", b!"x", b!"1.0", b!" 1", b!"1 ", b!"+", b!"-", b!"1_", b!"0x1", b!"0b1",
           b!"10", b!"1e0", b!"+-0", b!"--0"],
      augmentOK s = false := by decide +kernel

/-- `maxmem`: any int64, whatever the sign or size (it is clamped afterwards) -/
theorem maxmem_accepted_examples :
    ∀ s ∈ [b!"", b!"0", b!"1", b!"-5", b!"+5", b!"1048576", b!"67108864",
           b!"9223372036854775807", b!"-9223372036854775808", b!"000000000000000000000000005"],
      maxmemOK s = true := by decide +kernel

theorem maxmem_rejected_examples :
    ∀ s ∈ [b!"abc", b!"1e6", b!" 1", b!"1_000", b!"9223372036854775808", b!"-9223372036854775809",
           b!"0x10", b!"1.5", b!"64M"],
      maxmemOK s = false := by decide +kernel

/-! ## 3. `snapshot`: buffer growth

`need i` is the size of the text `runtime.Stack` has to write at its i-th call;
in a live process it changes between calls, so the general statements are about
`growStepsVar`; `growSteps` is the special case of a constant size. -/

theorem clamp_ge (maxmem : Int) : 2 ^ 20 ≤ clampMaxmem maxmem := by
  unfold clampMaxmem minBuf; omega

theorem clamp_eq (maxmem : Int) : clampMaxmem maxmem = max maxmem.toNat (2 ^ 20) := rfl

/-- the first buffer is 1 MiB -/
theorem growVar_first (maxmem : Int) (need : Nat → Nat) :
    (growStepsVar maxmem need).head? = some (2 ^ 20) :=
  growLoop_head _ _ _ _ _

/-- the sizes tried are strictly increasing -/
theorem growVar_increasing (maxmem : Int) (need : Nat → Nat) :
    (growStepsVar maxmem need).Pairwise (· < ·) :=
  growLoop_increasing _ _ _ _ _

/-- every buffer is between 1 MiB and `max maxmem 1MiB` -/
theorem growVar_bound (maxmem : Int) (need : Nat → Nat) :
    ∀ x ∈ growStepsVar maxmem need, 2 ^ 20 ≤ x ∧ x ≤ max maxmem.toNat (2 ^ 20) :=
  growLoop_mem _ _ _ _ _ (clamp_ge maxmem)

/-- `grow_terminates`, quantitatively: the loop (total by well-founded recursion
on `maxmem - len(buf)`) calls `runtime.Stack` at most `log2 (max maxmem 1MiB) - 18`
times, whatever the sizes of the successive dumps. -/
theorem growVar_length (maxmem : Int) (need : Nat → Nat) :
    (growStepsVar maxmem need).length ≤ Nat.log2 (clampMaxmem maxmem) - 18 := by
  have hM := clamp_ge maxmem
  have hne : clampMaxmem maxmem ≠ 0 := by omega
  have hL : 20 ≤ Nat.log2 (clampMaxmem maxmem) := (Nat.le_log2 hne).2 hM
  have hlt := Nat.lt_log2_self (n := clampMaxmem maxmem)
  have := growLoop_length (clampMaxmem maxmem) need 0 minBuf (by decide)
    (Nat.log2 (clampMaxmem maxmem) - 19) (by
      have e : minBuf * 2 ^ (Nat.log2 (clampMaxmem maxmem) - 19)
          = 2 ^ (Nat.log2 (clampMaxmem maxmem) + 1) := by
        unfold minBuf
        rw [← Nat.pow_add]
        congr 1
        omega
      rw [e]; omega)
  unfold growStepsVar
  omega

/-- the loop ends either on a buffer that holds the text of that moment
strictly (`n < len(buf)`: the dump is complete) or on the limit (truncated). -/
theorem growVar_last (maxmem : Int) (need : Nat → Nat) :
    ∃ lst, (growStepsVar maxmem need).getLast? = some lst ∧
      (need ((growStepsVar maxmem need).length - 1) < lst ∨ lst = clampMaxmem maxmem) := by
  obtain ⟨lst, h1, h2⟩ := growLoop_last (clampMaxmem maxmem) need 0 minBuf (by decide)
  refine ⟨lst, h1, ?_⟩
  rcases h2 with h2 | h2
  · left; unfold growStepsVar; simpa using h2
  · right
    have := (growLoop_mem (clampMaxmem maxmem) need 0 minBuf (by decide) (clamp_ge maxmem) lst
      (List.mem_of_getLast? h1)).2
    omega

/-- the buffers allocated by one call add up to less than three times the limit
(the doc comment of `SnapshotHandler` says "at least the double"). -/
theorem growVar_total_memory (maxmem : Int) (need : Nat → Nat) :
    (growStepsVar maxmem need).sum + 2 ^ 20 ≤ 3 * clampMaxmem maxmem :=
  growLoop_sum _ _ _ _ _ (clamp_ge maxmem)

/-! constant dump size -/

theorem grow_first (maxmem : Int) (need : Nat) : (growSteps maxmem need).head? = some (2 ^ 20) :=
  growVar_first _ _

theorem grow_increasing (maxmem : Int) (need : Nat) : (growSteps maxmem need).Pairwise (· < ·) :=
  growVar_increasing _ _

theorem grow_bound (maxmem : Int) (need : Nat) :
    ∀ x ∈ growSteps maxmem need, 2 ^ 20 ≤ x ∧ x ≤ max maxmem.toNat (2 ^ 20) :=
  growVar_bound _ _

theorem grow_terminates (maxmem : Int) (need : Nat) :
    (growSteps maxmem need).length ≤ Nat.log2 (max maxmem.toNat (2 ^ 20)) - 18 :=
  growVar_length _ _

/-- with the default `maxmem` (64 MiB) at most 8 buffers (the example below
reaches 7: 1 … 64 MiB) -/
theorem grow_default (need : Nat) : (growSteps defaultMaxmem need).length ≤ 8 := by
  have := grow_terminates defaultMaxmem need
  have e : Nat.log2 (max defaultMaxmem.toNat (2 ^ 20)) = 26 := by decide +kernel
  omega

/-- `fits_complete`: a dump smaller than the limit is captured whole … -/
theorem fits_complete (maxmem : Int) (need : Nat) (h : need < max maxmem.toNat (2 ^ 20)) :
    ∃ lst, (growSteps maxmem need).getLast? = some lst ∧ need < lst := by
  obtain ⟨lst, h1, h2⟩ := growVar_last maxmem (fun _ => need)
  refine ⟨lst, h1, ?_⟩
  rcases h2 with h2 | h2
  · exact h2
  · rw [h2]; exact h

/-- … and a dump that reaches the limit is cut at the limit (what `ScanSnapshot`
then makes of the cut text decides between 500 and a 200 with a partial page). -/
theorem nofit_truncated (maxmem : Int) (need : Nat) (h : max maxmem.toNat (2 ^ 20) ≤ need) :
    (growSteps maxmem need).getLast? = some (max maxmem.toNat (2 ^ 20)) := by
  obtain ⟨lst, h1, h2⟩ := growVar_last maxmem (fun _ => need)
  rcases h2 with h2 | h2
  · have := (growVar_bound maxmem (fun _ => need) lst (List.mem_of_getLast? h1)).2
    omega
  · show (growStepsVar maxmem fun _ => need).getLast? = _
    rw [h1, h2]; rfl

/-! ## 4. fits → complete

When the text fits, what `ScanSnapshot` receives is the whole text the runtime
printed.  From there on the existing properties apply to that text: C01 (one
goroutine per header), C04 `agg_ids_perm` / `agg_ids_disjoint` in
`PP/Props/C04.lean` (every goroutine in exactly one bucket, at every similarity
level), C17 (every bucket on the page).  Nothing is re-proved here. -/

theorem snapshot_input_complete (maxmem : Int) (dump : Bytes)
    (h : dump.length < max maxmem.toNat (2 ^ 20)) : snapshotInput maxmem dump = dump := by
  obtain ⟨lst, h1, h2⟩ := fits_complete maxmem dump.length h
  unfold snapshotInput
  rw [h1]
  exact List.take_of_length_le (by simpa using Nat.le_of_lt h2)

theorem snapshot_input_truncated (maxmem : Int) (dump : Bytes)
    (h : max maxmem.toNat (2 ^ 20) ≤ dump.length) :
    snapshotInput maxmem dump = dump.take (max maxmem.toNat (2 ^ 20)) := by
  unfold snapshotInput
  rw [nofit_truncated maxmem dump.length h]
  rfl

/-! ## non-vacuity -/

example : handlerStatus b!"GET" b!"" b!"" b!"" true = 200 := by decide +kernel
example : handlerStatus b!"GET" b!"-5" b!"+1" b!"anyvalue" true = 200 := by decide +kernel
example : handlerStatus b!"POST" b!"" b!"" b!"" true = 405 := by decide +kernel
example : handlerStatus b!"get" b!"" b!"" b!"" true = 405 := by decide +kernel
example : handlerStatus b!"GET" b!"1_000" b!"" b!"" true = 400 := by decide +kernel
example : handlerStatus b!"GET" b!"" b!"2" b!"" true = 400 := by decide +kernel
example : handlerStatus b!"GET" b!"" b!"" b!"AnyValue" true = 400 := by decide +kernel
example : handlerStatus b!"GET" b!"" b!"" b!"AnyValue" false = 500 := by decide +kernel
example : handlerStatus b!"GET" b!"" b!"2" b!"" false = 400 := by decide +kernel
example : maxmemOK b!"1" = true ∧ augmentOK b!"0" = true ∧ similarityOK b!"exactlines" = true := by decide +kernel
example : handlerOpts b!"" b!"0" b!"anyvalue" = some (⟨64 * 2 ^ 20, false⟩, .anyValue) := by decide +kernel
example : handlerOpts b!"7" b!"01" b!"" = some (⟨7, true⟩, .anyPointer) := by decide +kernel

example : growSteps 0 5 = [2 ^ 20] := by
  simp [growSteps, growStepsVar, growLoop, clampMaxmem, minBuf]
example : growSteps (3 * 2 ^ 20) (2 ^ 30) = [2 ^ 20, 2 ^ 21, 3 * 2 ^ 20] := by
  simp [growSteps, growStepsVar, growLoop, clampMaxmem, minBuf]
example : growSteps defaultMaxmem (5 * 2 ^ 20) = [2 ^ 20, 2 ^ 21, 2 ^ 22, 2 ^ 23] := by
  simp [growSteps, growStepsVar, growLoop, clampMaxmem, minBuf, defaultMaxmem]
example : (growSteps defaultMaxmem (2 ^ 40)).length = 7 := by
  simp [growSteps, growStepsVar, growLoop, clampMaxmem, minBuf, defaultMaxmem]
/-- a dump that shrinks between two calls of `runtime.Stack` -/
example : growStepsVar (4 * 2 ^ 20) (fun i => if i = 0 then 2 ^ 21 else 5) = [2 ^ 20, 2 ^ 21] := by
  simp [growStepsVar, growLoop, clampMaxmem, minBuf]
/-- the length bound is reached for `maxmem = 1 MiB + 1` (two buffers), so
`log2 … - 19` would be false -/
example : (growSteps (2 ^ 20 + 1) (2 ^ 30)).length = 2 ∧
    Nat.log2 (max (2 ^ 20 + 1 : Int).toNat (2 ^ 20)) - 18 = 2 := by
  constructor
  · simp [growSteps, growStepsVar, growLoop, clampMaxmem, minBuf]
  · decide

#print axioms handler_status_mem
#print axioms handler_status_405
#print axioms handler_status_400
#print axioms handler_status_500
#print axioms handler_status_200
#print axioms valid_get_ok
#print axioms invalid_is_4xx
#print axioms invalid_before_snapshot_is_4xx
#print axioms invalid_similarity_failed_snapshot_is_500
#print axioms handler_opts_some
#print axioms handler_opts_analyze
#print axioms handler_opts_level
#print axioms atoi_zero
#print axioms atoi_one
#print axioms atoi_accepts
#print axioms atoi_range
#print axioms atoi_zero_iff
#print axioms atoi_one_iff
#print axioms augmentOK_iff
#print axioms augment_accepted
#print axioms augment_accepted_examples
#print axioms augment_rejected_examples
#print axioms maxmem_accepted_examples
#print axioms maxmem_rejected_examples
#print axioms growVar_first
#print axioms growVar_increasing
#print axioms growVar_bound
#print axioms growVar_length
#print axioms growVar_last
#print axioms growVar_total_memory
#print axioms grow_first
#print axioms grow_increasing
#print axioms grow_bound
#print axioms grow_terminates
#print axioms grow_default
#print axioms fits_complete
#print axioms nofit_truncated
#print axioms snapshot_input_complete
#print axioms snapshot_input_truncated

end PP
